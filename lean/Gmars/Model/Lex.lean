/-
  lex.go: the lexer, as the list of tokens its goroutine sends.

  Lexer state. The Go lexer holds a `bufio.Reader`, the look-ahead `nextRune` and the flag
  `atEOF`. Here the reader is the list `rest` of runes not yet read and the look-ahead is `cur`.
  `next()` on a live lexer:
    * `rest = c :: r`: the look-ahead becomes `c`, the reader `r`, result `(old look-ahead, false)`;
    * `rest = []`: `ReadRune` fails, `atEOF := true`, the look-ahead is left UNCHANGED and the
      result is `(look-ahead, true)` (only `lexText`/`lexNumber` use the returned rune: the last
      rune of the input is appended to the buffer exactly once, on the call that reports eof).
  Every call site of `next()` in lex.go reacts to `eof = true` by sending its pending token (if
  any) and tokEOF and returning the nil state, so the machine never runs with `atEOF` set, with one
  exception: `newLexer` primes the look-ahead with `next()` and ignores the result; on empty input
  that leaves `nextRune = 0`, `atEOF = true`, and `lexInput` then stops on the `'\x00'` case without
  calling `next()` again. Hence the `'\x00', true` branch of `next()` is unreachable, no loop can
  spin on an unchanged look-ahead, and the lexer has neither hangs nor panics: `sends` is a plain
  list (`sends_endsOnce`: it ends with its only tokEOF/tokError token).

  A state function is modelled as a `Step`: the tokens it sends and, if the machine comes back to
  `lexInput`, the lexer state at that point (`none` = the nil state was returned).

  `bytes.Reader` never fails except with io.EOF, and `bufio.Reader.ReadRune` turns every byte
  that does not start a valid UTF-8 sequence into U+FFFD (width 1): `decodeRunes`.
-/
import Gmars.Base.UnicodeTables
import Gmars.Model.Token

namespace Gmars

open Gmars.Unicode

/-! ### utf8.DecodeRune, iterated (what `bufio.Reader.ReadRune` delivers) -/

namespace Utf8

def runeError : Char := Char.ofNat 0xFFFD

/-- continuation byte 0x80..0xBF -/
def isCont (b : UInt8) : Bool := 0x80 ≤ b && b ≤ 0xBF

/-- the range Go's `acceptRanges` allows for the SECOND byte after first byte `b0`
    (excludes overlong forms, surrogates and values above U+10FFFF) -/
def second (b0 b1 : UInt8) : Bool :=
  if b0 == 0xE0 then 0xA0 ≤ b1 && b1 ≤ 0xBF
  else if b0 == 0xED then 0x80 ≤ b1 && b1 ≤ 0x9F
  else if b0 == 0xF0 then 0x90 ≤ b1 && b1 ≤ 0xBF
  else if b0 == 0xF4 then 0x80 ≤ b1 && b1 ≤ 0x8F
  else isCont b1

def low6 (b : UInt8) : Nat := b.toNat % 64

/-- `utf8.DecodeRune` on the non-empty byte string `b0 :: rest`: the rune and its width. A valid
    UTF-8 sequence is one rune; a byte that does not start one (stray continuation byte,
    0xC0/0xC1/0xF5.., bad or missing continuation bytes, overlong form, surrogate, > U+10FFFF)
    is U+FFFD and ONE byte wide -/
def decodeRune (b0 : UInt8) (rest : List UInt8) : Char × Nat :=
  if b0 < 0x80 then (Char.ofNat b0.toNat, 1)
  else if 0xC2 ≤ b0 && b0 ≤ 0xDF then
    match rest with
    | b1 :: _ =>
      if isCont b1 then (Char.ofNat ((b0.toNat % 32) * 64 + low6 b1), 2) else (runeError, 1)
    | _ => (runeError, 1)
  else if 0xE0 ≤ b0 && b0 ≤ 0xEF then
    match rest with
    | b1 :: b2 :: _ =>
      if second b0 b1 && isCont b2 then
        (Char.ofNat ((b0.toNat % 16) * 4096 + low6 b1 * 64 + low6 b2), 3)
      else (runeError, 1)
    | _ => (runeError, 1)
  else if 0xF0 ≤ b0 && b0 ≤ 0xF4 then
    match rest with
    | b1 :: b2 :: b3 :: _ =>
      if second b0 b1 && isCont b2 && isCont b3 then
        (Char.ofNat ((b0.toNat % 8) * 262144 + low6 b1 * 4096 + low6 b2 * 64 + low6 b3), 4)
      else (runeError, 1)
    | _ => (runeError, 1)
  else (runeError, 1)

end Utf8

/-- the runes `bufio.Reader.ReadRune` returns one after the other for a byte string (it decodes
    with `utf8.DecodeRune` once a full rune or the end of input is buffered) -/
def decodeRunes : List UInt8 → List Char
  | [] => []
  | b0 :: rest =>
    let d := Utf8.decodeRune b0 rest
    d.1 :: decodeRunes (rest.drop (d.2 - 1))
termination_by bs => bs.length
decreasing_by simp; omega

namespace Lex

/-- tokens sent by a state function, and the lexer state `(nextRune, unread runes)` with which the
    machine re-enters `lexInput`; `none` = the state function chain ended with the nil state -/
abbrev Step := List Token × Option (Char × List Char)

def eofTok : Token := ⟨.eof, ""⟩

/-- Go's `string(r)` for a rune -/
def runeStr (c : Char) : String := String.singleton c

/-- Go's `string(runeBuf)` for a buffer kept in reverse -/
def bufStr (revBuf : List Char) : String := String.ofList revBuf.reverse

/-- `l.consume(lexInput)`-style tail shared by `consume` and `emitConsume`: call `next()`; on eof send
    tokEOF and stop, otherwise continue with the new look-ahead -/
def consume (rest : List Char) : Step :=
  match rest with
  | [] => ([eofTok], none)
  | c :: r => ([], some (c, r))

/-- `l.emitConsume(tok, lexInput)` -/
def emitConsume (tok : Token) (rest : List Char) : Step :=
  match rest with
  | [] => ([tok, eofTok], none)
  | c :: r => ([tok], some (c, r))

/-- the `for unicode.IsSpace(l.nextRune)` loop of `lexInput` (then `return lexInput`) -/
def spaceLoop (cur : Char) (rest : List Char) : Step :=
  if isSpaceU cur then
    let nl : List Token := if cur == '\n' then [⟨.newline, ""⟩] else []
    match rest with
    | [] => (nl ++ [eofTok], none)
    | c :: r => let (t, s) := spaceLoop c r; (nl ++ t, s)
  else ([], some (cur, rest))

def isTextRune (c : Char) : Bool := isLetterU c || isDigitU c || c == '.' || c == '_'

/-- `lexText`; `buf` is `runeBuf` reversed -/
def lexText (cur : Char) (rest : List Char) (buf : List Char := []) : Step :=
  if isTextRune cur then
    match rest with
    | [] => ([⟨.text, bufStr (cur :: buf)⟩, eofTok], none)
    | c :: r => lexText c r (cur :: buf)
  else ((if buf.isEmpty then [] else [⟨.text, bufStr buf⟩]), some (cur, rest))

/-- second loop and tail of `lexNumber`; `buf` is `numberBuf` reversed. Any rune of category Nd
    counts as a digit and is copied into the token -/
def lexDigits (cur : Char) (rest : List Char) (buf : List Char := []) : Step :=
  if isDigitU cur then
    match rest with
    | [] => ([⟨.number, bufStr (cur :: buf)⟩, eofTok], none)
    | c :: r => lexDigits c r (cur :: buf)
  else ([⟨.number, if buf.isEmpty then "0" else bufStr buf⟩], some (cur, rest))

/-- `lexNumber`: the loop dropping leading ASCII zeros, then `lexDigits` -/
def lexNumber (cur : Char) (rest : List Char) : Step :=
  if cur == '0' then
    match rest with
    | [] => ([⟨.number, "0"⟩, eofTok], none)
    | c :: r => lexNumber c r
  else lexDigits cur rest

/-- `lexComment`; `buf` is `commentBuf` reversed. Everything up to (excluding) the next '\n',
    NUL and ^Z included -/
def lexComment (cur : Char) (rest : List Char) (buf : List Char := []) : Step :=
  if cur != '\n' then
    match rest with
    | [] => ([⟨.comment, bufStr (cur :: buf)⟩, eofTok], none)
    | c :: r => lexComment c r (cur :: buf)
  else ([⟨.comment, bufStr buf⟩], some (cur, rest))

/-- `lexEquals` / `lexPipe` / `lexAnd` for the character `ch` (entered after `consume`):
    doubled → symbol, else tokError whose text quotes the look-ahead and the nil state -/
def lexDouble (ch : Char) (cur : Char) (rest : List Char) : Step :=
  if cur == ch then emitConsume ⟨.symbol, String.ofList [ch, ch]⟩ rest
  else
    ([⟨.error, "expected '" ++ runeStr ch ++ "' after '" ++ runeStr ch ++ "', got '" ++ runeStr cur ++ "'"⟩],
     none)

def lexEquals := lexDouble '='
def lexPipe := lexDouble '|'
def lexAnd := lexDouble '&'

/-- `lexGt` / `lexLt` for `ch` (entered after `consume`) -/
def lexCmp (ch : Char) (cur : Char) (rest : List Char) : Step :=
  if cur == '=' then emitConsume ⟨.symbol, String.ofList [ch, '=']⟩ rest
  else ([⟨.symbol, runeStr ch⟩], some (cur, rest))

def lexGt := lexCmp '>'
def lexLt := lexCmp '<'

/-- `l.consume(next)` for a state function `next` other than `lexInput`: on eof ONLY tokEOF is sent
    (a final `<`, `>`, `=`, `|`, `&` or ^Z yields no token of its own) -/
def consumeThen (next : Char → List Char → Step) (rest : List Char) : Step :=
  match rest with
  | [] => ([eofTok], none)
  | c :: r => next c r

/-- one round of the machine: `lexInput` and the state functions it hands over to, until the
    machine is back at `lexInput` or has stopped -/
def lexInputStep (cur : Char) (rest : List Char) : Step :=
  if isSpaceU cur then spaceLoop cur rest
  else if isLetterU cur || cur == '_' then lexText cur rest
  else if isDigitU cur then lexNumber cur rest
  else if cur == '\x00' then ([eofTok], none)
  else if cur == ';' then lexComment cur rest
  else if cur == ',' then emitConsume ⟨.comma, ","⟩ rest
  else if cur == '(' then emitConsume ⟨.parenL, "("⟩ rest
  else if cur == ')' then emitConsume ⟨.parenR, ")"⟩ rest
  else if cur == '+' || cur == '-' || cur == '*' || cur == '/' || cur == '%' ||
      cur == '$' || cur == '#' || cur == '@' || cur == '{' || cur == '}' then
    emitConsume ⟨.symbol, runeStr cur⟩ rest
  else if cur == '<' then consumeThen lexLt rest
  else if cur == '>' then consumeThen lexGt rest
  else if cur == ':' then emitConsume ⟨.colon, ":"⟩ rest
  else if cur == '=' then consumeThen lexEquals rest
  else if cur == '|' then consumeThen lexPipe rest
  else if cur == '&' then consumeThen lexAnd rest
  else if cur == '\x1a' then consume rest
  else ([⟨.invalid, runeStr cur⟩, eofTok], none)

def isTerminator (t : Token) : Bool := t.typ == .eof || t.typ == .error

/-- exactly one terminating token (tokEOF / tokError), in last position -/
def endsOnce : List Token → Bool
  | [] => false
  | t :: ts => if ts.isEmpty then isTerminator t else !isTerminator t && endsOnce ts

def noTerm (l : List Token) : Bool := l.all (fun t => !isTerminator t)

theorem noTerm_single {t : Token} (h : isTerminator t = false) : noTerm [t] = true := by
  simp [noTerm, h]

theorem endsOnce_single {t : Token} (h : isTerminator t = true) : endsOnce [t] = true := by
  simp [endsOnce, h]

theorem endsOnce_cons_cons {x y : Token} {ys : List Token} :
    endsOnce (x :: y :: ys) = true ↔ isTerminator x = false ∧ endsOnce (y :: ys) = true := by
  simp [endsOnce]

theorem endsOnce_append {a b : List Token} (ha : noTerm a = true) (hb : endsOnce b = true) :
    endsOnce (a ++ b) = true := by
  induction a with
  | nil => exact hb
  | cons x xs ih =>
    obtain ⟨hx, hxs⟩ : isTerminator x = false ∧ noTerm xs = true := by simpa [noTerm] using ha
    have h := ih hxs
    rw [List.cons_append]
    generalize xs ++ b = l at h ⊢
    cases l with
    | nil => exact absurd h (by decide)
    | cons y ys => exact endsOnce_cons_cons.mpr ⟨hx, h⟩

theorem noTerm_append {a b : List Token} (ha : noTerm a = true) (hb : noTerm b = true) :
    noTerm (a ++ b) = true := by
  unfold noTerm at *; rw [List.all_append, ha, hb]; rfl

/-- A state function entered with `n` unread runes. If it stops it has sent exactly one
    terminating token, as its last one, and at most one token per rune (the look-ahead included)
    plus tokEOF. If the machine is back at `lexInput` with `r` unread it has sent no terminating
    token, at most one token per rune read, and has read at least one rune. -/
def Step.Lin (s : Step) (n : Nat) : Prop :=
  match s.2 with
  | none => endsOnce s.1 = true ∧ s.1.length ≤ n + 2
  | some (_, r) => noTerm s.1 = true ∧ s.1.length + r.length ≤ n ∧ r.length < n

theorem Step.Lin.mono {s : Step} {n m : Nat} (h : s.Lin n) (hnm : n ≤ m) : s.Lin m := by
  obtain ⟨t, _ | ⟨c, r⟩⟩ := s
  · exact ⟨h.1, Nat.le_trans h.2 (Nat.add_le_add_right hnm 2)⟩
  · exact ⟨h.1, Nat.le_trans h.2.1 hnm, Nat.lt_of_lt_of_le h.2.2 hnm⟩

theorem Step.Lin.ite {p : Prop} [Decidable p] {a b : Step} {n : Nat}
    (ha : p → a.Lin n) (hb : ¬p → b.Lin n) : (if p then a else b).Lin n := by
  by_cases h : p
  · rw [if_pos h]; exact ha h
  · rw [if_neg h]; exact hb h

theorem consume_lin (rest) : (consume rest).Lin rest.length := by
  cases rest with
  | nil => exact ⟨rfl, by decide⟩
  | cons c r => exact ⟨rfl, Nat.le_succ_of_le (Nat.le_of_eq (Nat.zero_add _)), Nat.lt_succ_self _⟩

theorem emitConsume_lin (tok rest) (h : isTerminator tok = false) :
    (emitConsume tok rest).Lin rest.length := by
  cases rest with
  | nil => exact ⟨endsOnce_append (noTerm_single h) rfl, Nat.le_refl _⟩
  | cons c r => exact ⟨noTerm_single h, Nat.le_of_eq (Nat.add_comm ..), Nat.lt_succ_self _⟩

/-- the white-space loop sends one token per newline it reads -/
theorem spaceLoop_lin (cur rest) (hc : isSpaceU cur = true) :
    (spaceLoop cur rest).Lin rest.length := by
  have hnl : ∀ c : Char, noTerm (if c == '\n' then [⟨.newline, ""⟩] else []) = true ∧
      (if c == '\n' then [(⟨.newline, ""⟩ : Token)] else []).length ≤ 1 := by
    intro c; split <;> exact ⟨rfl, by decide⟩
  induction rest generalizing cur with
  | nil =>
    rw [spaceLoop, if_pos hc]
    exact ⟨endsOnce_append (hnl cur).1 rfl, by
      have := (hnl cur).2; simp only [List.length_append, List.length_cons, List.length_nil]; omega⟩
  | cons x xs ih =>
    rw [spaceLoop, if_pos hc]
    dsimp only
    by_cases hx : isSpaceU x = true
    · have h := ih x hx
      revert h
      rcases spaceLoop x xs with ⟨t, _ | ⟨c, r⟩⟩ <;> intro h
      · exact ⟨endsOnce_append (hnl cur).1 h.1, by
          have := (hnl cur).2; have := h.2
          simp only [List.length_append, List.length_cons] at *; omega⟩
      · exact ⟨noTerm_append (hnl cur).1 h.1, by
          have := (hnl cur).2; have := h.2.1
          simp only [List.length_append, List.length_cons] at *; omega,
          Nat.lt_succ_of_lt h.2.2⟩
    · rw [spaceLoop, if_neg hx]
      exact ⟨noTerm_append (hnl cur).1 rfl, by
        have := (hnl cur).2; simp only [List.length_append, List.length_cons, List.length_nil]; omega,
        Nat.lt_succ_self _⟩

/-- the loops, entered with the look-ahead counted among the `rest.length + 1` unread runes: they
    send one token (two when they stop) -/
theorem lexText_loop (cur rest buf) : (lexText cur rest buf).Lin (rest.length + 1) := by
  fun_induction lexText cur rest buf with
  | case1 => exact ⟨rfl, Nat.le_add_left ..⟩
  | case2 _ _ _ _ _ ih => exact ih.mono (Nat.le_succ _)
  | case3 =>
    exact ⟨by split <;> rfl, by split <;> simp only [List.length_nil, List.length_cons] <;> omega,
      Nat.lt_succ_self _⟩

theorem lexText_lin (cur rest) (hc : isTextRune cur = true) : (lexText cur rest).Lin rest.length := by
  unfold lexText; rw [if_pos hc]
  cases rest with
  | nil => exact ⟨rfl, Nat.le_refl _⟩
  | cons x xs => exact lexText_loop x xs _

theorem lexDigits_loop (cur rest buf) : (lexDigits cur rest buf).Lin (rest.length + 1) := by
  fun_induction lexDigits cur rest buf with
  | case1 => exact ⟨rfl, Nat.le_add_left ..⟩
  | case2 _ _ _ _ _ ih => exact ih.mono (Nat.le_succ _)
  | case3 => exact ⟨rfl, Nat.le_of_eq (Nat.add_comm ..), Nat.lt_succ_self _⟩

theorem lexNumber_loop (cur rest) : (lexNumber cur rest).Lin (rest.length + 1) := by
  fun_induction lexNumber cur rest with
  | case1 => exact ⟨rfl, Nat.le_add_left ..⟩
  | case2 _ _ _ _ ih => exact ih.mono (Nat.le_succ _)
  | case3 => exact lexDigits_loop _ _ _

/-- entered on a digit, so `lexDigits` (reached at once, or after zeros) reads at least one rune -/
theorem lexNumber_lin (cur rest) (hc : isDigitU cur = true) : (lexNumber cur rest).Lin rest.length := by
  unfold lexNumber; split
  · cases rest with
    | nil => exact ⟨rfl, Nat.le_refl _⟩
    | cons x xs => exact lexNumber_loop x xs
  · unfold lexDigits; rw [if_pos hc]
    cases rest with
    | nil => exact ⟨rfl, Nat.le_refl _⟩
    | cons x xs => exact lexDigits_loop x xs _

theorem lexComment_loop (cur rest buf) : (lexComment cur rest buf).Lin (rest.length + 1) := by
  fun_induction lexComment cur rest buf with
  | case1 => exact ⟨rfl, Nat.le_add_left ..⟩
  | case2 _ _ _ _ _ ih => exact ih.mono (Nat.le_succ _)
  | case3 => exact ⟨rfl, Nat.le_of_eq (Nat.add_comm ..), Nat.lt_succ_self _⟩

theorem lexComment_lin (cur rest) (hc : (cur != '\n') = true) :
    (lexComment cur rest).Lin rest.length := by
  unfold lexComment; rw [if_pos hc]
  cases rest with
  | nil => exact ⟨rfl, Nat.le_refl _⟩
  | cons x xs => exact lexComment_loop x xs _

theorem lexDouble_loop (ch cur rest) : (lexDouble ch cur rest).Lin (rest.length + 1) := by
  unfold lexDouble; split
  · exact (emitConsume_lin _ _ rfl).mono (Nat.le_succ _)
  · exact ⟨rfl, Nat.le_add_left ..⟩

theorem lexCmp_loop (ch cur rest) : (lexCmp ch cur rest).Lin (rest.length + 1) := by
  unfold lexCmp; split
  · exact (emitConsume_lin _ _ rfl).mono (Nat.le_succ _)
  · exact ⟨rfl, Nat.le_of_eq (Nat.add_comm ..), Nat.lt_succ_self _⟩

/-- entered after `consume`: the rune consumed pays for the one token `next` may send -/
theorem consumeThen_lin (next : Char → List Char → Step)
    (hn : ∀ cur rest, (next cur rest).Lin (rest.length + 1)) (rest) :
    (consumeThen next rest).Lin rest.length := by
  cases rest with
  | nil => exact ⟨rfl, Nat.le_succ _⟩
  | cons x xs => exact hn x xs

theorem lexInputStep_lin (cur rest) : (lexInputStep cur rest).Lin rest.length := by
  unfold lexInputStep
  refine .ite (spaceLoop_lin _ _) fun _ => ?_
  refine .ite (fun h => lexText_lin _ _ ?_) fun _ => ?_
  · simp only [isTextRune, Bool.or_eq_true] at h ⊢
    rcases h with h | h
    · exact .inl (.inl (.inl h))
    · exact .inr h
  refine .ite (lexNumber_lin _ _) fun _ => ?_
  refine .ite (fun _ => ⟨rfl, Nat.le_add_left 1 _⟩) fun _ => ?_
  refine .ite (fun h => lexComment_lin _ _ ?_) fun _ => ?_
  · rw [eq_of_beq h]; rfl
  refine .ite (fun _ => emitConsume_lin _ _ rfl) fun _ => ?_
  refine .ite (fun _ => emitConsume_lin _ _ rfl) fun _ => ?_
  refine .ite (fun _ => emitConsume_lin _ _ rfl) fun _ => ?_
  refine .ite (fun _ => emitConsume_lin _ _ rfl) fun _ => ?_
  refine .ite (fun _ => consumeThen_lin _ (lexCmp_loop _) _) fun _ => ?_
  refine .ite (fun _ => consumeThen_lin _ (lexCmp_loop _) _) fun _ => ?_
  refine .ite (fun _ => emitConsume_lin _ _ rfl) fun _ => ?_
  refine .ite (fun _ => consumeThen_lin _ (lexDouble_loop _) _) fun _ => ?_
  refine .ite (fun _ => consumeThen_lin _ (lexDouble_loop _) _) fun _ => ?_
  refine .ite (fun _ => consumeThen_lin _ (lexDouble_loop _) _) fun _ => ?_
  exact .ite (fun _ => consume_lin _) fun _ => ⟨rfl, Nat.le_add_left _ _⟩

theorem lexInputStep_shorter (cur rest c r) (h : (lexInputStep cur rest).2 = some (c, r)) :
    r.length < rest.length := by
  have := lexInputStep_lin cur rest
  unfold Step.Lin at this
  rw [h] at this
  exact this.2.2

/-- `lexer.run` from the state reached after `newLexer`'s priming `next()`: rounds of `lexInput`
    until the nil state -/
def run (cur : Char) (rest : List Char) : List Token :=
  match _h : lexInputStep cur rest with
  | (t, none) => t
  | (t, some (c, r)) => t ++ run c r
termination_by rest.length
decreasing_by exact lexInputStep_shorter cur rest c r (by rw [_h])

/-- every token the lexer goroutine sends on its channel, in order. `newLexer` primes the
    look-ahead: on empty input `nextRune` stays 0 (and `atEOF` is set), which `lexInput` treats
    like a NUL rune in the input -/
def sends (input : List Char) : List Token :=
  match input with
  | [] => run '\x00' []
  | c :: r => run c r

/-- the loop of `(*lexer).Tokens()`: receive until the first tokEOF / tokError, inclusive -/
def takeThrough : List Token → List Token
  | [] => []
  | t :: ts => if isTerminator t then [t] else t :: takeThrough ts

/-- `(*lexer).Tokens()` / `LexInput` (the error result is always nil) -/
def tokens (input : List Char) : List Token := takeThrough (sends input)

theorem isTerminator_eofTok : isTerminator eofTok = true := rfl

def cont : Step → List Token
  | (t, none) => t
  | (t, some (c, r)) => t ++ run c r

theorem run_eq (c : Char) (r : List Char) : run c r = cont (lexInputStep c r) := by
  rw [run]
  split <;> rename_i h <;> rw [h] <;> rfl

theorem sends_cons (c : Char) (r : List Char) : sends (c :: r) = cont (lexInputStep c r) := by
  rw [sends, run_eq]

theorem sends_nil : sends [] = [eofTok] := by
  rw [sends, run_eq]
  rfl

theorem cont_emitConsume (tok : Token) (rest : List Char) :
    cont (emitConsume tok rest) = tok :: sends rest := by
  cases rest with
  | nil => simp [emitConsume, cont, sends_nil]
  | cons c r => simp [emitConsume, cont, sends]

theorem run_lin (cur rest) :
    endsOnce (run cur rest) = true ∧ (run cur rest).length ≤ rest.length + 2 := by
  fun_induction run cur rest with
  | case1 cur rest t h =>
    have hl := lexInputStep_lin cur rest
    rw [h] at hl
    exact hl
  | case2 cur rest t c r h ih =>
    have hl := lexInputStep_lin cur rest
    rw [h] at hl
    refine ⟨endsOnce_append hl.1 ih.1, ?_⟩
    have := hl.2.1; have := ih.2
    simp only [List.length_append] at *; omega

theorem sends_endsOnce (input : List Char) : endsOnce (sends input) = true := by
  unfold sends; split <;> exact (run_lin _ _).1

theorem takeThrough_of_endsOnce {l : List Token} (h : endsOnce l = true) : takeThrough l = l := by
  induction l with
  | nil => exact absurd h (by decide)
  | cons x xs ih =>
    cases xs with
    | nil =>
      have hx : isTerminator x = true := h
      rw [takeThrough, if_pos hx]
    | cons y ys =>
      obtain ⟨hx, hys⟩ := endsOnce_cons_cons.mp h
      rw [takeThrough, hx, ih hys]
      rfl

/-- `Tokens()` drains the channel: it returns every token the goroutine sends -/
theorem tokens_eq_sends (input : List Char) : tokens input = sends input :=
  takeThrough_of_endsOnce (sends_endsOnce input)

theorem endsOnce_split {l : List Token} (h : endsOnce l = true) :
    ∃ pre t, l = pre ++ [t] ∧ isTerminator t = true ∧ ∀ x ∈ pre, isTerminator x = false := by
  induction l with
  | nil => exact absurd h (by decide)
  | cons x xs ih =>
    cases xs with
    | nil => exact ⟨[], x, rfl, h, fun _ hm => nomatch hm⟩
    | cons y ys =>
      obtain ⟨hx, hys⟩ := endsOnce_cons_cons.mp h
      obtain ⟨pre, t, hl, ht, hp⟩ := ih hys
      exact ⟨x :: pre, t, by rw [hl]; rfl, ht, List.forall_mem_cons.mpr ⟨hx, hp⟩⟩

theorem sends_shape (input : List Char) :
    ∃ pre t, sends input = pre ++ [t] ∧ isTerminator t = true ∧ ∀ x ∈ pre, isTerminator x = false :=
  endsOnce_split (sends_endsOnce input)

end Lex

/-- `LexInput(bytes.NewReader(src))` -/
def lexBytes (src : List UInt8) : List Token := Lex.tokens (decodeRunes src)

end Gmars
