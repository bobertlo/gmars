/-
  C16 — the printed load listing denotes the warrior it was printed from (property theorems).
-/
import Gmars.Model.Listing
import Gmars.Proofs.CliList
import Gmars.Spec.LoadText
import Gmars.Proofs.RoundTripB
import Gmars.Proofs.ListingP
import Gmars.Proofs.InstrString

namespace Gmars.Props.C16

/-- the signed rendering of a field denotes the field modulo the core size
    (threshold m/2: `M/2` prints positive, `M/2+1` negative) -/
theorem addressSigned_congr (m a : UInt64) (ha : a < m) :
    (addressSigned m a) % (m.toNat : Int) = (a.toNat : Int) % (m.toNat : Int) := by
  unfold addressSigned
  have h : a.toNat < m.toNat := UInt64.lt_iff_toNat_lt.mp ha
  split
  · have : (-((m.toNat : Int) - (a.toNat : Int))) = (a.toNat : Int) + (-1) * (m.toNat : Int) := by omega
    rw [this, Int.add_mul_emod_self_right]
  · rfl

/-- the signed rendering stays within (-M/2, M/2] -/
theorem addressSigned_range (m a : UInt64) (ha : a < m) :
    -((m.toNat : Int)) < 2 * addressSigned m a ∧ 2 * addressSigned m a ≤ (m.toNat : Int) + 1 := by
  unfold addressSigned
  have h : a.toNat < m.toNat := UInt64.lt_iff_toNat_lt.mp ha
  have h2 : (2 : UInt64).toNat = 2 := rfl
  split
  · rename_i hgt
    simp only [GT.gt, UInt64.lt_iff_toNat_lt, UInt64.toNat_div, h2] at hgt
    omega
  · rename_i hgt
    simp only [GT.gt, UInt64.lt_iff_toNat_lt, UInt64.toNat_div, h2, Nat.not_lt] at hgt
    omega

/-- `listing_roundtrip` — THE theorem of C16. For every core size, every warrior with an entry
    point inside its code (every instruction form; in the '88 dialect every legal '88 instruction),
    the text `LoadCode()` prints — ORG START / END START, the START label, the Sprintf columns,
    signed fields — read back with the pMARS listing conventions (`Spec.readText`) denotes exactly
    the warrior's instructions and entry point, fields compared modulo the core size. -/
theorem listing_roundtrip (m : UInt64) (legacy : Bool) (w : WarriorData)
    (hs : 0 ≤ w.start) (hlt : w.start < w.code.size)
    (hl : legacy = true → ∀ i ∈ w.code.toList, Spec.Legal88 i = true) :
    ∃ t, Spec.readText (loadCode m legacy w) = some t ∧
      Spec.denotes m.toNat t w.code.toList w.start = true :=
  RoundTrip.listing_roundtrip_gen m legacy w hs hlt hl

example : addressSigned 8000 4000 = 4000 ∧ addressSigned 8000 4001 = -3999 ∧ addressSigned 8000 7999 = -1 := by decide

open Cli in
/-- `cli_A_roundtrip` — the text behind the -A option, end to end: whenever the model of
    `gmars -A <flags> <files>` prints something, it is, for each file in order, the listing of the
    warrior the assembler produced under the configuration the flags describe (a preset overrides
    the other flags) followed by one newline, and each listing, read back with the pMARS listing
    conventions, denotes exactly that warrior — instructions and entry point. No hypothesis is left
    to the caller. (`cliAssembleOutput` is validated against the built command on 120 000 runs and
    tied on every run by the `clilist` domain.) -/
theorem cli_A_roundtrip {fl : Flags} {files : List (List UInt8)} {out : String}
    (h : cliAssembleOutput fl files = some out) :
    ∃ (cfg : Config) (ws : List WarriorData),
      config fl = some cfg ∧ cfg.validate = true ∧ cfg.coreSize.toNat < 2 ^ 63 ∧
      ws.length = files.length ∧ 1 ≤ files.length ∧ files.length ≤ 2 ∧
      (∀ p ∈ files.zip ws, assemble cfg p.1 = .ok p.2) ∧
      out = String.ofList ((ws.map (fun w => listingOf cfg w ++ ['\n'])).flatten) ∧
      ∀ w ∈ ws, ∃ t, Spec.readText (listingOf cfg w) = some t ∧
        Spec.denotes cfg.coreSize.toNat t w.code.toList w.start = true :=
  Cli.cli_A_roundtrip h

/-- `pmars_listing_roundtrip` — the second listing printer, `LoadCodePMARS()`: its text is the
    header line `Program "<name>" (length <n>) by "<author>"`, an empty line, the `LoadCode()`
    listing and one more newline (`ListingP.pmars_body`); with the header removed it reads back,
    by the same pMARS conventions, to exactly the warrior it was printed from — for every name
    and author, every core size, both dialects. -/
theorem pmars_listing_roundtrip (m : UInt64) (legacy : Bool) (name author : GoStr.Str) (w : WarriorData)
    (hs : 0 ≤ w.start) (hlt : w.start < w.code.size)
    (hl : legacy = true → ∀ i ∈ w.code.toList, Spec.Legal88 i = true) :
    ∃ t, Spec.readText ((loadCodePMARS m legacy name author w).drop
        (pmarsHeader name author w.code.size).length) = some t ∧
      Spec.denotes m.toNat t w.code.toList w.start = true :=
  ListingP.pmars_listing_roundtrip m legacy name author w hs hlt hl

/-- an empty warrior prints the header only -/
theorem pmars_empty (m : UInt64) (legacy : Bool) (name author : GoStr.Str) (w : WarriorData)
    (h : w.code.size = 0) :
    loadCodePMARS m legacy name author w = pmarsHeader name author w.code.size :=
  ListingP.pmars_empty m legacy name author w h

/-- Go's wrapping `int` arithmetic in `signedAddress` is the exact integer formula for every field
    inside the core, for every core size up to 2^64 - 1 -/
theorem signedAddressGo_exact (m a : UInt64) (ha : a < m) : signedAddressGo a m = addressSigned m a :=
  ListingP.signedAddressGo_eq m a ha

/-- `Instruction.String()` identifies the instruction -/
theorem instrString_injective (i j : Instr) (h : instrString i = instrString j) : i = j :=
  InstrString.instrString_injective i j h

/-- `NormString(m)` identifies the instruction, for instructions whose fields lie inside the core
    (opcode, modifier, both modes and both fields can be read off the line a debug reporter prints) -/
theorem normString_injective (m : UInt64) (i j : Instr) (hi : i.a < m ∧ i.b < m)
    (hj : j.a < m ∧ j.b < m) (h : normString m i = normString m j) : i = j :=
  InstrString.normString_injective m i j hi hj h

/-- the hypothesis is tight: a field outside the core can print like one inside it
    (13 > 10/2 prints -(10 - 13) = 3) -/
theorem normString_collides_outside_core :
    normString 10 { (default : Instr) with a := 3 } = normString 10 { (default : Instr) with a := 13 } ∧
    ({ (default : Instr) with a := 3 } : Instr) ≠ { (default : Instr) with a := 13 } := by
  constructor
  · decide
  · decide

end Gmars.Props.C16
