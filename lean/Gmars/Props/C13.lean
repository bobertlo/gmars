/-
  C13 — any sequence of API calls behaves like the documented state machine (property theorems).
-/
import Gmars.Proofs.ApiRel

namespace Gmars.Props.C13

/-- an unknown warrior index (negative, or at/after the count) is rejected by SpawnWarrior
    without touching the state and without panicking -/
theorem spawn_bad_index (s : Sim) (wi : Int) (off : UInt64) (h : wi < 0 ∨ wi ≥ s.warriorCount) :
    s.spawn wi off = .ok (s, false) := by
  unfold Sim.spawn
  rcases h with h | h <;> simp [h]

/-- GetWarrior never panics when the warrior count is the table size; it returns nil exactly
    for indices outside [0, count) -/
theorem getWarrior_total (s : Sim) (i : Int) (hc : s.warriorCount = Int.ofNat s.warriors.size) :
    s.getWarrior i = .ok (if i < 0 ∨ i ≥ s.warriorCount then none else some i.toNat) := by
  unfold Sim.getWarrior
  by_cases h : i < 0 ∨ i ≥ s.warriorCount
  · rcases h with h | h <;> simp [h]
  · have h1 : ¬ i < 0 := fun x => h (Or.inl x)
    have h2 : ¬ i ≥ s.warriorCount := fun x => h (Or.inr x)
    have : i.toNat < s.warriors.size := by
      rw [hc] at h2
      have h3 : i < (s.warriors.size : Int) := by simpa using h2
      omega
    simp [h1, h2, this]

/-- asking a never-spawned warrior for its next task is an error value, not a panic;
    its queue reads as empty -/
theorem never_spawned_queries (w : Warrior) (h : w.pq = none) :
    w.nextPC = .ok none ∧ w.queue = .ok [] := by
  simp [Warrior.nextPC, Warrior.queue, h]

/-- stepping a finished battle does nothing and returns 0 -/
theorem runCycle_finished (s : Sim) (h : s.finished = true) : s.runCycle = .ok (s, 0) := by
  simp [Sim.runCycle, h]

/-- running a finished, empty or never-started battle returns at once, state unchanged -/
theorem run_finished (s : Sim) (fuel : Nat) (h : s.finished = true) : s.runLoop (fuel + 1) = .ok (s, true) := by
  simp [Sim.runLoop, h]

/-- `api_no_panic`: no sequence of add / spawn (any index, any offset) / RunCycle / Run / Reset
    calls panics, from any accepted configuration; the invariant holds after every call -/
theorem api_no_panic {c : Config} {s0 : Sim} {ops : List ApiOp} (hv : c.validate = true)
    (hnew : Sim.new c = some s0)
    (hops : ∀ op ∈ ops, match op with
      | .add d => ∀ x ∈ d.code.toList, x.a < c.coreSize ∧ x.b < c.coreSize
      | _ => True) :
    ∃ s, s0.applyOps ops = .ok s ∧ s.WF :=
  let ⟨s, h, hwf, _⟩ := Gmars.wf_reachable hv hnew hops
  ⟨s, h, hwf⟩

/-- `Run()` always returns (the loop needs at most maxCycles+2 iterations) and ends in a
    finished battle — including on an empty, never-started or already finished one -/
theorem run_returns {s : Sim} (hwf : s.WF) (hc : s.CodeOK) :
    ∃ s', s.runLoop (s.maxCycles.toNat + 2) = .ok (s', true) ∧ s'.WF ∧ s'.finished = true :=
  let ⟨s', h, hwf', _, hf⟩ := run_terminates_wf hwf hc
  ⟨s', h, hwf', hf⟩

/-- SpawnWarrior never panics, whatever index and offset -/
theorem spawn_total {s : Sim} {wi : Int} {off : UInt64} (hwf : s.WF) (hc : s.CodeOK) :
    ∃ s' b, s.spawn wi off = .ok (s', b) ∧ s'.WF :=
  let ⟨s', b, h, hwf', _⟩ := spawn_wf (wi := wi) (off := off) hwf hc
  ⟨s', b, h, hwf'⟩

/-- Reset keeps the invariant: cleared core, zero counters, every warrior back to `added` -/
theorem reset_sound {s : Sim} (hwf : s.WF) (hc : s.CodeOK) : s.reset.WF ∧ s.reset.living = 0 ∧
    s.reset.cycleCount = 0 :=
  ⟨(reset_wf hwf hc).1, rfl, rfl⟩

/-- `api_refines` — THE theorem of C13. From any accepted configuration (core ≤ 2^32 cells,
    limits ≤ core) and for EVERY sequence of AddWarrior / SpawnWarrior(any index, ANY 64-bit
    offset) / RunCycle / Run / Reset calls: no call panics, Run always returns, and after the
    whole sequence the simulator is in the state the documented reference state machine `Spec.Api`
    reaches by the same calls (`Rel`: same core, cycle count, warrior states, queues of started
    warriors); calls the reference rejects (unknown index, already running warrior) leave the
    state unchanged, finished / empty / never-started battles are no-ops. -/
theorem api_refines {c : Config} {s0 : Sim} {ops : List ApiOp} (hnew : Sim.new c = some s0)
    (hm : c.coreSize.toNat ≤ 2 ^ 32) (hrl : c.readLimit.toNat ≤ c.coreSize.toNat)
    (hwl : c.writeLimit.toNat ≤ c.coreSize.toNat) (hops : ∀ op ∈ ops, op.OK c.coreSize) :
    ∃ s, s0.applyOps ops = .ok s ∧ s.WF ∧
      Rel s (ops.foldl Spec.Api.applyOp (Spec.Api.new c.coreSize.toNat c.readLimit.toNat
        c.writeLimit.toNat c.processes.toNat c.cycles.toNat)) :=
  Gmars.api_refines hnew hm hrl hwl hops

/-- SpawnWarrior is accepted by the model exactly when the reference accepts it (then the states
    stay related: code loaded with wrap-around, fresh queue holding (offset + start) mod M, warrior
    alive); a rejected call leaves the state unchanged. For EVERY 64-bit offset (the call reduces
    it modulo the core size first); the core has at most 2^63 cells (`StartsOK`: start offsets
    not negative, start offsets and code lengths below 2^63). -/
theorem spawn_refines {s : Sim} {a : Spec.Api} {wi : Int} {off : UInt64} (hwf : s.WF) (hr : Rel s a)
    (hd : DataRel s a) (hs : StartsOK s) (hm : s.m.toNat ≤ 2 ^ 63) :
    match s.spawn wi off, a.spawn wi off.toNat with
    | .ok (s', true), some a' => Rel s' a'
    | .ok (s', false), none => s' = s
    | _, _ => False :=
  spawn_rel hwf hr hd hs hm

/-- `spawn_any_offset` — SpawnWarrior depends only on the offset modulo the core size: for EVERY
    64-bit offset the call is the call at the reduced offset (same result, state and report; no
    hypothesis), ... -/
theorem spawn_any_offset (s : Sim) (wi : Int) (off : UInt64) :
    s.spawn wi off = s.spawn wi (off % s.m) :=
  Gmars.spawn_any_offset s wi off

/-- ... and hence it is the reference's spawn at `off mod M` -/
theorem spawn_any_offset_ref {s : Sim} {a : Spec.Api} {wi : Int} {off : UInt64} (hwf : s.WF)
    (hr : Rel s a) (hd : DataRel s a) (hs : StartsOK s) (hm : s.m.toNat ≤ 2 ^ 63) :
    match s.spawn wi off, a.spawn wi (off.toNat % a.M) with
    | .ok (s', true), some a' => Rel s' a'
    | .ok (s', false), none => s' = s
    | _, _ => False :=
  Gmars.spawn_any_offset_ref hwf hr hd hs hm

/-- the reference's spawn depends only on the offset modulo the core size -/
theorem ref_spawn_mod (a : Spec.Api) (wi : Int) (off : Nat) :
    a.spawn wi (off % a.M) = a.spawn wi off :=
  Spec.Api.spawn_mod a wi off

/-- `reset_fresh` — after Reset the simulator is related to a FRESHLY created reference simulator
    to which the same warriors have been added (none spawned, zero cycles, empty core); only the
    reference's bookkeeping of stale queues is forgotten (`erase`) -/
theorem reset_fresh {s : Sim} {a : Spec.Api} (h : Rel s a) (hd : DataRel s a) :
    ∃ a0, a0 = Spec.Api.freshWith a.M a.R a.W a.P a.C a.sig ∧ Rel s.reset a0 ∧ DataRel s.reset a0 ∧
      a.reset.erase = a0 :=
  Gmars.reset_fresh h hd

example : (Sim.new (Config.quick .icws94 8 2 5 1)).map (·.finished) = some true := by decide

end Gmars.Props.C13
