/-
  C05 — assembling any input terminates cleanly (property theorems).
-/
import Gmars.Model.Lex
import Gmars.Proofs.CompileWF
import Gmars.Proofs.AsmTerm
import Gmars.Proofs.AsmCost

namespace Gmars.Props.C05

/-- `lexer_terminal_last` — for EVERY rune sequence the lexer goroutine sends exactly one
    terminating token (tokEOF or tokError) and it is the last token it sends: after the consumer
    `Tokens()` has stopped at that token the producer has nothing left to send, so it cannot be
    left blocked on its unbuffered channel. (The lexer model is a total function: termination of
    the state machine for every input is part of its definition's well-founded recursion.) -/
theorem lexer_terminal_last (input : List Char) :
    ∃ pre t, Lex.sends input = pre ++ [t] ∧ Lex.isTerminator t = true ∧
      ∀ x ∈ pre, Lex.isTerminator x = false :=
  Lex.sends_shape input

/-- `Tokens()` returns everything the goroutine sends: no send is left pending -/
theorem no_blocked_lexer (input : List Char) : Lex.tokens input = Lex.sends input :=
  Lex.tokens_eq_sends input

/-- the same for raw bytes, invalid UTF-8 included -/
theorem lexer_bytes_terminal (src : List UInt8) :
    ∃ pre t, lexBytes src = pre ++ [t] ∧ Lex.isTerminator t = true := by
  obtain ⟨pre, t, h, ht, _⟩ := Lex.sends_shape (decodeRunes src)
  exact ⟨pre, t, by rw [lexBytes, Lex.tokens_eq_sends, h], ht⟩

/-- the compiler stage (symbol tables, EQU cycle check, assertions, substitution fixpoint, line
    assembly, start expression) neither panics nor loops forever, for every list of source lines and
    every configuration: the fixpoint of `expandExpression` ends within its fuel once the cycle
    check has passed -/
theorem compile_stage_no_fault {cfg : Config} {lines : List SourceLine} {ameta : AsmMeta}
    {lexTokens : String → List Token} (hlex : ∀ s, lexTokens s ≠ []) :
    ∀ f, compile lexTokens cfg lines ameta ≠ .error f :=
  Compile.compile_no_fault' hlex

/-- the compiler stage returns an error or a warrior, never both or neither -/
theorem compile_stage_err_xor {cfg : Config} {lines : List SourceLine} {ameta : AsmMeta}
    {lexTokens : String → List Token} (hlex : ∀ s, lexTokens s ≠ []) :
    compile lexTokens cfg lines ameta = .ok none ∨
    ∃ w, compile lexTokens cfg lines ameta = .ok (some w) := by
  rcases Compile.compile_total (cfg := cfg) (lines := lines) (ameta := ameta) hlex with h | ⟨w, _, h, _⟩
  · exact Or.inl h
  · exact Or.inr ⟨w, h⟩

/-- THE theorem of C05: no hang, no panic. For EVERY byte string (valid programs, token
    soup, invalid UTF-8, NUL and ^Z bytes, unterminated last lines …) and EVERY configuration, the
    model of CompileWarrior — lexer, symbol scanner, FOR expander with its pass loop, parser,
    compiler — returns: it neither panics nor runs into any of the loops that can spin forever in
    the Go code (every stage receives a token stream that ends in exactly one EOF/error token). -/
theorem assemble_terminates_cleanly (cfg : Config) (src : List UInt8) (f : Fault) :
    assemble cfg src ≠ .fault f :=
  assemble_no_fault cfg src f

/-- the outcome is exactly one of: a warrior, an error (`unmodelled` = the
    expression left the modelled subset of go/types.Eval, where the real code also returns one of
    the two) -/
theorem assemble_err_xor_result (cfg : Config) (src : List UInt8) :
    ((∃ w, assemble cfg src = .ok w) ∧ assemble cfg src ≠ .err ∧ assemble cfg src ≠ .unmodelled) ∨
    ((∀ w, assemble cfg src ≠ .ok w) ∧ assemble cfg src = .err ∧ assemble cfg src ≠ .unmodelled) ∨
    ((∀ w, assemble cfg src ≠ .ok w) ∧ assemble cfg src ≠ .err ∧ assemble cfg src = .unmodelled) :=
  assemble_err_xor cfg src

/-- `expander_terminal_last` — whatever it is given, the FOR expander's output ends with exactly one
    EOF/error token: after it the goroutine sends nothing, so it cannot block -/
theorem expander_terminal_last {eval : List Token → SymTab → EvalRes} {ts ts' : List Token}
    {syms : SymTab} {u : Bool} (h : forExpandWith eval ts syms = .ok (some ts', u)) : Terminated ts' :=
  expand_terminated h

/-- `passes_bounded` — the scan-and-expand loop performs at most 13 passes -/
theorem passes_bounded (ts : List Token) (fuel : Nat) (h : 13 ≤ fuel) : forLoop fuel 0 ts = forLoop 13 0 ts :=
  Gmars.passes_bounded ts fuel h

/-
  Partial: wall-clock time and resident memory are runtime behaviour the model cannot exhibit;
  "time proportional to the input after FOR expansion" is not provable as stated because textual
  EQU expansion is not linear (`a equ b+b`, `b equ c+c`, … doubles per line, as in pMARS). The
  correspondence domain `soup` runs every case under a deadline and counts goroutines.
-/

/-! What "time proportional to the size of the input after FOR expansion" rests on: Lean cannot observe time; it can bound every stage's output and every loop's trip count. `S src`
is the longest token list among the passes of the FOR loop ("the size after expansion"),
`Work cfg src` the sum of all of them (the tokens the loop moves). -/

/-- the lexer emits at most one token per byte, plus the closing EOF — every byte string -/
theorem lex_linear (src : List UInt8) : (lexBytes src).length ≤ src.length + 1 :=
  Gmars.lex_linear src

/-- the parser returns at most one source line per token and stores at most every token once -/
theorem parse_linear {toks : List Token} {lines : List SourceLine} {ameta : AsmMeta}
    (h : parse toks = .ok (some (lines, ameta))) :
    lines.length ≤ toks.length ∧ (lines.map Parser.tokCount).sum ≤ toks.length :=
  Gmars.parse_linear h

/-- one expansion pass multiplies the stream by at most (count + 1), for ANY token list -/
theorem expand_pass_size {eval : List Token → SymTab → EvalRes} {toks out : List Token}
    {syms : SymTab} {u : Bool} (h : forExpandWith eval toks syms = .ok (some out, u)) :
    ∃ n, IsCount eval syms toks n ∧ out.length ≤ toks.length + n * toks.length :=
  Gmars.expand_pass_size h

/-- the compiler emits one instruction per instruction line -/
theorem compile_linear {lexTokens : String → List Token} {cfg : Config} {lines : List SourceLine}
    {ameta : AsmMeta} {w : WarriorData} (h : compile lexTokens cfg lines ameta = .ok (some w)) :
    w.code.size = (lines.filter Compile.isInstr).length ∧ w.code.size ≤ lines.length :=
  Compile.compile_linear h

/-- the pass loop moves at most fourteen times the expanded size -/
theorem assemble_work_bound (cfg : Config) (src : List UInt8) : Work cfg src ≤ 14 * S src :=
  Gmars.assemble_work_bound cfg src

/-- with FOR counts of at most `n` the expanded size is at most `(bytes + 1)·(n + 1)^13` -/
theorem passes_growth {n : Nat} {src : List UInt8} (h : CountsLe n src) :
    S src ≤ (src.length + 1) * (n + 1) ^ 13 :=
  Gmars.passes_growth h

/-- without FOR blocks that are unrolled the work is linear in the input -/
theorem work_linear_no_for (cfg : Config) {src : List UInt8} (h : CountsLe 0 src) :
    Work cfg src ≤ 14 * (src.length + 1) :=
  Gmars.work_linear_no_for cfg h

/-- the assembled warrior is no longer than the expanded input -/
theorem assemble_output_bound {cfg : Config} {src : List UInt8} {w : WarriorData}
    (h : assemble cfg src = .ok w) :
    ∃ toks lines ameta, toks ∈ passes 14 0 (lexBytes src) ∧
      parse toks = .ok (some (lines, ameta)) ∧
      lines.length ≤ toks.length ∧ (lines.map Parser.tokCount).sum ≤ toks.length ∧
      w.code.size ≤ lines.length ∧ w.code.size ≤ S src :=
  Gmars.assemble_output_bound h

end Gmars.Props.C05
