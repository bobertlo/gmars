/-
  C04 — no program can corrupt or crash the simulator (property theorems).
-/
import Gmars.Proofs.SpecLocal
import Gmars.Proofs.ApiRel

namespace Gmars.Props.C04

/-- the structural part of the simulator invariant that creation establishes -/
def Created (c : Config) (s : Sim) : Prop :=
  s.mem.size = s.m.toNat ∧ 3 ≤ s.m.toNat ∧ 1 ≤ s.maxProcs.toNat ∧ 1 ≤ s.maxCycles.toNat ∧
  1 ≤ s.readLimit.toNat ∧ 1 ≤ s.writeLimit.toNat ∧ s.readLimit.toNat ≤ s.m.toNat ∧
  s.writeLimit.toNat ≤ s.m.toNat ∧ s.m = c.coreSize ∧
  s.warriors.size = 0 ∧ s.living = 0 ∧ s.cycleCount = 0 ∧ (∀ i ∈ s.mem, i.a = 0 ∧ i.b = 0)

theorem new_created {c : Config} {s : Sim} (hnew : Sim.new c = some s) : Created c s := by
  obtain ⟨hwf, -, hm⟩ := new_spec hnew
  obtain ⟨-, rfl⟩ := new_eq hnew
  refine ⟨hwf.size, hwf.m3, hwf.procs, hwf.cycles, hwf.rl, hwf.wl, clampLimit_le _ _,
    clampLimit_le _ _, hm, rfl, rfl, rfl, fun i hi => ?_⟩
  rw [(Array.mem_replicate.mp hi).2]
  exact ⟨rfl, rfl⟩

/-- A configuration is either refused, or the simulator it creates is sound: no third outcome
    (in particular no panic) for ANY field values. -/
theorem validate_total (c : Config) :
    (c.validate = false ∧ Sim.new c = none) ∨ (c.validate = true ∧ ∃ s, Sim.new c = some s ∧ Created c s) := by
  cases h : c.validate
  · exact Or.inl ⟨rfl, new_none h⟩
  · obtain ⟨s, hnew⟩ := new_some h
    exact Or.inr ⟨rfl, s, hnew, new_created hnew⟩

/-- `exec_preserves_invariant`, one executed task: whatever instruction is at `pc` and whatever the core
    holds, executing it never panics, keeps the core size, keeps every instruction field below the
    core size, keeps the executing warrior's queue a well-formed ring of the same capacity whose
    entries are all below the core size, leaves every other warrior and all counters untouched, and
    only emits reports with addresses inside the core. No bound on the core size and none on the
    read/write limits beyond ≥ 1 (`Validate` accepts limits above the core size). -/
theorem exec_preserves_invariant (s : Sim) (pc : UInt64) (wi : Nat) (q : PQ) (hwf : s.WF)
    (hpc : pc < s.m) (hq : s.pqOf wi = some q) :
    ∃ s' q', s.exec pc wi = .ok s' ∧ Frame s s' wi ∧ s'.FieldsOK ∧
      s'.pqOf wi = some q' ∧ q'.Inv ∧ q'.size = q.size ∧ (∀ a ∈ q'.toList, a < s.m) ∧
      q'.toList.length ≤ q.toList.length + 2 ∧
      (∀ r, r ∈ s'.log.toList.drop s.log.size → r.addr < s.m ∧ r.wi = Int.ofNat wi) :=
  exec_wf s pc wi q hwf hpc hq

/-- the host never panics while executing a task -/
theorem exec_never_panics (s : Sim) (pc : UInt64) (wi : Nat) (q : PQ) (hwf : s.WF) (hpc : pc < s.m)
    (hq : s.pqOf wi = some q) : ∃ s', s.exec pc wi = .ok s' :=
  exec_no_panic s pc wi q hwf hpc hq

/-- reference semantics: every field of every instruction stays below the core size -/
theorem reference_fields_bounded (M R W : Nat) (c : Spec.Core) (pc : Nat)
    (h : ∀ a, (c.at a).a < M ∧ (c.at a).b < M) :
    ∀ a, ((Spec.step M R W c pc).core.at a).a < M ∧ ((Spec.step M R W c pc).core.at a).b < M :=
  Spec.step_fields M R W c pc h

/-- `wf_reachable` — the invariant holds in EVERY state reached during a battle, for every accepted
    configuration and every sequence of API operations (add any warrior whose instruction fields
    are below the core size, spawn with any index and offset, RunCycle, Run, Reset): no operation
    panics, and afterwards every instruction field and queued program counter is below the core
    size, no warrior holds more tasks than the process limit (`PQ.Inv`), the completed-cycle count
    does not exceed the cycle limit, the living count equals the number of warriors reporting
    alive, and an alive warrior has tasks while a dead one has none (`Sim.WF`). -/
theorem wf_reachable {c : Config} {s0 : Sim} {ops : List ApiOp} (hv : c.validate = true)
    (hnew : Sim.new c = some s0)
    (hops : ∀ op ∈ ops, match op with
      | .add d => ∀ x ∈ d.code.toList, x.a < c.coreSize ∧ x.b < c.coreSize
      | _ => True) :
    ∃ s, s0.applyOps ops = .ok s ∧ s.WF ∧ s.CodeOK :=
  Gmars.wf_reachable hv hnew hops

/-- one cycle never panics and preserves the invariant -/
theorem runCycle_preserves_invariant {s : Sim} (hwf : s.WF) (hc : s.CodeOK) :
    ∃ s' n, s.runCycle = .ok (s', n) ∧ s'.WF ∧ s'.CodeOK :=
  runCycle_wf hwf hc

/-- the "zombie" branch of RunCycle (a warrior alive without tasks) is unreachable -/
theorem zombie_unreachable {s : Sim} (hwf : s.WF) {i : Nat} (hi : i < s.warriors.size)
    (halive : s.warriors[i].state = .alive) {q : PQ} (hq : s.warriors[i].pq = some q) :
    ∃ pc q', q.pop = .ok (some pc, q') :=
  Gmars.zombie_unreachable hwf hi halive hq

-- non-vacuity: the KOTH '94 configuration is accepted, a two-cell core is refused
example : (Sim.new (Config.quick .icws94 8000 8000 80000 100)).isSome = true := by decide
example : Sim.new { coreSize := 2, processes := 1, cycles := 1, readLimit := 1, writeLimit := 1 } = none := by decide

end Gmars.Props.C04
