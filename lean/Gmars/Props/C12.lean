/-
  C12 — a battle is independent of where in the core it is placed (property theorems).
-/
import Gmars.Proofs.ReuseRotate

namespace Gmars.Props.C12
open Gmars.Spec

/-- loading at an offset congruent modulo the core size loads the same cells -/
theorem loadAt_congr (M : Nat) (c : Core) (off j : Nat) (code : List SInstr) :
    loadAt M c (off + j * M) code = loadAt M c off code :=
  Spec.loadAt_congr M c off j code

/-- the first task of a spawned warrior does not depend on which representative of the
    offset modulo M is given -/
theorem first_task_congr (M off j start : Nat) : (off + j * M + start) % M = (off + start) % M := by
  rw [Nat.add_right_comm, Nat.add_mul_mod_self_right]

/-- `step_rotate` (reference semantics): one task is rotation-equivariant — executing at PC+k in
    the core rotated by k gives the rotated core and the successors shifted by k, for every
    instruction form, limits and core content -/
theorem step_rotate {M : Nat} (R W k : Nat) (c : Core) (hc : c.length = M) {pc : Nat} (hpc : pc < M) :
    step M R W (rot k c) ((pc + k) % M)
      = ⟨rot k (step M R W c pc).core, (step M R W c pc).succ.map (fun a => (a + k) % M)⟩ :=
  Spec.step_rotate R W k c hc hpc

/-- loading a warrior into the rotated core at the shifted offset (wrapping past the last
    address included) is the rotation of loading it at the original offset -/
theorem load_rotate {M : Nat} (k : Nat) (c : Core) (hc : c.length = M) (hM : 0 < M) (off : Nat)
    (code : List SInstr) : loadAt M (rot k c) ((off + k) % M) code = rot k (loadAt M c off code) :=
  Spec.loadAt_rotate k c hc hM off code

/-- `spawn_congr`: spawning at any offset congruent modulo the core size is the same call -/
theorem spawn_congr (s : Api) (i : Int) (off j : Nat) : s.spawn i (off + j * s.M) = s.spawn i off :=
  Spec.spawn_congr s i off j

/-- spawning commutes with rotation -/
theorem spawn_rotate (k : Nat) (s : Api) (h : s.WFs) (i : Int) (off : Nat) :
    (rotApi k s).spawn i ((off + k) % s.M) = (s.spawn i off).map (rotApi k) :=
  Spec.spawn_rotate k s h i off

/-- the reference's spawn depends only on the offset modulo the core size -/
theorem spawn_mod (s : Api) (i : Int) (off : Nat) : s.spawn i (off % s.M) = s.spawn i off :=
  Spec.Api.spawn_mod s i off

/-- `model_spawn_any_offset`, on the model of the Go code: `SpawnWarrior` reduces the offset modulo the
    core size first, so for EVERY 64-bit offset (also those within the warrior's length of 2^64,
    where `off + i` wraps) the call is the call at the reduced offset -/
theorem model_spawn_any_offset (s : Sim) (wi : Int) (off : UInt64) :
    s.spawn wi off = s.spawn wi (off % s.m) :=
  Gmars.spawn_any_offset s wi off

/-- `model_spawn_congr`, on the model of the Go code: offsets congruent modulo the core size give the
    same call (same result, state and report), without any bound on the offsets -/
theorem model_spawn_congr (s : Sim) (wi : Int) (off off' : UInt64) (h : off % s.m = off' % s.m) :
    s.spawn wi off = s.spawn wi off' :=
  Gmars.spawn_congr_model s wi off off' h

/-- `model_spawn_rotate`, on the model of the Go code: take a battle `s₁` and the same battle `s₂` placed
    `k` cells further around the core. Spawning warrior `wi` at ANY 64-bit offset `off₁` in `s₁`
    and at ANY offset `off₂ ≡ off₁ + k (mod M)` in `s₂` is accepted by both or rejected by both
    (state unchanged); when accepted, `s₁'` is related to the reference's spawn and `s₂'` to its
    rotation by `k`. -/
theorem model_spawn_rotate {s₁ s₂ : Sim} {a : Api} (k : Nat) (ha : a.WFs)
    (p₁ : Pre s₁) (p₂ : Pre s₂) (r₁ : Rel s₁ a) (r₂ : Rel s₂ (rotApi k a))
    (d₁ : DataRel s₁ a) (d₂ : DataRel s₂ (rotApi k a)) (t₁ : StartsOK s₁) (t₂ : StartsOK s₂)
    (wi : Int) (off₁ off₂ : UInt64) (hoff : off₂.toNat % a.M = (off₁.toNat + k) % a.M) :
    match s₁.spawn wi off₁, s₂.spawn wi off₂ with
    | .ok (s₁', true), .ok (s₂', true) =>
        ∃ a', a.spawn wi off₁.toNat = some a' ∧ Rel s₁' a' ∧ Rel s₂' (rotApi k a')
    | .ok (s₁', false), .ok (s₂', false) => s₁' = s₁ ∧ s₂' = s₂
    | _, _ => False := by
  obtain ⟨⟨s₁', b₁⟩, e₁, -, -, j₁, h₁⟩ := spawn_sim s₁ wi off₁ p₁.wf
  obtain ⟨⟨s₂', b₂⟩, e₂, -, -, j₂, h₂⟩ := spawn_sim s₂ wi off₂ p₂.wf
  obtain ⟨hb₁, hr₁⟩ := h₁ a r₁ d₁ t₁ (by have := p₁.m32; omega)
  obtain ⟨hb₂, hr₂⟩ := h₂ _ r₂ d₂ t₂ (by have := p₂.m32; omega)
  have hM : (rotApi k a).M = a.M := rfl
  rw [← Spec.Api.spawn_mod, hM, hoff, Spec.spawn_rotate k a ha wi off₁.toNat] at hb₂ hr₂
  rw [e₁, e₂]
  cases e : a.spawn wi off₁.toNat <;> rw [e] at hb₁ hr₁ hb₂ hr₂ <;> cases hb₁ <;> cases hb₂
  · exact ⟨j₁ rfl, j₂ rfl⟩
  · exact ⟨_, rfl, hr₁, hr₂⟩

/-- `cycle_rotate`: a whole cycle of the reference scheduler commutes with rotation and returns
    the same living count -/
theorem cycle_rotate (k : Nat) (s : Api) (h : s.WFs) :
    ((rotApi k s).cycle).1 = rotApi k s.cycle.1 ∧ ((rotApi k s).cycle).2.2 = s.cycle.2.2 :=
  Spec.cycle_rotate k s h

/-- `run_rotate`: a whole battle commutes with rotation: same survivors and cycle count, final
    core and queues rotated by the shift (`rotApi` keeps warrior states and the cycle counter) -/
theorem run_rotate (k fuel : Nat) (s : Api) (h : s.WFs) :
    ((rotApi k s).run fuel).1 = rotApi k (s.run fuel).1 :=
  Spec.run_rotate k fuel s h

/-- `model_run_rotate`, on the model of the Go code: take a battle `s₁` and the same battle `s₂` placed
    `k` cells further around the core (`s₂` is related to the rotated reference state). Running
    both to completion never panics, both end related to the reference final state and to its
    rotation by `k` respectively — same survivors, same cycle count, final core and queues rotated. -/
theorem model_run_rotate {s₁ s₂ : Sim} {a : Api} (k : Nat) (ha : a.WFs)
    (p₁ : Pre s₁) (p₂ : Pre s₂) (r₁ : Rel s₁ a) (r₂ : Rel s₂ (rotApi k a)) :
    ∃ s₁' s₂', s₁.runLoop (s₁.maxCycles.toNat + 2) = .ok (s₁', true) ∧
      s₂.runLoop (s₂.maxCycles.toNat + 2) = .ok (s₂', true) ∧
      Rel s₁' (a.run (a.C + 2)).1 ∧ Rel s₂' (rotApi k (a.run (a.C + 2)).1) ∧
      s₁'.results = s₂'.results := by
  obtain ⟨s₁', e₁, rel₁, res₁⟩ := Gmars.run_refines p₁.wf p₁.m32 p₁.rl p₁.wl r₁
  obtain ⟨s₂', e₂, rel₂, res₂⟩ := Gmars.run_refines p₂.wf p₂.m32 p₂.rl p₂.wl r₂
  have hC : (rotApi k a).C = a.C := rfl
  rw [hC, Spec.run_rotate k (a.C + 2) a ha] at rel₂ res₂
  refine ⟨s₁', s₂', e₁, e₂, rel₁, rel₂, ?_⟩
  rw [res₁, res₂]
  simp [rotApi, rotSW, List.map_map, Function.comp_def]

/-- `reuse_rotate` — the rotated battle may be played in a REUSED simulator: whatever a simulator
    went through before (any reachable state `s`, related to any reference state `a`), after
    `Reset` it satisfies every premise `model_spawn_rotate` and `model_run_rotate` ask of the
    shifted battle `s₂`, for EVERY shift `k`, against a freshly created reference simulator with
    the same warriors — nothing of the earlier battle (stale cells, queues)
    may survive. (A fresh reference state is its own rotation: `rotApi_fresh`.) -/
theorem reuse_rotate {s : Sim} {a : Api} (k : Nat) (p : Pre s) (hs : StartsOK s)
    (h : Rel s a) (hd : DataRel s a) :
    Pre s.reset ∧ StartsOK s.reset ∧
    Rel s.reset (rotApi k (Spec.Api.freshWith a.M a.R a.W a.P a.C a.sig)) ∧
    DataRel s.reset (rotApi k (Spec.Api.freshWith a.M a.R a.W a.P a.C a.sig)) :=
  reset_serves_as_rotated k p hs h hd

/-- a fresh reference simulator is invariant under rotation -/
theorem fresh_is_its_rotation (k M R W P C : Nat) (sig : List (List SInstr × Nat)) :
    rotApi k (Spec.Api.freshWith M R W P C sig) = Spec.Api.freshWith M R W P C sig :=
  rotApi_fresh k M R W P C sig

/-- `reuse_rotate_reachable` — the same for every REACHABLE simulator: create a simulator with
    any configuration inside the bounds of C01, apply any sequence of API calls (AddWarrior,
    SpawnWarrior at any offset, RunCycle, Run, Reset), then `Reset`: the result
    meets all premises of `model_spawn_rotate` / `model_run_rotate` for every shift `k`. The
    hypotheses are met by every valid configuration (e.g. the presets) and every call sequence
    the `api` domain of the test harness generates, so the statement is not vacuous. -/
theorem reuse_rotate_reachable {c : Config} {s0 : Sim} {ops : List ApiOp} (k : Nat)
    (hnew : Sim.new c = some s0) (hm : c.coreSize.toNat ≤ 2 ^ 32)
    (hrl : c.readLimit.toNat ≤ c.coreSize.toNat) (hwl : c.writeLimit.toNat ≤ c.coreSize.toNat)
    (hops : ∀ op ∈ ops, op.OK c.coreSize) :
    ∃ (s : Sim) (a : Api), s0.applyOps ops = .ok s ∧
      Pre s.reset ∧ StartsOK s.reset ∧
      Rel s.reset (rotApi k (Spec.Api.freshWith a.M a.R a.W a.P a.C a.sig)) ∧
      DataRel s.reset (rotApi k (Spec.Api.freshWith a.M a.R a.W a.P a.C a.sig)) := by
  obtain ⟨s, h, h1, hT⟩ := applyOps_new hnew hm hrl hwl hops
  exact ⟨s, _, h, reset_serves_as_rotated k ⟨h1, hT.bounds.m32, hT.bounds.rl, hT.bounds.wl⟩
    hT.starts hT.rel hT.data⟩

end Gmars.Props.C12
