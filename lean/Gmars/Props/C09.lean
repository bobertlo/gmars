/-
  C09 — load-file text round-trips through the loader and the assembler (property theorems).
-/
import Gmars.Model.Load
import Gmars.Proofs.LoadLayout
import Gmars.Proofs.AsmLayout
import Gmars.Proofs.AsmLayoutExample
import Gmars.Spec.LoadText
import Gmars.Proofs.RoundTrip
import Gmars.Proofs.AsmPrint

namespace Gmars.Props.C09

/-- every `OP.MOD` the canonical printer writes is decoded to the same opcode and modifier,
    in upper, lower or mixed case of the first letter (all 17 × 7 combinations) -/
theorem op94_roundtrip (op : Op) (md : Modifier) :
    getOp94 (op.name.toList ++ '.' :: md.name.toList) = some (op, md) ∧
    getOp94 (GoStr.toLower (op.name.toList ++ '.' :: md.name.toList)) = some (op, md) := by
  refine ⟨?_, RoundTrip.getOp94_opWord op md⟩
  rw [AsmLine.getOp94_two (RoundTrip.ascii_opName op).2 (RoundTrip.dot_not_mem_mdName md),
    AsmLine.getOpCode_name, AsmLine.getOpMode_name]
  rfl

/-- every mode symbol is decoded to its mode -/
theorem mode_roundtrip (m : Mode) : getAddressMode [m.sym] = some m :=
  AsmLine.getAddressMode_sym m

/-- '88 mnemonics are decoded without a modifier -/
theorem op88_roundtrip (op : Op)
    (ho : op ∈ [Op.dat, .mov, .add, .sub, .jmp, .jmz, .jmn, .djn, .cmp, .slt, .spl]) :
    getOpCode88 op.name.toList = some op := by
  rw [AsmLine.getOpCode88_eq_filter, AsmLine.getOpCode_name, Option.filter,
    if_pos (RoundTrip.is88Op_of_mem ho)]

/-- `load_print` — for every well-formed warrior (any length ≥ 1, every instruction form legal
    in the dialect, fields in [0, M), every entry point), in both dialects and for every core
    size 0 < M < 2^63: writing it in the canonical load-file layout and reading it back with the
    load-file reader reproduces exactly the same instructions and entry point. (The entry point
    must be below 2^31: the reader parses the ORG/END argument as a 32-bit integer, see
    `load_print_large_start`; such a warrior has over two thousand million instructions.) -/
theorem load_print (cfg : Config) (code : List Instr) (start : Nat)
    (hM0 : 0 < cfg.coreSize.toNat) (hM : cfg.coreSize.toNat < 2 ^ 63)
    (hf : ∀ i ∈ code, i.a.toNat < cfg.coreSize.toNat ∧ i.b.toNat < cfg.coreSize.toNat)
    (hstart : start < code.length)
    (hl : (cfg.mode == .icws88) = true → ∀ i ∈ code, Spec.Legal88 i = true)
    (hs31 : start < 2 ^ 31) :
    parseLoadFile cfg (Spec.printLoad (cfg.mode == .icws88) code start) =
      .ok (some { name := "Unknown", author := "Anonymous", strategy := "",
                  code := code.toArray, start := (start : Int) }) :=
  RoundTrip.load_print cfg code start hM0 hM hf hstart hl hs31

/-- `load_print` under layout variation: the same result for every layout `printLoadG` with
    arbitrary runs of blanks / tabs / CR before the mnemonic, between all fields, around the comma
    and at the end of every line (only the gaps mnemonic–mode and mode–number must be non-empty) -/
theorem load_print_any_blanks (cfg : Config) (d : RoundTrip.DirGaps) (lines : List (RoundTrip.Gaps × Instr))
    (start : Nat) (hd : d.ok) (hM : cfg.coreSize.toNat < 2 ^ 63)
    (hl : ∀ p ∈ lines, RoundTrip.LineOK cfg.coreSize (cfg.mode == .icws88) p)
    (hstart : start < lines.length) (hs : start < 2 ^ 31) :
    parseLoadFile cfg (RoundTrip.printLoadG (cfg.mode == .icws88) d lines start) =
      .ok (some { name := "Unknown", author := "Anonymous", strategy := "",
                  code := (lines.map (·.2)).toArray, start := (start : Int) }) :=
  RoundTrip.load_printG cfg d lines start hd hM hl hstart hs

/-- the 2^31 bound of `load_print` is tight for the '94 reader -/
theorem load_print_large_start (cfg : Config) (code : List Instr) (start : Nat)
    (h94 : (cfg.mode == .icws88) = false) (hs : 2 ^ 31 ≤ start) :
    parseLoadFile cfg (Spec.printLoad false code start) = .ok none :=
  RoundTrip.load_print_large_start cfg code start h94 hs

/-- `asm_print` — the assembler half: for every well-formed warrior (every instruction form legal
    in the dialect, fields and entry point below 2^31 and below the core size, no longer than the
    maximum length), in both dialects, the canonical load-file text ASSEMBLES to exactly the same
    instructions and entry point (for every byte string that decodes to that text).  It is
    `asm_print_any_layout` below at the trivial layout (`layout_canonical`). -/
theorem asm_print (cfg : Config) (code : List Instr) (start : Nat)
    (hv : cfg.validate = true) (hM : cfg.coreSize.toNat < 2 ^ 63)
    (hf : ∀ i ∈ code, i.a.toNat < cfg.coreSize.toNat ∧ i.b.toNat < cfg.coreSize.toNat)
    (h31 : ∀ i ∈ code, i.a.toNat < 2 ^ 31 ∧ i.b.toNat < 2 ^ 31) (hs31 : start < 2 ^ 31)
    (hstart : start < code.length) (hlen : code.length ≤ cfg.length.toNat)
    (hl : (cfg.mode == .icws88) = true → ∀ i ∈ code, Spec.Legal88 i = true)
    (src : List UInt8) (hsrc : decodeRunes src = Spec.printLoad (cfg.mode == .icws88) code start) :
    assemble cfg src =
      .ok { name := "", author := "", strategy := "", code := code.toArray, start := (start : Int) } :=
  AsmPrint.asm_print cfg code start hv hM hf h31 hs31 hstart hlen hl src hsrc

/-
  The 2^31 bound on fields is tight for the assembler (operands are 32-bit expressions:
  `AsmPrint.asm_print_big`); the loader has no such bound on fields.  Tie only (checked on every
  run by the `load` domain, which feeds each text to both readers): metadata and `;assert` comment
  lines among the fillers for the assembler, which reads them as metadata / assertions.
-/

open LoadLayout in
/-- `load_print_any_layout` — layout-only variations do not change what the load-file reader
    reads: for every warrior printed in the canonical layout and EVERY layout perturbation `L` of
    that text — any mixture of upper and lower case in mnemonics, modifiers and `ORG`/`END`, any
    runs of blanks and tabs between the fields, a trailing `;comment` on any line, `\n` or
    `\r\n` line ends, any number of blank, white-space-only and full-line comment lines before,
    between and after the lines, with or without a newline after the last line — the reader
    returns exactly the same instructions and entry point (both dialects). -/
theorem load_print_any_layout (cfg : Config) (L : Layout) (start : Nat)
    (hok : L.ok cfg.coreSize (cfg.mode == .icws88)) (hplain : L.plain)
    (hM : cfg.coreSize.toNat < 2 ^ 63) (hstart : start < L.lines.length) (hs : start < 2 ^ 31) :
    parseLoadFile cfg (L.render (cfg.mode == .icws88) start) =
      .ok (some { name := "Unknown", author := "Anonymous", strategy := "",
                  code := (L.lines.map (·.instr)).toArray, start := (start : Int) }) :=
  LoadLayout.load_print_any_layout cfg L start hok hplain hM hstart hs

open LoadLayout in
/-- with metadata comment lines (`;name`, `;author`, `;strategy`) among the fillers: code and
    entry point are still those read from the unperturbed canonical text -/
theorem load_layout_agrees (cfg : Config) (L : Layout) (start : Nat)
    (hok : L.ok cfg.coreSize (cfg.mode == .icws88)) (hM : cfg.coreSize.toNat < 2 ^ 63)
    (hstart : start < L.lines.length) (hs : start < 2 ^ 31) :
    ∃ w w0, parseLoadFile cfg (L.render (cfg.mode == .icws88) start) = .ok (some w) ∧
      parseLoadFile cfg (Spec.printLoad (cfg.mode == .icws88) (L.lines.map (·.instr)) start) =
        .ok (some w0) ∧ w.code = w0.code ∧ w.start = w0.start :=
  LoadLayout.load_layout_agrees cfg L start hok hM hstart hs

/-- the unperturbed layout renders to the canonical text -/
theorem layout_canonical (legacy : Bool) (code : List Instr) (start : Nat) :
    (LoadLayout.Layout.canon code).render legacy start = Spec.printLoad legacy code start :=
  LoadLayout.render_canonical legacy code start


open AsmLayout LoadLayout in
/-- `asm_print_any_layout` — the ASSEMBLER half: every layout perturbation `L` of a printed load
    file (letter case, gaps of blanks / tabs / CR, trailing comments, LF or CR-LF, blank /
    white-space / comment lines anywhere, final newline present or not) assembles to exactly the
    printed warrior. `AsmPlain`: no filler line in front of END starts with `;name`, `;author`,
    `;strategy` or `;assert` (those are metadata / assertions for the assembler). -/
theorem asm_print_any_layout (cfg : Config) (L : Layout) (start : Nat)
    (hok : AsmOK L) (hplain : AsmPlain L (cfg.mode == .icws88))
    (hv : cfg.validate = true) (hM : cfg.coreSize.toNat < 2 ^ 63)
    (hf : ∀ p ∈ L.lines, p.instr.a.toNat < cfg.coreSize.toNat ∧ p.instr.b.toNat < cfg.coreSize.toNat)
    (h31 : ∀ p ∈ L.lines, p.instr.a.toNat < 2 ^ 31 ∧ p.instr.b.toNat < 2 ^ 31) (hs31 : start < 2 ^ 31)
    (hstart : start < L.lines.length) (hlen : L.lines.length ≤ cfg.length.toNat)
    (hl : (cfg.mode == .icws88) = true → ∀ p ∈ L.lines, Spec.Legal88 p.instr = true)
    (src : List UInt8) (hsrc : decodeRunes src = L.render (cfg.mode == .icws88) start) :
    assemble cfg src =
      .ok { name := "", author := "", strategy := "", code := (L.lines.map (·.instr)).toArray,
            start := (start : Int) } :=
  AsmLayout.asm_print_any_layout cfg L start hok hplain hv hM hf h31 hs31 hstart hlen hl src hsrc

open AsmLayout LoadLayout in
/-- `both_readers_agree_any_layout` — C09 in one statement: for every layout perturbation of a
    printed warrior the load-file reader and the assembler both return exactly that warrior's
    instructions and entry point -/
theorem both_readers_agree_any_layout (cfg : Config) (L : Layout) (start : Nat)
    (hok : L.ok cfg.coreSize (cfg.mode == .icws88)) (hplain : AsmPlain L (cfg.mode == .icws88))
    (hv : cfg.validate = true) (hM : cfg.coreSize.toNat < 2 ^ 63)
    (h31 : ∀ p ∈ L.lines, p.instr.a.toNat < 2 ^ 31 ∧ p.instr.b.toNat < 2 ^ 31) (hs31 : start < 2 ^ 31)
    (hstart : start < L.lines.length) (hlen : L.lines.length ≤ cfg.length.toNat)
    (src : List UInt8) (hsrc : decodeRunes src = L.render (cfg.mode == .icws88) start) :
    ∃ (w : WarriorData) (a : WarriorData),
      parseLoadFile cfg (L.render (cfg.mode == .icws88) start) = .ok (some w) ∧
      assemble cfg src = .ok a ∧ w.code = a.code ∧ w.start = a.start ∧
      a.code = (L.lines.map (·.instr)).toArray ∧ a.start = (start : Int) :=
  AsmLayout.both_readers_agree_any_layout cfg L start hok hplain hv hM h31 hs31 hstart hlen src hsrc

end Gmars.Props.C09
