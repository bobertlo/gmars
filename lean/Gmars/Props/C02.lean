/-
  C02 — battles are scheduled and decided by the standard rules (property theorems).
-/
import Gmars.Proofs.Queue
import Gmars.Proofs.Sched

namespace Gmars.Props.C02
open Gmars.Spec

/-- new tasks go to the back; a warrior never holds more tasks than the process limit
    (or than it already held) -/
theorem enqueue_bounded (P : Nat) (q succ : List Nat) :
    (enqueue P q succ).length ≤ max q.length P :=
  enqueue_length P q succ

/-- a split queues the fall-through task before the new one, and the new one is dropped
    exactly when the warrior already holds the process limit -/
theorem split_order (P : Nat) (q : List Nat) (nxt jt : Nat) :
    enqueue P q [nxt, jt] =
      if q.length + 1 < P then q ++ [nxt, jt]
      else if q.length < P then q ++ [nxt] else q := by
  unfold enqueue
  simp only [List.foldl_cons, List.foldl_nil]
  by_cases h1 : q.length < P
  · by_cases h2 : q.length + 1 < P <;> simp [h1, h2]
  · have : ¬ q.length + 1 < P := by omega
    simp [h1, this]

/-- `queue_push_refines`: the ring buffer of queue.go behaves as a bounded FIFO list — pushing
    never panics, appends at the back, and drops the new task exactly when the queue is full -/
theorem queue_push_refines (q : PQ) (a : UInt64) (h : q.Inv) :
    ∃ q', q.push a = .ok q' ∧ q'.Inv ∧ q'.size = q.size ∧
      q'.toList = (if q.toList.length < q.size.toNat then q.toList ++ [a] else q.toList) :=
  PQ.push_ok q a h

/-- `queue_pop_refines`: tasks are taken from the front, in first-in-first-out order -/
theorem queue_pop_refines (q : PQ) (h : q.Inv) :
    ∃ q', q.pop = .ok (q.toList.head?, q') ∧ q'.Inv ∧ q'.size = q.size ∧ q'.toList = q.toList.tail :=
  PQ.pop_ok q h

/-- a fresh queue is empty and well formed for every process limit ≥ 1 -/
theorem queue_new (size : UInt64) (h : 0 < size.toNat) :
    (PQ.new size).Inv ∧ (PQ.new size).toList = [] ∧ (PQ.new size).size = size :=
  PQ.new_inv size h

/-- `Warrior.Queue()` returns the FIFO contents (process limits up to 2^63) -/
theorem queue_values_refines (q : PQ) (h : q.Inv) (hs : q.size.toNat ≤ 2 ^ 63) : q.values = .ok q.toList :=
  PQ.values_ok_of_size_le q h hs

/-- the bound of `queue_values_refines` is tight: above 2^63 slots the index arithmetic of
    `Values()` wraps (not reachable: such a queue needs 64 EiB) -/
theorem queue_values_wraps_above_2_63 :
    PQ.wrapExample.Inv ∧ 2 ^ 63 < PQ.wrapExample.size.toNat ∧
    PQ.wrapExample.values ≠ .ok PQ.wrapExample.toList :=
  ⟨PQ.values_wraps_above_2_63.1, PQ.values_wraps_above_2_63.2.1, PQ.values_wraps_above_2_63.2.2.2.2⟩

/-- `runCycle_refines` — one `RunCycle` of the model of sim.go is one cycle of the reference
    scheduler `Spec.Api.cycle`: every living warrior, in loading order, executes exactly one task
    taken from the front of its own FIFO queue (through `Spec.step`), a warrior dies exactly when its
    queue becomes empty, the cycle stops early when a single survivor remains among several, the
    completed-cycle count and the returned living count agree — for every state satisfying the
    invariant (M ≤ 2^32, limits ≤ M) and every reference state related to it by `Rel` (same
    configuration, core, counters, warrior states and queues). -/
theorem runCycle_refines {s : Sim} {a : Api} (hwf : s.WF) (hm : s.m.toNat ≤ 2 ^ 32)
    (hr : s.readLimit.toNat ≤ s.m.toNat) (hw : s.writeLimit.toNat ≤ s.m.toNat) (hrel : Rel s a) :
    ∃ s' n, s.runCycle = .ok (s', n) ∧ Rel s' a.cycle.1 ∧ n = Int.ofNat a.cycle.2.2 ∧ s'.WF :=
  Gmars.runCycle_refines hwf hm hr hw hrel

/-- the `WarriorTaskPop` reports of a cycle list exactly the (warrior, pc) pairs the reference
    scheduler executes, in the same order -/
theorem runCycle_trace {s : Sim} {a : Api} (hwf : s.WF) (hm : s.m.toNat ≤ 2 ^ 32)
    (hr : s.readLimit.toNat ≤ s.m.toNat) (hw : s.writeLimit.toNat ≤ s.m.toNat) (hrel : Rel s a) :
    ∃ s' n new, s.runCycle = .ok (s', n) ∧ s'.log.toList = s.log.toList ++ new ∧
      pops new = execs a.cycle.2.1 :=
  Gmars.runCycle_trace hwf hm hr hw hrel

/-- `run_refines` — `Run()` always returns, ends in the final state of the reference battle
    (iterated reference cycles until a lone warrior died, a single survivor remains among several,
    or the cycle limit is reached) and reports exactly its survivors -/
theorem run_refines {s : Sim} {a : Api} (hwf : s.WF) (hm : s.m.toNat ≤ 2 ^ 32)
    (hr : s.readLimit.toNat ≤ s.m.toNat) (hw : s.writeLimit.toNat ≤ s.m.toNat) (hrel : Rel s a) :
    ∃ s', s.runLoop (s.maxCycles.toNat + 2) = .ok (s', true) ∧ Rel s' (a.run (a.C + 2)).1 ∧
      s'.results = (a.run (a.C + 2)).1.ws.map (fun w => w.st == .alive) :=
  Gmars.run_refines hwf hm hr hw hrel

/-- `run_eq_iterate` — one run-to-completion call is the cycle-by-cycle loop -/
theorem run_eq_iterate {s : Sim} {a : Api} (hwf : s.WF) (hm : s.m.toNat ≤ 2 ^ 32)
    (hr : s.readLimit.toNat ≤ s.m.toNat) (hw : s.writeLimit.toNat ≤ s.m.toNat) (hrel : Rel s a) :
    s.runLoop (s.maxCycles.toNat + 2) = s.iterCycles (s.maxCycles.toNat + 2) :=
  Gmars.run_eq_iterate hwf hm hr hw hrel

example : enqueue 3 [7] [8, 9] = [7, 8, 9] ∧ enqueue 2 [7] [8, 9] = [7, 8] ∧ enqueue 1 [7] [8, 9] = [7] := by decide

end Gmars.Props.C02
