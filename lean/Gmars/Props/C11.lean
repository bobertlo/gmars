/-
  C11 — no access reaches beyond the configured read and write distances.
  Property theorems only; helper lemmas live in Gmars/Proofs.
-/
import Gmars.Proofs.SpecLocal
import Gmars.Proofs.Refine

namespace Gmars.Props.C11
open Gmars.Spec

/-- The folding the simulator performs on `uint64` is the reference folding on naturals
    (for every limit 1 ≤ L ≤ M; no bound on M). -/
theorem model_fold_is_reference_fold (s : Sim) (p : UInt64)
    (hR : 0 < s.readLimit.toNat ∧ s.readLimit.toNat ≤ s.m.toNat)
    (hW : 0 < s.writeLimit.toNat ∧ s.writeLimit.toNat ≤ s.m.toNat) :
    (s.readFold p).toNat = fold p.toNat s.readLimit.toNat s.m.toNat ∧
    (s.writeFold p).toNat = fold p.toNat s.writeLimit.toNat s.m.toNat :=
  ⟨foldU_toNat _ _ _ hR.1 hR.2, foldU_toNat _ _ _ hW.1 hW.2⟩

/-- Every cell designated by a folded pointer lies within ⌊L/2⌋ of the executing instruction,
    around the circular core. -/
theorem folded_pointer_is_near (p L M pc : Nat) (hL : 0 < L) (hLM : L ≤ M) (hpc : pc < M) :
    circDist M ((pc + fold p L M) % M) pc ≤ L / 2 :=
  fold_near p L M pc hL hLM hpc

/-- With a limit equal to the core size folding has no effect beyond reduction modulo M. -/
theorem full_limit_is_no_limit (p M : Nat) : fold p M M = p % M := fold_full p M

/-- `write_locality` (reference semantics): with a write limit W ≤ M, no task alters a cell
    farther than ⌊W/2⌋ (around the circular core) from the instruction being executed — for every
    instruction form, core content, core size and read limit. -/
theorem write_locality (M R W : Nat) (c : Core) (pc : Nat) (hW : 0 < W) (hWM : W ≤ M) (hpc : pc < M) :
    ∀ a, (step M R W c pc).core.at a ≠ c.at a → circDist M a pc ≤ W / 2 :=
  Spec.write_locality M R W c pc hW hWM hpc

/-- `read_locality` (reference semantics): every queued successor is PC+1, PC+2 or a jump/split
    target within ⌊R/2⌋ of the executing instruction -/
theorem read_locality (M R W : Nat) (c : Core) (pc : Nat) (hR : 0 < R) (hRM : R ≤ M) (hpc : pc < M) :
    ∀ q ∈ (step M R W c pc).succ, q = (pc + 1) % M ∨ q = (pc + 2) % M ∨ circDist M q pc ≤ R / 2 :=
  Spec.succ_near M R W c pc hR hRM hpc

/-- the only cells a task can alter are the pre-decremented / post-incremented pointer cells and
    the write target of a storing opcode, all reached through write-limit folds -/
theorem changed_cells_are_write_targets (M R W : Nat) (c : Core) (pc : Nat) :
    ∀ a, (step M R W c pc).core.at a ≠ c.at a → a ∈ mayTouch M R W c pc :=
  Spec.step_changed_subset M R W c pc

/-- `write_locality` on the model of the Go code: in every state satisfying the invariant, with
    M ≤ 2^32 and limits not larger than the core, a task alters only cells within ⌊W/2⌋ -/
theorem model_write_locality (s : Sim) (pc : UInt64) (wi : Nat) (q : PQ) (h : StepPre s pc wi q)
    (s' : Sim) (he : s.exec pc wi = .ok s') :
    ∀ a (h1 : a < s.mem.size) (h2 : a < s'.mem.size), s'.mem[a] ≠ s.mem[a] →
      circDist s.m.toNat a pc.toNat ≤ s.writeLimit.toNat / 2 :=
  Gmars.model_write_locality s pc wi q h s' he

/-- `read_locality` on the model: every newly queued program counter is PC+1, PC+2 or within
    ⌊R/2⌋ of the executing instruction -/
theorem model_read_locality (s : Sim) (pc : UInt64) (wi : Nat) (q : PQ) (h : StepPre s pc wi q)
    (s' : Sim) (he : s.exec pc wi = .ok s') :
    ∃ q', s'.pqOf wi = some q' ∧ ∀ x ∈ q'.toList, x ∈ q.toList ∨
      (x.toNat = (pc.toNat + 1) % s.m.toNat ∨ x.toNat = (pc.toNat + 2) % s.m.toNat ∨
        circDist s.m.toNat x.toNat pc.toNat ≤ s.readLimit.toNat / 2) :=
  Gmars.model_read_locality s pc wi q h s' he

-- non-vacuity: M = 8000, L = 300, a pointer that folds backwards
example : fold 250 300 8000 = 7950 ∧ circDist 8000 ((10 + fold 250 300 8000) % 8000) 10 = 50 := by decide

end Gmars.Props.C11
