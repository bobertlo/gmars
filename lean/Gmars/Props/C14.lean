/-
  C14 — simulators and assemblies are isolated, repeatable and safe to use concurrently
  (property theorems).
-/
import Gmars.Gen.Facts
import Gmars.Proofs.Interleave
import Gmars.Proofs.MapOrder
import Gmars.Model.Expr

namespace Gmars.Props.C14

/-- `jobs_independent` — for jobs that only ever step their own state (no shared mutable state),
    EVERY interleaving of their steps, on any number of threads, leaves each job in exactly the
    state it reaches when run alone: the result depends only on the job's own steps -/
theorem jobs_independent {ι σ : Type} [DecidableEq ι] (step : ι → σ → σ) (init : ι → σ)
    (sched : List ι) (i : ι) :
    Interleave.runSched step init sched i = Interleave.iter (step i) (sched.count i) (init i) :=
  Interleave.jobs_independent step init sched i

/-- `facts_ok` — the premise of `jobs_independent` for THIS code base, re-extracted from the Go
    sources on every run: no package-level variable of package gmars is written after
    initialisation (the presets are read-only), the package imports none of sync / unsafe / time /
    os / math/rand, and the only goroutines it starts are the two token producers, each on its own
    per-instance channel -/
theorem facts_ok : Gen.allGood = true := Gen.facts_ok

/-! Copy isolation (`WarriorData.Copy` in `addWarrior`), in a heap of code slices. -/

/-- a heap of slices; a reference is an index -/
abbrev Heap := List (Array Instr)

/-- `data.Copy()`: allocate a fresh slice with the same contents -/
def copySlice (h : Heap) (ref : Nat) : Heap × Nat := (h ++ [h.getD ref #[]], h.length)

def writeSlice (h : Heap) (ref i : Nat) (v : Instr) : Heap :=
  h.set ref ((h.getD ref #[]).setIfInBounds i v)

/-- `copy_isolated` — after AddWarrior has copied the caller's code, no write through the caller's
    reference changes the simulator's copy, and no write to the copy changes the caller's data -/
theorem copy_isolated (h : Heap) (ref i : Nat) (v : Instr) (hr : ref < h.length) :
    let (h1, cp) := copySlice h ref
    (writeSlice h1 ref i v).getD cp #[] = h1.getD cp #[] ∧
    (writeSlice h1 cp i v).getD ref #[] = h1.getD ref #[] ∧
    h1.getD cp #[] = h.getD ref #[] := by
  simp only [copySlice, writeSlice]
  have hne : ref ≠ h.length := by omega
  refine ⟨?_, ?_, ?_⟩
  · simp [List.getD, hne]
  · simp [List.getD, List.getElem?_append_left hr]
  · simp [List.getD]

/-- `cycle_check_order_independent`: whether the EQU table is cyclic does not depend on the
    order in which Go happens to iterate over the symbol map -/
theorem cycle_check_order_independent {values values' : SymTab} (hp : values'.Perm values)
    (hnd : (values.map (·.1)).Nodup) :
    graphContainsCycle (buildReferenceGraph values') = graphContainsCycle (buildReferenceGraph values) :=
  MapOrder.cycle_perm hp hnd

/-- `expansion_order_independent`: on an acyclic table the resolved value of EVERY symbol is
    the same whatever the iteration order of the four map ranges of the assembler -/
theorem expansion_order_independent {values values' : SymTab} (hp : values'.Perm values)
    (hnd : (values.map (·.1)).Nodup)
    (hc : graphContainsCycle (buildReferenceGraph values) = false) :
    ∃ res res', expandExpressions values (buildReferenceGraph values) = some res ∧
      expandExpressions values' (buildReferenceGraph values') = some res' ∧
      ∀ k, res'.get? k = res.get? k :=
  MapOrder.expand_perm hp hnd hc

/-- `for_count_order_independent`: FOR counts evaluate to the same value in every order -/
theorem for_count_order_independent {values values' : SymTab} (hp : values'.Perm values)
    (hnd : (values.map (·.1)).Nodup) (expr : List Token) :
    expandAndEvaluate expr values' = expandAndEvaluate expr values :=
  MapOrder.expandAndEvaluate_perm hp hnd expr

/-- `symbol_check_order_independent`: the parser's undefined-symbol check gives the same verdict
    in every order (only the symbol named in the message differs) -/
theorem symbol_check_order_independent {p p' : Parser.PState} (hr : p'.references.Perm p.references)
    (hs : p'.symbols.Perm p.symbols) : Parser.symbolsValid p' = Parser.symbolsValid p :=
  MapOrder.symbolsValid_perm hr hs

/-
  Partial: data-race freedom under the Go memory model and the scheduler's interleavings are
  runtime behaviour no Lean model exhibits; the `conc` domain of the test harness runs the jobs on
  1…32 goroutines under the race detector and compares every result with the sequential one.
-/

end Gmars.Props.C14
