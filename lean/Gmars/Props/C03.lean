/-
  C03 — Redcode source assembles to the instructions it denotes (property theorems).
-/
import Gmars.Model.Compile
import Gmars.Spec.Program
import Gmars.Proofs.Legal88
import Gmars.Proofs.AsmLabels
import Gmars.Proofs.RenderLast
import Gmars.Proofs.AsmCompose
import Gmars.Proofs.AsmEqu
import Gmars.Proofs.AsmComposeForBytes
import Gmars.Proofs.AsmComposeEquCase
import Gmars.Proofs.AsmTailCompose
import Gmars.Proofs.AsmComposeAll
import Gmars.Proofs.AsmComposeAllExample
import Gmars.Proofs.AsmTailExample
import Gmars.Proofs.AsmComposeEquExample
import Gmars.Proofs.AsmComposeForExample

namespace Gmars.Props.C03

/-- omitted modifiers take the ICWS'94 defaults: the assembler's table (getOpMode94) is the
    independently written default table of the reference, for every opcode and every pair of
    addressing modes -/
theorem default_modifier_94 (op : Op) (am bm : Mode) : getOpMode94 op am bm = Spec.defaultMod94 op am bm :=
  AsmLine.getOpMode94_eq op am bm

/-- under ICWS'88 the assembler accepts exactly the operand combinations of the independently
    written '88 table and supplies the modifier the standard implies -/
theorem default_modifier_88 (op : Op) (am bm : Mode) (ha : Spec.mode88 am = true) (hb : Spec.mode88 bm = true) :
    getOpModeAndValidate88 op am bm = Spec.implied88 op am bm :=
  validate88_eq op am bm ha hb

/-- mnemonics are recognised in any letter case (all 17 opcodes, upper and lower) -/
theorem opcode_any_case (op : Op) :
    getOpCode op.name.toList = some op ∧ getOpCode (GoStr.toLower op.name.toList) = some op :=
  ⟨AsmLine.getOpCode_name op, (AsmLine.getOpCode_toLower _).trans (AsmLine.getOpCode_name op)⟩

/-- the compiler stage (source lines → warrior) with labels — for every program of labelled instructions whose
    operands are precedence-well-formed expressions over numbers and label names (plus ORG / END),
    every accepted configuration with a core below 2^63 and both dialects: the compiler stage on
    the program's source lines returns exactly the reference meaning `Spec.meaningFlat` — labels
    as offsets relative to the referring instruction, dialect default modes and modifiers, the
    lone-operand rule, reduction modulo the core size, the entry point, the length limit — or
    rejects exactly when the reference does. -/
theorem compile_meaning_labels (lexTokens : String → List Token) (cfg : Config) (sc : Spec.Cfg)
    (prog : List AsmLine.LItem) (ameta : AsmMeta)
    (hv : cfg.validate = true) (h63 : cfg.coreSize.toNat < 2 ^ 63) (hr : AsmLine.CfgRel cfg sc)
    (hnd : ((AsmLine.labelsFrom 0 prog).map (·.1) ++ AsmLine.constNames).Nodup)
    (hsmall : AsmLine.linstrCount prog < 2 ^ 63)
    (hw : AsmLine.ProgWF sc.M (AsmLine.labelsFrom 0 prog) 0 prog) :
    compile lexTokens cfg (AsmLine.lrender 0 prog) ameta =
      .ok ((Spec.meaningFlat sc (prog.map AsmLine.LItem.toItem)).map (AsmLine.toWD ameta)) :=
  AsmLine.compile_meaning_labels lexTokens cfg sc prog ameta hv h63 hr hnd hsmall hw

/-- per line: `assembleLine` = the reference's `instrMeaning` whenever the operand evaluations
    agree (defaults, lone operand, '88 legality, reduction: all opcodes, both dialects) -/
theorem line_meaning (c : Spec.Cfg) (t : Spec.Tables) (line : Nat) (opS : String)
    (mdS : Option String) (a : Spec.POperand) (b : Option Spec.POperand) (av bv : Int)
    (hM0 : 0 < c.M) (hM : c.M < 2 ^ 63)
    (hop : AsmLine.Ascii opS) (hdot : '.' ∉ opS.toList) (hmd : ∀ s, mdS = some s → AsmLine.Ascii s)
    (hA : Spec.evalAt c t line a.expr = some av)
    (hB : ∀ bo, b = some bo → Spec.evalAt c t line bo.expr = some bv) :
    AsmLine.lineShape c.legacy (c.M : Int) (AsmLine.opString opS mdS) (AsmLine.modeString a.mode)
        (AsmLine.modeString (b.bind (·.mode))) b.isSome av bv =
      Spec.instrMeaning c t line opS mdS a b :=
  AsmLine.lineShape_meaning c t line opS mdS a b av bv hM0 hM hop hdot hmd hA hB

/-- lexer and parser (stages 1 and 2) — a program written as words (labels with
    optional colons, op[.modifier], mode symbols, expression tokens, commas, comments) renders to
    characters with ANY runs of blanks and tabs between the words, blank lines and comment lines
    between statements; lexing and parsing that text yields exactly the program's source lines and
    metadata: the result does not depend on spacing, blank or comment lines, or colon suffixes. -/
theorem parse_lex_any_spacing (p : Render.WProg) (hlex : ∀ it ∈ p.items, it.ok = true) (hp : p.toProg.OK)
    (ls : List Render.SrcLine) (hls : ∀ l ∈ ls, l.ok (some '\n') = true)
    (hsame : Render.SameLines ls p.srcLines) :
    parse (Lex.tokens (Render.renderLines ls)) = .ok (some (p.toProg.lines, p.toProg.metadata)) :=
  Render.parse_lex_any_spacing p hlex hp ls hls hsame

open AsmCompose AsmLine Render in
/-- `assemble_meaning_partial` — the composed theorem for programs with labels (no EQU, no FOR):
    for every such program `p` (labels with or without colons, blank lines, comment lines, ORG lines,
    a final END), EVERY spacing `ls` of its words (any runs of blanks and tabs) and every byte
    string that decodes to that text, under every accepted configuration with a core below 2^63 and
    both dialects: the whole assembler — lexer, FOR pass loop, parser, compiler — returns exactly
    the reference meaning of the abstract program, or rejects exactly when the reference does. -/
theorem assemble_meaning_partial (cfg : Config) (sc : Spec.Cfg) (p : SProg)
    (hv : cfg.validate = true) (h63 : cfg.coreSize.toNat < 2 ^ 63) (hr : CfgRel cfg sc)
    (hlex : p.LexOK) (hnames : p.NamesOK) (hplain : ∀ it ∈ p.items, it.Plain)
    (hnd : (p.labels ++ constNames).Nodup) (hcl : ∀ x ∈ p.names, x ∈ p.labels)
    (hsmall : linstrCount p.litems < 2 ^ 63)
    (hw : ProgWF sc.M (labelsFrom 0 p.litems) 0 p.litems)
    (ls : List SrcLine) (hls : ∀ l ∈ ls, l.ok (some '\n') = true) (hsame : SameLines ls p.srcLines)
    (src : List UInt8) (hsrc : decodeRunes src = renderLines ls) :
    assemble cfg src =
      match Spec.meaningFlat sc (p.litems.map LItem.toItem) with
      | some m => .ok (toWD p.meta m)
      | none => .err := by
  -- the `match` here and the one in the cited statement are different auxiliary definitions; put
  -- side by side on the open term, Lean would evaluate `meaningFlat` to compare them
  rw [AsmCompose.assemble_meaning_labels cfg sc p hv h63 hr hlex hnames hplain hnd hcl hsmall hw ls hls hsame src hsrc]
  cases Spec.meaningFlat sc (p.litems.map LItem.toItem) <;> rfl

open AsmLine in
/-- the compiler stage with EQUs — the compiler stage computes the reference meaning for programs
    with labels AND EQU definitions placed anywhere (forward uses, EQU-in-EQU chains up to depth
    62, predefined constants, `;assert` lines): EQU names are substituted TEXTUALLY (`x equ 1+2`,
    `x*3` = 7), labels become offsets relative to the referring instruction -/
theorem compile_meaning_equ (lexTokens : String → List Token) (cfg : Config) (sc : Spec.Cfg)
    (prog : List XItem) (ameta : AsmMeta) (d : String → Nat)
    (hv : cfg.validate = true) (h63 : cfg.coreSize.toNat < 2 ^ 63) (hr : CfgRel cfg sc)
    (hnd : ((xlabelsFrom 0 prog).map (·.1) ++ (xequs prog).map (·.1) ++ constNames).Nodup)
    (hsmall : xinstrCount prog < 2 ^ 63)
    (hrk : ERanked (xequs prog ++ Spec.predefined sc) d) (hlt : ∀ s, d s < 63)
    (hw : XProgWF lexTokens sc (xtables sc prog) 0 prog) :
    compile lexTokens cfg (xrender 0 prog) ameta =
      .ok ((Spec.meaningFlat sc (prog.map XItem.toItem)).map (toWD ameta)) :=
  AsmLine.compile_meaning_equ lexTokens cfg sc prog ameta d hv h63 hr hnd hsmall hrk hlt hw

open AsmComposeEqu AsmCompose AsmLine Render in
/-- `assemble_meaning_equ` — the whole assembler FROM BYTES on programs with labels AND EQU
    definitions (placed anywhere, forward uses, EQU-in-EQU chains up to depth 62, predefined
    constants, `;assert` lines, comments, ORG, a final END): for EVERY spacing of the program's
    words and every byte string decoding to that text, `CompileWarrior` returns exactly the
    reference meaning (EQUs substituted textually, labels as relative offsets, defaults,
    reduction modulo the core size), or rejects exactly when the reference does. -/
theorem assemble_meaning_equ (cfg : Config) (sc : Spec.Cfg) (p : EProg) (d : String → Nat)
    (hv : cfg.validate = true) (h63 : cfg.coreSize.toNat < 2 ^ 63) (hr : CfgRel cfg sc)
    (hlex : p.LexOK) (hnames : p.NamesOK)
    (hplain : ∀ cs k, EItem.comment cs k ∈ p.items → plainComment cs)
    (hnd : (p.labels ++ p.equNames ++ constNames).Nodup)
    (hcl : ∀ x ∈ p.names, x ∈ p.labels ∨ x ∈ p.equNames ∨ x ∈ constNames)
    (hsmall : xinstrCount p.xitems < 2 ^ 63)
    (hrk : ERanked (xequs p.xitems ++ Spec.predefined sc) d) (hlt : ∀ s, d s < 63)
    (hw : XProgWF lexString sc (xtables sc p.xitems) 0 p.xitems)
    (ls : List SrcLine) (hls : ∀ l ∈ ls, l.ok (some '\n') = true) (hsame : SameLines ls p.srcLines)
    (src : List UInt8) (hsrc : decodeRunes src = renderLines ls) :
    assemble cfg src =
      match Spec.meaningFlat sc (p.xitems.map AsmLine.XItem.toItem) with
      | some m => .ok (toWD p.meta m)
      | none => .err := by
  rw [AsmComposeEqu.assemble_meaning_equ cfg sc p d hv h63 hr hlex hnames hplain hnd hcl hsmall hrk hlt hw
    ls hls hsame src hsrc]
  cases Spec.meaningFlat sc (p.xitems.map AsmLine.XItem.toItem) <;> rfl

open AsmComposeEqu AsmCompose AsmLine Render in
/-- `assemble_meaning_anycase` — letter case of mnemonics is immaterial: if `q` is `p` with every
    opcode, modifier and `equ`/`org`/`end` word written in ANY mixture of upper and lower case
    (labels and names stay as they are: they are case-sensitive), every spacing of `q` assembles
    to the reference meaning of `p`. -/
theorem assemble_meaning_anycase (cfg : Config) (sc : Spec.Cfg) (p q : EProg) (d : String → Nat)
    (hpq : p.CaseVar q)
    (hv : cfg.validate = true) (h63 : cfg.coreSize.toNat < 2 ^ 63) (hr : CfgRel cfg sc)
    (hlex : p.LexOK) (hnames : p.NamesOK)
    (hplain : ∀ cs k, EItem.comment cs k ∈ p.items → plainComment cs)
    (hnd : (p.labels ++ p.equNames ++ constNames).Nodup)
    (hcl : ∀ x ∈ p.names, x ∈ p.labels ∨ x ∈ p.equNames ∨ x ∈ constNames)
    (hsmall : xinstrCount p.xitems < 2 ^ 63)
    (hrk : ERanked (xequs p.xitems ++ Spec.predefined sc) d) (hlt : ∀ s, d s < 63)
    (hw : XProgWF lexString sc (xtables sc p.xitems) 0 p.xitems)
    (ls : List SrcLine) (hls : ∀ l ∈ ls, l.ok (some '\n') = true) (hsame : SameLines ls q.srcLines)
    (src : List UInt8) (hsrc : decodeRunes src = renderLines ls) :
    assemble cfg src =
      match Spec.meaningFlat sc (p.xitems.map AsmLine.XItem.toItem) with
      | some m => .ok (toWD p.meta m)
      | none => .err := by
  rw [AsmComposeEqu.assemble_meaning_anycase cfg sc p q d hpq hv h63 hr hlex hnames hplain hnd hcl hsmall hrk hlt hw
    ls hls hsame src hsrc]
  cases Spec.meaningFlat sc (p.xitems.map AsmLine.XItem.toItem) <;> rfl

open AsmTail AsmComposeEqu AsmCompose AsmLine Render in
/-- `assemble_meaning_equ_tail` — as `assemble_meaning_equ`, for programs whose END line carries
    labels (`last end first`): such a label denotes the address just after the code; the whole
    assembler, from bytes and for every spacing, returns the reference meaning
    `Spec.meaningFlatT` (which is `meaningFlat` with those labels added to the label table:
    `Spec.meaningFlatT_nil`). -/
theorem assemble_meaning_equ_tail (cfg : Config) (sc : Spec.Cfg) (p : TProg) (d : String → Nat)
    (hv : cfg.validate = true) (h63 : cfg.coreSize.toNat < 2 ^ 63) (hr : CfgRel cfg sc)
    (hlex : p.LexOK) (hnames : p.base.NamesOK) (htn : ∀ l ∈ p.tail, IsLabelName l)
    (hplain : ∀ cs k, EItem.comment cs k ∈ p.items → plainComment cs)
    (hnd : (p.labels ++ p.tail ++ p.equNames ++ constNames).Nodup)
    (hcl : ∀ x ∈ p.names, x ∈ p.labels ∨ x ∈ p.tail ∨ x ∈ p.equNames ∨ x ∈ constNames)
    (hsmall : xinstrCount p.body < 2 ^ 63)
    (hrk : ERanked (xequs p.body ++ Spec.predefined sc) d) (hlt : ∀ s, d s < 63)
    (hw : XProgWF lexString sc (xtablesT sc p.body p.kw p.e p.tail) 0 p.xitems)
    (ls : List SrcLine) (hls : ∀ l ∈ ls, l.ok (some '\n') = true) (hsame : SameLines ls p.srcLines)
    (src : List UInt8) (hsrc : decodeRunes src = renderLines ls) :
    assemble cfg src =
      match Spec.meaningFlatT sc (p.xitems.map AsmLine.XItem.toItem) p.tail with
      | some m => .ok (toWD p.meta m)
      | none => .err := by
  rw [AsmTail.assemble_meaning_equ_tail cfg sc p d hv h63 hr hlex hnames htn hplain hnd hcl hsmall hrk hlt hw
    ls hls hsame src hsrc]
  cases Spec.meaningFlatT sc (p.xitems.map AsmLine.XItem.toItem) p.tail <;> rfl

open AsmComposeFor AsmCompose AsmLine Render in
/-- `assemble_meaning_for` — the whole assembler FROM BYTES on programs with FOR/ROF blocks:
    `fp` is any program of label-free instructions and FOR blocks, sequential and nested to any
    depth, counts literal or an enclosing counter, counters used in operand expressions; `ls` any
    spacing of its words; `src` any byte string decoding to that text. When the manual unrolling
    `U` takes `k ≤ 12` expansions, `CompileWarrior` returns exactly the reference meaning
    `Spec.meaning` (FOR blocks unrolled by the reference itself), or rejects exactly when the
    reference does. (No shadowed counters; every name is an enclosing counter.) -/
theorem assemble_meaning_for (cfg : Config) (sc : Spec.Cfg) (fp : FProg)
    (U : List FInstr) (k : Nat) (hu : FUnroll fp U k) (hk : k ≤ 12) (hok : fp.OK) (hlex : fp.LexOK)
    (hfuel : U.length + k < 100000)
    (hv : cfg.validate = true) (h63 : cfg.coreSize.toNat < 2 ^ 63) (hr : CfgRel cfg sc)
    (hclosed : fp.Closed [])
    (hw : ProgWF sc.M [] 0 (U.map FInstr.toL))
    (ls : List SrcLine) (hls : ∀ l ∈ ls, l.ok (some '\n') = true) (hsame : SameLines ls fp.srcLines)
    (src : List UInt8) (hsrc : decodeRunes src = renderLines ls) :
    assemble cfg src =
      match Spec.meaning sc fp.toItems with
      | some m => .ok (toWD {} m)
      | none => .err :=
  AsmComposeFor.assemble_meaning_for cfg sc fp U k hu hk hok hlex hfuel hv h63 hr hclosed hw ls hls hsame src hsrc

open AsmComposeAll AsmComposeFor AsmComposeEqu AsmCompose AsmLine Render ExprProofs in
/-- `assemble_meaning_all` — labels, EQUs AND FOR blocks in one program, from bytes: `p` has
    labelled instructions, EQU lines, ORG/END, `;assert`, comment and blank lines at top level
    (labels with or without a colon) and FOR blocks (sequential and nested, label-free bodies
    whose operands may use counters, top-level labels and EQU names; counts literal, an
    enclosing counter, or an EQU defined in front with a literal value; at most 12 expansions);
    `ls` is any spacing of its words. `CompileWarrior` returns the reference meaning
    `Spec.meaning` — FOR blocks unrolled by the reference, labels positioned after the unrolling,
    EQUs substituted textually — or rejects exactly when the reference does. -/
theorem assemble_meaning_all (cfg : Config) (sc : Spec.Cfg) (p : AProg) (U : List EItem) (k : Nat)
    (d : String → Nat)
    (hu : AUnroll [] p.items U k) (hk : k ≤ 12) (hblocks : BlocksOK p.items)
    (hblex : ∀ c n body, AItem.block c n body ∈ p.items → (FProg.block c n body .nil).LexOK)
    (hfuel : U.length + k + 2 < 100000)
    (hv : cfg.validate = true) (h63 : cfg.coreSize.toNat < 2 ^ 63) (hr : CfgRel cfg sc)
    (hlex : (p.unrolled U).LexOK) (hnames : (p.unrolled U).NamesOK)
    (hplain : ∀ cs j, EItem.comment cs j ∈ (p.unrolled U).items → plainComment cs)
    (hnd : ((p.unrolled U).labels ++ (p.unrolled U).equNames ++ constNames).Nodup)
    (hcl : ∀ x ∈ (p.unrolled U).names,
      x ∈ (p.unrolled U).labels ∨ x ∈ (p.unrolled U).equNames ∨ x ∈ constNames)
    (hsmall : xinstrCount (p.unrolled U).xitems < 2 ^ 63)
    (hrk : ERanked (xequs (p.unrolled U).xitems ++ Spec.predefined sc) d) (hlt : ∀ s, d s < 63)
    (hw : XProgWF lexString sc (xtables sc (p.unrolled U).xitems) 0 (p.unrolled U).xitems)
    (ls : List SrcLine) (hls : ∀ l ∈ ls, l.ok (some '\n') = true) (hsame : SameLines ls p.srcLines)
    (src : List UInt8) (hsrc : decodeRunes src = renderLines ls) :
    assemble cfg src =
      match Spec.meaning sc p.toItems with
      | some m => .ok (toWD (p.unrolled U).meta m)
      | none => .err :=
  AsmComposeAll.assemble_meaning_all cfg sc p U k d hu hk hblocks hblex hfuel hv h63 hr hlex hnames hplain
    hnd hcl hsmall hrk hlt hw ls hls hsame src hsrc

/-
  Still open: block labels (the statement is FALSE there: finding F13, DESIGN.md §6) and labels / EQU / comment
  lines INSIDE FOR bodies; comparison operators inside operands; EQU names and END-line labels with a
  colon; upper-case `FOR`/`ROF` in the composed theorem (the stage theorems allow them).
-/

end Gmars.Props.C03
