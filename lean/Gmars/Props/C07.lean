/-
  C07 — operand expressions evaluate as integer arithmetic (property theorems).
-/
import Gmars.Model.Compile
import Gmars.Spec.Program
import Gmars.Proofs.ExprProofs
import Gmars.Proofs.AsmEqu

namespace Gmars.Props.C07

/-- the predefined names equal the configuration's values -/
theorem constants (c : Compile.Compiler) (hv : c.values = []) :
    let v := (Compile.loadConstants c).values
    v.get? "CORESIZE" = some [Compile.numTok c.cfg.coreSize.toNat] ∧
    v.get? "MAXLENGTH" = some [Compile.numTok c.cfg.length.toNat] ∧
    v.get? "MAXPROCESSES" = some [Compile.numTok c.cfg.processes.toNat] ∧
    v.get? "MINDISTANCE" = some [Compile.numTok c.cfg.distance.toNat] := by
  simp [Compile.loadConstants, hv, SymTab.set, SymTab.has, SymTab.get?]

open ExprProofs in
/-- `eval_render` — THE theorem of C07. For every concrete syntax tree that respects precedence
    and left associativity (`WFprec`: integers, + - * / %, sign runs of ANY length, redundant
    parentheses; literals and intermediate values below 2^500), the model of gmars's pipeline —
    token check, sign-run folding, double-negative rewriting, concatenation, Go's scanner and
    constant evaluator, 32-bit range check — applied to the tree's tokens yields exactly the
    tree's denotation: exact integer arithmetic, / and % truncating toward zero, an error exactly
    on a zero divisor or a value outside the 32-bit range. -/
theorem eval_render (c : CST) (hw : WFprec c) (hb : NoBigLit c) :
    evaluateExpression c.tokens =
      match denote c with
      | some v => if -2 ^ 31 ≤ v ∧ v < 2 ^ 31 then .ok v else .err
      | none => .err :=
  model_eval_cst c hw hb

open ExprProofs in
/-- the independent reference evaluator computes the same denotation on every such tree -/
theorem reference_eval (c : CST) (hw : WFprec c) :
    Spec.Expr.eval c.etoks = (denote c).map Spec.Expr.V.int :=
  reference_eval_cst c hw

open ExprProofs in
/-- hence model and reference agree on every rendering of every well-formed expression -/
theorem model_agrees_with_reference (c : CST) (hw : WFprec c) (hb : NoBigLit c) :
    evaluateExpression c.tokens =
      match Spec.Expr.evalInt c.etoks with
      | some v => .ok v
      | none => .err :=
  ExprProofs.model_agrees_with_reference c hw hb

open AsmLine in
/-- `assert_decision` — a program is rejected exactly when one of its ;assert conditions evaluates
    to zero (or cannot be evaluated): if every assert has a non-zero reference value the assert
    stage passes; if some assert is zero or undefined the assembler returns an error -/
theorem assert_decision (lexTokens : String → List Token) (cfg : Config) (sc : Spec.Cfg)
    (prog : List XItem) (ameta : AsmMeta) (d : String → Nat)
    (hv : cfg.validate = true) (h63 : cfg.coreSize.toNat < 2 ^ 63) (hr : CfgRel cfg sc)
    (hnd : ((xlabelsFrom 0 prog).map (·.1) ++ (xequs prog).map (·.1) ++ constNames).Nodup)
    (hsmall : xinstrCount prog < 2 ^ 63)
    (hrk : ERanked (xequs prog ++ Spec.predefined sc) d) (hlt : ∀ s, d s < 63)
    (hw : XProgWF lexTokens sc (xtables sc prog) 0 prog) :
    ((∀ cm e, XItem.assert cm e ∈ prog →
        ∃ v, Spec.evalAt sc (xtables sc prog) 0 e = some v ∧ v ≠ 0) →
      Compile.evaluateAssertions lexTokens (Compile.symC cfg (xrender 0 prog)) (xrender 0 prog) = .ok ()) ∧
    ((∃ cm e, XItem.assert cm e ∈ prog ∧
        (Spec.evalAt sc (xtables sc prog) 0 e = none ∨ Spec.evalAt sc (xtables sc prog) 0 e = some 0)) →
      Compile.evaluateAssertions lexTokens (Compile.symC cfg (xrender 0 prog)) (xrender 0 prog) = .error .goErr ∧
      compile lexTokens cfg (xrender 0 prog) ameta = .ok none) :=
  AsmLine.assert_decision lexTokens cfg sc prog ameta d hv h63 hr hnd hsmall hrk hlt hw

/-
  That the assembled field is the value reduced into [0, M) is part of
  `Props.C03.compile_meaning_equ`: `Spec.instrMeaning` stores `Spec.reduce M v`.

  Trusted here: `GoEval` is an executable MODEL of go/types.Eval (scanner with maximal munch,
  precedence climbing, exact constant arithmetic); it is validated against the real evaluator by
  the `evalraw` correspondence domain on every run, not verified.
-/

/-- division by zero is an error in the reference evaluator -/
theorem division_by_zero_is_error :
    Spec.Expr.evalInt [.num 7, .op "/", .num 0] = none ∧ Spec.Expr.evalInt [.num 7, .op "%", .num 0] = none := by
  constructor <;> rfl

/-- stacked unary signs evaluate by parity; division and remainder truncate toward zero
    (reference evaluator; the first line is the input of defect F8, DESIGN.md §6: gmars once
    folded any sign run containing a minus to a minus and answered `2*--3 = -6`) -/
theorem reference_signs_and_truncation :
    Spec.Expr.evalInt [.num 2, .op "*", .op "-", .op "-", .num 3] = some 6 ∧
    Spec.Expr.evalInt [.op "-", .op "-", .op "-", .num 5] = some (-5) ∧
    Spec.Expr.evalInt [.num 7, .op "/", .op "-", .num 2] = some (-3) ∧
    Spec.Expr.evalInt [.op "-", .num 7, .op "%", .num 3] = some (-1) ∧
    Spec.Expr.evalInt [.num 1, .op "-", .num 2, .op "-", .num 3] = some (-4) ∧
    Spec.Expr.evalInt [.num 2, .op "+", .num 3, .op "*", .num 4] = some 14 := by
  refine ⟨?_, ?_, ?_, ?_, ?_, ?_⟩ <;> rfl

end Gmars.Props.C07
