/-
  C15 — reports tell listeners about every change, at valid addresses (property theorems).
-/
import Gmars.Proofs.Abs
import Gmars.Proofs.RecorderProofs
import Gmars.Proofs.Reports
import Gmars.Proofs.DebugLine

namespace Gmars.Props.C15

/-- a fresh recorder (and a recorder after SimReset) shows every address as empty, owner -1 -/
theorem reset_shows_empty (r : Recorder) (len : Int → Option Nat) :
    ∃ r', r.report len { typ := .simReset } = .ok r' ∧
      (∀ a < r.coresize.toNat, r'.state.getD a .executed = .empty ∧ r'.color.getD a 0 = -1) := by
  refine ⟨_, rfl, ?_⟩
  intro a ha
  simp [Recorder.new, Array.getD, ha]

/-- cycle-boundary reports do not change the recorder -/
theorem cycle_reports_ignored (r : Recorder) (len : Int → Option Nat) (cy : Int) :
    r.report len { typ := .cycleStart, cycle := cy } = .ok r ∧
    r.report len { typ := .cycleEnd, cycle := cy } = .ok r := by
  constructor <;> rfl

/-- `changes_reported` — every cell whose content changes during a task is named in a write,
    increment or decrement report of that task (all instruction forms, all core contents, any core
    size and limits) -/
theorem changes_reported (s s' : Sim) (pc : UInt64) (wi : Nat) (hex : s.exec pc wi = .ok s') :
    ∀ a (h1 : a < s.mem.size) (h2 : a < s'.mem.size), s'.mem[a] ≠ s.mem[a] → a ∈ execNamed s s' :=
  changes_reported' s s' pc wi hex

/-- nothing is reported as written / incremented / decremented that the reference semantics could
    not touch (`Spec.mayTouch`), so {changed} ⊆ {reported} ⊆ {may touch} -/
theorem reported_subset_mayTouch (s s' : Sim) (pc : UInt64) (wi : Nat) (q : PQ)
    (h : StepPre s pc wi q) (hex : s.exec pc wi = .ok s') :
    ∀ a ∈ execNamed s s',
      a ∈ Spec.mayTouch s.m.toNat s.readLimit.toNat s.writeLimit.toNat s.absCore pc.toNat :=
  named_subset_mayTouch s s' pc wi q h hex

/-- `terminate_iff` — a task-termination report is emitted exactly when the task queues no
    successor, and it names the executed cell and the executing warrior -/
theorem terminate_iff (s s' : Sim) (pc : UInt64) (wi : Nat) (q : PQ)
    (h : StepPre s pc wi q) (hex : s.exec pc wi = .ok s') :
    ((∃ r ∈ execNew s s', r.typ = .taskTerminate) ↔
      (Spec.step s.m.toNat s.readLimit.toNat s.writeLimit.toNat s.absCore pc.toNat).succ = []) ∧
    (∀ r ∈ execNew s s', r.typ = .taskTerminate → r = rep .taskTerminate wi pc) :=
  Gmars.terminate_iff s s' pc wi q h hex

/-- `report_addresses_valid` — every report a task emits carries an address below the core size
    and the index of the executing warrior -/
theorem report_addresses_valid (s : Sim) (pc : UInt64) (wi : Nat) (q : PQ) (hwf : s.WF)
    (hpc : pc < s.m) (hq : s.pqOf wi = some q) :
    ∃ s', s.exec pc wi = .ok s' ∧
      ∀ r, r ∈ s'.log.toList.drop s.log.size → r.addr < s.m ∧ r.wi = Int.ofNat wi := by
  obtain ⟨s', _, he, _, _, _, _, _, _, _, hr⟩ := exec_wf s pc wi q hwf hpc hq
  exact ⟨s', he, hr⟩

/-- `recorder_last_writer`: fed a stream of reports whose addresses are
    inside the core (and whose spawn reports name existing warriors), the bundled state recorder
    never panics and shows, for every address, the kind and owner of the LAST operation that
    touched it (the last-writer fold `lastOp` of the stream). -/
theorem recorder_last_writer (r : Recorder) (len : Int → Option Nat) (rps : List Report)
    (h : r.Inv) (hpos : 0 < r.coresize.toNat)
    (hall : ∀ rp ∈ rps, rp.addr < r.coresize ∧
      (rp.typ = .warriorSpawn → ∃ n, len rp.wi = some n ∧ rp.addr.toNat + n ≤ 2 ^ 64)) :
    ∃ r', rps.foldlM (fun r rp => Recorder.report r len rp) r = .ok r' ∧ r'.Inv ∧
      r'.coresize = r.coresize ∧ r'.recordReads = r.recordReads ∧
      ∀ a < r.coresize.toNat,
        (r'.state.getD a .empty, r'.color.getD a (-1)) =
          rps.foldl (lastOp r.coresize.toNat len r.recordReads)
            (fun a => (r.state.getD a .empty, r.color.getD a (-1))) a :=
  Recorder.reports_ok r len rps h hpos hall

/-- `recorder_reset`: after a SimReset report every address shows (CoreEmpty, -1) -/
theorem recorder_reset (r : Recorder) (len : Int → Option Nat) (rp : Report) (h : rp.typ = .simReset) :
    ∃ r', r.report len rp = .ok r' ∧ ∀ a, r'.view a = (.empty, -1) := by
  obtain ⟨r', e, _, _, _, v⟩ := Recorder.reset_empty r len rp h
  exact ⟨r', e, v⟩

/-- a fresh recorder satisfies the hypotheses of `recorder_last_writer` -/
theorem recorder_new_inv (coresize : UInt64) : (Recorder.new coresize).Inv := Recorder.new_inv coresize


/-- `debug_trace_faithful` — the listener shipped with the package (`NewDebugReporter`) loses
    nothing: for every report that names a warrior and an address, the line it prints (model
    `debugLine`, tied by the `debug` domain) determines the report's type, warrior index and
    address; the other report (`r'`) is arbitrary, so no two different such reports, under any
    cycle counts and cells, print alike. -/
theorem debug_trace_faithful (r r' : Report) (c c' : Nat) (m : UInt64) (cell cell' : Instr)
    (ht : r.typ ≠ .simReset ∧ r.typ ≠ .cycleStart ∧ r.typ ≠ .cycleEnd)
    (h : debugLine r c m cell = debugLine r' c' m cell') :
    r.typ = r'.typ ∧ r.wi = r'.wi ∧ r.addr = r'.addr :=
  DebugLine.debugLine_faithful r r' c c' m cell cell' ht h

/-- an `Exec` line also determines the instruction that was executed (fields inside the core) -/
theorem debug_exec_cell (r r' : Report) (c c' : Nat) (m : UInt64) (cell cell' : Instr)
    (hp : r.typ = .taskPop) (hi : cell.a < m ∧ cell.b < m) (hj : cell'.a < m ∧ cell'.b < m)
    (h : debugLine r c m cell = debugLine r' c' m cell') : cell = cell' :=
  DebugLine.debugLine_exec_cell r r' c c' m cell cell' hp hi hj h

example : String.ofList (debugLine { typ := .increment, wi := 1, addr := 7 } 0 8000 default) =
    "W01 0007: Increment\n" := by decide

end Gmars.Props.C15
