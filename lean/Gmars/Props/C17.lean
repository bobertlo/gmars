/-
  C17 — the command-line tool reports the battles it was asked to run (property theorems).
-/
import Gmars.Proofs.Survivor

namespace Gmars.Props.C17
open Gmars.Cli

/-- the counters after tallying a list of two-warrior rounds, starting from `t` -/
def tallyAll (t : Tally) (rs : List (Bool × Bool)) : Tally := rs.foldl (fun t r => t.add [r.1, r.2]) t

theorem tally_partition_from (t : Tally) (rs : List (Bool × Bool))
    (h : ∀ r ∈ rs, r ≠ (false, false)) :
    (tallyAll t rs).w1win + (tallyAll t rs).w2win + (tallyAll t rs).w1tie
        = t.w1win + t.w2win + t.w1tie + rs.length ∧
    ((tallyAll t rs).w1tie : Int) - (tallyAll t rs).w2tie = (t.w1tie : Int) - t.w2tie :=
  Cli.tally_foldlM (fun r => some [r.1, r.2]) rs
    (fun r hr alive e => by cases e; exact ⟨rfl, fun hc => h r hr (by cases r; cases hc; rfl)⟩)
    t _ (List.foldlM_pure ..)

/-- `tally_partition` — over any number of rounds (any placement), each round in which somebody
    survives is counted exactly once: as a win for one side or as a tie for both -/
theorem tally_partition (rs : List (Bool × Bool)) (h : ∀ r ∈ rs, r ≠ (false, false)) :
    (tallyAll {} rs).w1win + (tallyAll {} rs).w2win + (tallyAll {} rs).w1tie = rs.length ∧
    (tallyAll {} rs).w1tie = (tallyAll {} rs).w2tie := by
  obtain ⟨h1, h2⟩ := tally_partition_from {} rs h
  constructor
  · simpa using h1
  · have h3 : ((tallyAll {} rs).w1tie : Int) - (tallyAll {} rs).w2tie = 0 := by simpa using h2
    omega

/-- `tally_partition` for the tool itself: for every pair of warriors (fields below the core
    size, sane entry points), every configuration the flags can describe with core ≤ 2^32, and
    ANY list of placements of warrior #2 — so for every outcome of the random placement over any
    number of rounds — each round is counted exactly once: wins₁ + wins₂ + ties = rounds and
    ties₁ = ties₂ (a round never ends with both warriors dead: the battle stops at one survivor) -/
theorem cli_tally_partition {cfg : Config} {w1 w2 : WarriorData} {places : List UInt64}
    {t : Tally} (hpre : RoundPre cfg w1 w2)
    (h : battles cfg [w1, w2] places = some t) :
    t.w1win + t.w2win + t.w1tie = places.length ∧ t.w1tie = t.w2tie :=
  Gmars.cli_tally_partition hpre h

/-- `fixed_output` — one round of the tool at a fixed placement is the reference battle: create,
    add warrior 1, spawn it at 0, add warrior 2, spawn it at the placement, run to completion
    (`refBattle`, built from `Spec.Api` and `Spec.step` only); the survivors it tallies are the
    reference's survivors -/
theorem fixed_output {cfg : Config} {w1 w2 : WarriorData} {place : UInt64}
    (hv : cfg.validate = true) (hpre : RoundPre cfg w1 w2) :
    round cfg [w1, w2] place =
      (refBattle cfg w1 w2 place.toNat).map (fun a => a.ws.map (fun w => w.st == .alive)) ∧
    (refBattle cfg w1 w2 place.toNat).isSome = true :=
  Gmars.fixed_output hv hpre

/-- `flags_to_config` — without a preset the flags -8 -s -p -c -l map to
    NewQuickConfig(mode, size, processes, cycles, length): limits = core size, distance = length -/
theorem flags_to_config (f : Flags) (h : f.preset = "") :
    config f = some {
      mode := if f.use88 then .icws88 else .icws94, coreSize := intToAddr f.size,
      processes := intToAddr f.procs, cycles := intToAddr f.cycles, readLimit := intToAddr f.size,
      writeLimit := intToAddr f.size, length := intToAddr f.len, distance := intToAddr f.len } := by
  simp [config, h, Config.quick]

/-- a preset overrides every other flag -/
theorem preset_overrides (f g : Flags) (h : f.preset = g.preset) (hp : f.preset ≠ "") : config f = config g := by
  simp [config, h ▸ hp, h]

example : (config { preset := "nop256" }).map (·.coreSize) = some 256 := by decide

end Gmars.Props.C17
