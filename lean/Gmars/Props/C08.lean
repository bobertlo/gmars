/-
  C08 — FOR/ROF blocks assemble exactly like their manual unrolling (property theorems).
-/
import Gmars.Spec.Program
import Gmars.Proofs.ForUnroll
import Gmars.Proofs.AsmComposeForBytes

namespace Gmars.Props.C08
open Gmars.Spec

def forFree (items : List Item) : Prop := ∀ it ∈ items, match it with | .for_ .. => False | _ => True

/-- a program without FOR blocks is its own unrolling and needs no expansion pass -/
theorem unroll_for_free (fuel : Nat) (items before : List Item) (k : Nat) (h : forFree items)
    (hf : items.length < fuel) : unrollAux fuel items before k = some (before ++ items, k) := by
  have hU : ∀ eqs, AsmComposeFor.Unr eqs items items 0 := by
    clear hf
    induction items with
    | nil => exact .nil
    | cons it rest ih =>
      have hit : AsmComposeFor.isFor it = false := by
        have := h it (List.mem_cons_self ..)
        cases it with
        | for_ => exact this.elim
        | _ => rfl
      exact fun eqs => .other hit (ih (fun x hx => h x (List.mem_cons_of_mem _ hx)) _)
  exact AsmComposeFor.unrollAux_mono ((hU _).run before k rfl) hf

open ForPass in
/-- `expand_pass` — one pass of the FOR expander performs exactly the manual unrolling of the
    FIRST outermost block and streams everything else through: lines before the block unchanged,
    the block replaced by `count` copies of its body with the counter replaced by 1 … count (inner
    blocks copied verbatim for later passes; the labels of the FOR line renamed and emitted once, in
    front of the copies, if the body has a line with an opcode: `Block.renamed`), the rest of the
    stream unchanged up to its terminator. -/
theorem expand_pass (e : List Token → SymTab → EvalRes) (syms : SymTab)
    (pre : List Line) (b : Block) (q : List Token) (z : Token) (rest : List Token) (n : Int)
    (hpre : ∀ l ∈ pre, l.WF) (hpass : ∀ l ∈ pre, PassLine l.toks) (hb : b.WF)
    (hq : ∀ x ∈ q, x.isTerm = false) (hz : z.isTerm = true)
    (hev : e (exprToks b.count) syms = .ok n) :
    forExpandWith e (flat pre ++ b.flat ++ q ++ z :: rest) syms =
      .ok (some (flat pre ++ b.unrolled n ++ q ++ [endTok z]), false) :=
  ForPass.expand_pass e syms pre b q z rest n hpre hpass hb hq hz hev

open ForPass in
/-- `for_unroll_partial` — a program whose blocks need k ≤ 12 expansion passes leaves the pass
    loop of CompileWarrior as the token list of its complete manual unrolling -/
theorem for_unroll_partial {k : Nat} {ts out : List Token} (h : Unrolls k ts out)
    (fuel depth : Nat) (hk : depth + k ≤ 12) (hf : k < fuel) :
    forLoop fuel depth ts = .ok out :=
  ForPass.for_unroll_partial h fuel depth hk hf

open ForPass in
/-- the 13th expansion is refused ("for loop depth exceeded"): finding F12 as a theorem -/
theorem thirteenth_pass_refused {k : Nat} {ts mid ts' : List Token} (h : Steps k ts mid)
    (hlast : UnrollStep mid ts') (fuel depth : Nat) (hk : depth + k = 12) (hf : k < fuel) :
    forLoop fuel depth ts = .error .err :=
  ForPass.for_unroll_too_deep h hlast fuel depth hk hf

open ForPass in
/-- the unrolling theorem for structured programs (sequential and nested blocks, counts literal or an
    outer counter, label-free blocks) needing at most 12 passes: the pass loop yields the tokens of
    the fully unrolled program -/
theorem for_unroll_full (p : Prog) (ls : List Line) (k : Nat) (h : FullUnroll p ls k) (hk : k ≤ 12) :
    forLoop 14 0 (flat p.render ++ [eofTok]) = .ok (flat ls ++ [eofTok]) :=
  ForPass.for_unroll_full p ls k h hk

open AsmComposeFor AsmLine in
/-- `for_unroll_meaning` — the property at the level of whole assemblies: the token stream of a
    FOR program (label-free blocks, sequential and nested, counts literal or an enclosing
    counter) assembles to the MEANING of its manual unrolling as the reference computes it
    (`Spec.meaning` = `Spec.unroll` then `meaningFlat`), when at most 12 expansions are needed -/
theorem for_unroll_meaning (cfg : Config) (sc : Spec.Cfg) (fp : FProg)
    (U : List FInstr) (k : Nat) (hu : FUnroll fp U k) (hk : k ≤ 12) (hok : fp.OK)
    (hfuel : U.length + k < 100000)
    (hv : cfg.validate = true) (h63 : cfg.coreSize.toNat < 2 ^ 63) (hr : CfgRel cfg sc)
    (hclosed : fp.Closed [])
    (hw : ProgWF sc.M [] 0 (U.map FInstr.toL)) :
    assembleTokens cfg (ForPass.flat fp.toProg.render ++ [ForPass.eofTok]) =
      match Spec.meaning sc fp.toItems with
      | some m => .ok (toWD {} m)
      | none => .err :=
  AsmComposeFor.assemble_meaning_for_tokens cfg sc fp U k hu hk hok hfuel hv h63 hr hclosed hw

open AsmComposeFor in
/-- the reference's own unrolling of such a program is `U`, with exactly `k` expansions -/
theorem reference_unroll (fp : FProg) (U : List FInstr) (k : Nat) (hu : FUnroll fp U k)
    (hfuel : U.length + k < 100000) :
    Spec.unroll fp.toItems = some (U.map FInstr.toItem) :=
  AsmComposeFor.spec_unroll hu hfuel

open AsmComposeFor Render in
/-- with 13 or more expansions the assembler gives up, from bytes (finding F12) -/
theorem too_deep_from_bytes (cfg : Config) (fp : FProg) (U : List FInstr) (k : Nat)
    (hu : FUnroll fp U k) (hk : 13 ≤ k) (hok : fp.OK) (hlex : fp.LexOK)
    (ls : List SrcLine) (hls : ∀ l ∈ ls, l.ok (some '\n') = true) (hsame : SameLines ls fp.srcLines)
    (src : List UInt8) (hsrc : decodeRunes src = renderLines ls) :
    assemble cfg src = .err :=
  AsmComposeFor.assemble_for_too_deep_bytes cfg fp U k hu hk hok hlex ls hls hsame src hsrc

/-
  The full statement of the property (any number of expansions, "up to 40") is false of the
  code: `thirteenth_pass_refused` / `too_deep_from_bytes` are the proof (finding F12, DESIGN.md §6);
  block labels referenced from outside the block are finding F13. Shadowed counters
  (`i for 2 / i for 2 / dat i / rof / rof`) are rejected by the assembler while the reference
  unrolls them; they are outside the property's quantifier.
-/

/-- a zero-count block contributes nothing; a block with count n contributes n copies of its
    body (checked on a nested example by evaluation: 2 × 2 copies, then a zero-count block,
    four block expansions in all) -/
example : (unroll [.for_ [] "i" [.num 2] [.for_ [] "j" [.num 2]
      [.instr [] "dat" none ⟨none, [.name "i"]⟩ (some ⟨none, [.name "j"]⟩)]],
    .for_ [] "k" [.num 0] [.instr [] "nop" none ⟨none, [.num 0]⟩ none]]).map (·.length) = some 4 := by rfl

end Gmars.Props.C08
