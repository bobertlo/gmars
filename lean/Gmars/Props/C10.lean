/-
  C10 — the load-file reader rejects what it cannot represent (property theorems).
-/
import Gmars.Model.Load
import Gmars.Spec.Legal88
import Gmars.Proofs.LoadOK
import Gmars.Proofs.LoadU
import Gmars.Proofs.LoadUAscii

namespace Gmars.Props.C10

/-- final entry-point check of both readers: an accepted warrior's entry point lies inside its
    code, or is zero for an empty warrior (which only the '88 reader accepts) -/
theorem finish_start_ok (legacy : Bool) (st : LoadState) (w : WarriorData) (h0 : 0 ≤ st.start)
    (h : finish legacy st = some w) :
    (w.code.size = 0 ∧ w.start = 0) ∨ (0 ≤ w.start ∧ w.start < w.code.size) := by
  obtain ⟨e1, e2, e3⟩ := finish_some h h0
  rw [e1, e2]
  exact e3

/-- the Go validation of an '88 instruction accepts exactly the forms of the independently
    written ICWS'88 table, with the modifier the standard implies -/
theorem validate88_is_table (op : Op) (am bm : Mode) (md : Modifier)
    (ha : Spec.mode88 am = true) (hb : Spec.mode88 bm = true)
    (ho : op ∈ [Op.dat, .mov, .add, .sub, .jmp, .jmz, .jmn, .djn, .cmp, .slt, .spl]) :
    getOpModeAndValidate88 op am bm = some md ↔ Spec.implied88 op am bm = some md := by
  rw [validate88_eq op am bm ha hb]

/-- `load_no_panic`: for EVERY text, reading a load file terminates (the model is a structural
    recursion over the lines) and never panics, under any configuration with a non-zero core size -/
theorem load_no_panic {cfg : Config} (h0 : cfg.coreSize ≠ 0) (text : GoStr.Str) :
    ∃ r, parseLoadFile cfg text = .ok r :=
  Gmars.load_no_panic h0 text

/-- `load_ok_wf`: whatever the text, an accepted warrior has its entry point inside its code (or
    zero when empty), all fields below the core size, and under ICWS'88 only legal '88
    instructions with the implied modifier -/
theorem load_ok_wf {cfg : Config} {text : GoStr.Str} {w : WarriorData}
    (h0 : cfg.coreSize ≠ 0) (h63 : cfg.coreSize.toNat < 2 ^ 63)
    (h : parseLoadFile cfg text = .ok (some w)) :
    ((w.code.size = 0 ∧ w.start = 0) ∨ (0 ≤ w.start ∧ w.start < w.code.size)) ∧
    (∀ i ∈ w.code.toList, i.a < cfg.coreSize ∧ i.b < cfg.coreSize) ∧
    (cfg.mode = .icws88 → ∀ i ∈ w.code.toList, Spec.Legal88 i = true) :=
  Gmars.load_ok_wf h0 h63 h

/-- `no_silent_skip`: an accepted read produced exactly one instruction for every non-blank,
    non-comment line before the end marker that is not an ORG/END directive — nothing is skipped -/
theorem no_silent_skip {cfg : Config} {text : GoStr.Str} {w : WarriorData}
    (h : parseLoadFile cfg text = .ok (some w)) :
    w.code.size = (Spec.significantInstrLines text).1 :=
  Gmars.no_silent_skip h

/- The same three statements for EVERY byte string.
`parseLoadFileU` is the byte-level model: text as `List UInt8`, Go's rune decoding (an invalid
byte is U+FFFD of width 1), `strings.Fields` / `TrimSpace` with `unicode.IsSpace`,
`strings.ToLower` (U+0130 and U+212A lower to ASCII), metadata as raw byte slices. It is the
model the correspondence check runs; `loadU_ascii` relates it to the ASCII model above. -/

/-- `load_no_panic` for every byte string (valid UTF-8 or not) -/
theorem loadU_no_panic {cfg : Config} (h0 : cfg.coreSize ≠ 0) (text : GoStrU.Bytes) :
    ∃ r, parseLoadFileU cfg text = .ok r :=
  Gmars.loadU_no_panic h0 text

/-- `load_ok_wf` for every byte string -/
theorem loadU_ok_wf {cfg : Config} {text : GoStrU.Bytes} {w : WarriorDataB}
    (h0 : cfg.coreSize ≠ 0) (h63 : cfg.coreSize.toNat < 2 ^ 63)
    (h : parseLoadFileU cfg text = .ok (some w)) :
    ((w.code.size = 0 ∧ w.start = 0) ∨ (0 ≤ w.start ∧ w.start < w.code.size)) ∧
    (∀ i ∈ w.code.toList, i.a < cfg.coreSize ∧ i.b < cfg.coreSize) ∧
    (cfg.mode = .icws88 → ∀ i ∈ w.code.toList, Spec.Legal88 i = true) :=
  Gmars.loadU_ok_wf h0 h63 h

/-- `no_silent_skip` for every byte string -/
theorem loadU_no_silent_skip {cfg : Config} {text : GoStrU.Bytes} {w : WarriorDataB}
    (h : parseLoadFileU cfg text = .ok (some w)) :
    w.code.size = (Spec.significantInstrLinesU text).1 :=
  Gmars.loadU_no_silent_skip h

/-- on ASCII text the byte-level reader is the ASCII reader -/
theorem loadU_ascii (cfg : Config) (text : GoStrU.Bytes) (h : ∀ b ∈ text, b < 0x80) :
    parseLoadFile cfg (embB text) = (parseLoadFileU cfg text).map (Option.map WarriorDataB.toW) :=
  Gmars.parseLoadFileU_ascii cfg text h

-- non-vacuity: a two-line '88 file is accepted, the comma-only line (finding F22 of DESIGN.md §6) is refused
example : (parseLoadFile { mode := .icws88, coreSize := 8000 } "MOV $ 0, $ 1\nEND 0\n".toList).toOption.join.isSome = true := by decide +kernel
example : (parseLoadFile { mode := .icws94, coreSize := 8000 } "MOV.I $ 0, $ 1\n,\n".toList).toOption = some none := by decide +kernel

end Gmars.Props.C10
