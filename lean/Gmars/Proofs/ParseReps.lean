/-
  The parser-level programs, as syntax: token lists in whole lines, with the source lines and the
  metadata the parser makes of them and the names they define and refer to.  On top of the
  statements, comment lines and blank lines of `RenderParse`:
  `XItem`/`XProg`: + `ORG expr` lines (anywhere) and a final `END [expr]` line (the last line read:
  the parser stops there, whatever follows);
  `PItem`/`PProg`: + EQU lines `name equ expr` (the parser records the name as a label of a
  pseudo-op line, so it must be new, like a label; `ofX` embeds `XProg`);
  `YItem`/`YFin`/`YProg`: the form of a printed file whose statement, ORG and END lines may carry a
  trailing comment and whose last line may be unterminated.  A trailing comment is recorded in the
  `comment` field of the instruction / pseudo-op line (it is NOT scanned for `;name` / `;author` /
  `;strategy`: only `parseLine` does that, at the start of a line), the newline after it is counted
  in `newlines`.
  That the parser reads `XProg` and `PProg` so is proved in `AsmComposeEquParse` (from `ParserWalk`;
  of `YProg` nothing is proved: `AsmLayoutWalk` walks the lines of a printed file directly); the
  modules that relate programs to their text need only the definitions.
-/
import Gmars.Proofs.RenderParse

namespace Gmars
namespace AsmCompose
open Gmars.Render

inductive XItem
  | base (it : Item)
  | org (kw : String) (toks : List Token) (blanks : Nat)

def XItem.tokens : XItem → List Token
  | .base it => it.tokens
  | .org kw toks k => (⟨.text, kw⟩ : Token) :: (toks ++ nlTok :: List.replicate k nlTok)

def XItem.OK : XItem → Prop
  | .base it => it.OK
  | .org kw toks _ => lowerStr kw = "org" ∧ toks ≠ [] ∧ ∀ t ∈ toks, t.isExpressionTerm = true

def XItem.lines : XItem → Int → Int → List SourceLine
  | .base it, ln, cl => it.lines ln cl
  | .org kw toks k, ln, _ => pseudoLine ln kw toks :: blankLines (ln + 1) k

def XItem.blanks : XItem → Nat
  | .base it => it.blanks
  | .org _ _ k => k

def XItem.codeLines : XItem → Int
  | .base it => it.codeLines
  | .org _ _ _ => 0

def XItem.labelNames : XItem → List String
  | .base it => it.labelNames
  | .org _ _ _ => []

def XItem.refs : XItem → List String → List String
  | .base it, refs => it.refs refs
  | .org _ toks _, refs => addRefs toks refs

def XItem.metadata : XItem → AsmMeta → AsmMeta
  | .base it, m => it.metadata m
  | .org _ _ _, m => m

def xitemsTokens : List XItem → List Token
  | [] => []
  | it :: r => it.tokens ++ xitemsTokens r

def xitemsLabels : List XItem → List String
  | [] => []
  | it :: r => it.labelNames ++ xitemsLabels r

def xitemsRefs : List XItem → List String → List String
  | [], refs => refs
  | it :: r, refs => xitemsRefs r (it.refs refs)

def xitemsMeta : List XItem → AsmMeta → AsmMeta
  | [], m => m
  | it :: r, m => xitemsMeta r (it.metadata m)

/-- `lead` blank lines, the items, and either the end of the input or an END line `kw [toks]`
    followed, after its newline, by `trail` (not empty: at least the EOF token; never read) -/
structure XProg where
  lead : Nat := 0
  items : List XItem
  fin : Option (String × List Token) := none
  trail : List Token := [eofTok]

def XProg.finTokens (p : XProg) : List Token :=
  match p.fin with
  | none => [eofTok]
  | some (kw, toks) => (⟨.text, kw⟩ : Token) :: (toks ++ nlTok :: p.trail)

def XProg.tokens (p : XProg) : List Token :=
  List.replicate p.lead nlTok ++ (xitemsTokens p.items ++ p.finTokens)

def XProg.labels (p : XProg) : List String := xitemsLabels p.items

def XProg.metadata (p : XProg) : AsmMeta := xitemsMeta p.items {}

def XProg.refs (p : XProg) : List String :=
  match p.fin with
  | none => xitemsRefs p.items []
  | some (_, toks) => addRefs toks (xitemsRefs p.items [])

structure XProg.OK (p : XProg) : Prop where
  items : ∀ it ∈ p.items, it.OK
  nodup : p.labels.Nodup
  notPredefined : ∀ l ∈ p.labels, l ∉ predefined
  defined : ∀ x ∈ p.refs, x ∈ p.labels ∨ x ∈ predefined
  fin : ∀ kw toks, p.fin = some (kw, toks) →
    lowerStr kw = "end" ∧ (∀ t ∈ toks, t.isExpressionTerm = true) ∧ p.trail ≠ []

end AsmCompose

namespace AsmComposeEqu
open Gmars.Render Gmars.AsmCompose

def equLine (ln : Int) (name kw : String) (toks : List Token) : SourceLine :=
  { line := ln, typ := .pseudoOp, labels := [name], op := kw, a := some toks, newlines := 1 }

inductive PItem
  | x (it : XItem)
  | equ (name kw : String) (toks : List Token) (blanks : Nat)

def PItem.tokens : PItem → List Token
  | .x it => it.tokens
  | .equ name kw toks k =>
    (⟨.text, name⟩ : Token) :: (⟨.text, kw⟩ : Token) :: (toks ++ nlTok :: List.replicate k nlTok)

def PItem.OK : PItem → Prop
  | .x it => it.OK
  | .equ name kw toks _ =>
    IsLabelName name ∧ lowerStr kw = "equ" ∧ toks ≠ [] ∧ ∀ t ∈ toks, t.isExpressionTerm = true

def PItem.lines : PItem → Int → Int → List SourceLine
  | .x it, ln, cl => it.lines ln cl
  | .equ name kw toks k, ln, _ => equLine ln name kw toks :: blankLines (ln + 1) k

def PItem.blanks : PItem → Nat
  | .x it => it.blanks
  | .equ _ _ _ k => k

def PItem.codeLines : PItem → Int
  | .x it => it.codeLines
  | .equ _ _ _ _ => 0

def PItem.labelNames : PItem → List String
  | .x it => it.labelNames
  | .equ name _ _ _ => [name]

def PItem.refs : PItem → List String → List String
  | .x it, refs => it.refs refs
  | .equ _ _ toks _, refs => addRefs toks refs

def PItem.metadata : PItem → AsmMeta → AsmMeta
  | .x it, m => it.metadata m
  | .equ _ _ _ _, m => m

def pitemsTokens : List PItem → List Token
  | [] => []
  | it :: r => it.tokens ++ pitemsTokens r

def pitemsLines : List PItem → Int → Int → List SourceLine
  | [], _, _ => []
  | it :: r, ln, cl => it.lines ln cl ++ pitemsLines r (ln + 1 + it.blanks) (cl + it.codeLines)

def pitemsLabels : List PItem → List String
  | [] => []
  | it :: r => it.labelNames ++ pitemsLabels r

def pitemsRefs : List PItem → List String → List String
  | [], refs => refs
  | it :: r, refs => pitemsRefs r (it.refs refs)

def pitemsMeta : List PItem → AsmMeta → AsmMeta
  | [], m => m
  | it :: r, m => pitemsMeta r (it.metadata m)

def pitemsEndLine : List PItem → Int → Int
  | [], ln => ln
  | it :: r, ln => pitemsEndLine r (ln + 1 + it.blanks)

def pitemsEndCode : List PItem → Int → Int
  | [], cl => cl
  | it :: r, cl => pitemsEndCode r (cl + it.codeLines)

/-- `lead` blank lines, the items, and either the end of the input or an END line `kw [toks]`
    followed, after its newline, by `trail` (not empty: at least the EOF token; never read) -/
structure PProg where
  lead : Nat := 0
  items : List PItem
  fin : Option (String × List Token) := none
  trail : List Token := [eofTok]

def PProg.finTokens (p : PProg) : List Token :=
  match p.fin with
  | none => [eofTok]
  | some (kw, toks) => (⟨.text, kw⟩ : Token) :: (toks ++ nlTok :: p.trail)

def PProg.tokens (p : PProg) : List Token :=
  List.replicate p.lead nlTok ++ (pitemsTokens p.items ++ p.finTokens)

/-- the names the parser enters into its symbol table: labels AND EQU names -/
def PProg.labels (p : PProg) : List String := pitemsLabels p.items

def PProg.finLines (p : PProg) : List SourceLine :=
  match p.fin with
  | none => []
  | some (kw, toks) => [endLine (pitemsEndLine p.items (1 + p.lead)) kw toks]

def PProg.lines (p : PProg) : List SourceLine :=
  blankLines 1 p.lead ++ (pitemsLines p.items (1 + p.lead) 0 ++ p.finLines)

def PProg.metadata (p : PProg) : AsmMeta := pitemsMeta p.items {}

def PProg.refs (p : PProg) : List String :=
  match p.fin with
  | none => pitemsRefs p.items []
  | some (_, toks) => addRefs toks (pitemsRefs p.items [])

structure PProg.OK (p : PProg) : Prop where
  items : ∀ it ∈ p.items, it.OK
  nodup : p.labels.Nodup
  notPredefined : ∀ l ∈ p.labels, l ∉ predefined
  defined : ∀ x ∈ p.refs, x ∈ p.labels ∨ x ∈ predefined
  fin : ∀ kw toks, p.fin = some (kw, toks) →
    lowerStr kw = "end" ∧ (∀ t ∈ toks, t.isExpressionTerm = true) ∧ p.trail ≠ []

def ofX (p : XProg) : PProg := ⟨p.lead, p.items.map .x, p.fin, p.trail⟩

end AsmComposeEqu

namespace AsmLayout
open Gmars.Render Gmars.AsmCompose

/-- `stmtC`, `orgC`: a statement with a B operand / an ORG line, followed by the comment `v` on the
    same line -/
inductive YItem
  | x (it : XItem)
  | stmtC (s : Stmt) (v : String)
  | orgC (kw : String) (toks : List Token) (v : String) (blanks : Nat)

def YItem.OK : YItem → Prop
  | .x it => it.OK
  | .stmtC s _ => s.OK ∧ ∃ bo, s.b = some bo
  | .orgC kw toks _ _ => lowerStr kw = "org" ∧ toks ≠ [] ∧ ∀ t ∈ toks, t.isExpressionTerm = true

def YItem.labelNames : YItem → List String
  | .x it => it.labelNames
  | .stmtC s _ => s.labelNames
  | .orgC _ _ _ _ => []

def YItem.refs : YItem → List String → List String
  | .x it, refs => it.refs refs
  | .stmtC s _, refs => s.refs refs
  | .orgC _ toks _ _, refs => addRefs toks refs

def yitemsLabels : List YItem → List String
  | [] => []
  | it :: r => it.labelNames ++ yitemsLabels r

def yitemsRefs : List YItem → List String → List String
  | [], refs => refs
  | it :: r, refs => yitemsRefs r (it.refs refs)

/-- the end of the token stream:
      * `eof`    the EOF token right after the items (every line is terminated);
      * `end_`   an END line `kw toks` with an optional trailing comment, its newline, and `trail`
                 (never read; not empty: at least the EOF token);
      * `cmtU`, `stmtU`, `endU`   an UNTERMINATED last line (the text does not end with a newline):
                 a comment line, a statement (no labels, with a B operand) or an END line, the
                 latter two with an optional trailing comment, then the EOF token -/
inductive YFin
  | eof
  | end_ (kw : String) (toks : List Token) (cm : Option String) (trail : List Token)
  | cmtU (v : String)
  | stmtU (s : Stmt) (cm : Option String)
  | endU (kw : String) (toks : List Token) (cm : Option String)

def YFin.OK : YFin → Prop
  | .eof => True
  | .end_ kw toks cm trail =>
    lowerStr kw = "end" ∧ (∀ t ∈ toks, t.isExpressionTerm = true) ∧ trail ≠ [] ∧ (cm.isSome → toks ≠ [])
  | .cmtU _ => True
  | .stmtU s _ => s.OK ∧ s.labels = [] ∧ ∃ bo, s.b = some bo
  | .endU kw toks _ => lowerStr kw = "end" ∧ (∀ t ∈ toks, t.isExpressionTerm = true) ∧ toks ≠ []

def YFin.refs : YFin → List String → List String
  | .eof, refs => refs
  | .end_ _ toks _ _, refs => addRefs toks refs
  | .cmtU _, refs => refs
  | .stmtU s _, refs => s.refs refs
  | .endU _ toks _, refs => addRefs toks refs

structure YProg where
  lead : Nat := 0
  items : List YItem
  fin : YFin := .eof

def YProg.labels (p : YProg) : List String := yitemsLabels p.items

def YProg.refs (p : YProg) : List String := p.fin.refs (yitemsRefs p.items [])

structure YProg.OK (p : YProg) : Prop where
  items : ∀ it ∈ p.items, it.OK
  nodup : p.labels.Nodup
  notPredefined : ∀ l ∈ p.labels, l ∉ predefined
  defined : ∀ x ∈ p.refs, x ∈ p.labels ∨ x ∈ predefined
  fin : p.fin.OK

end AsmLayout
end Gmars
