/-
  C08: the reference's item-level unrolling `Spec.unrollAux` as equations (more fuel gives the same
  result, `xs ++ ys` is unrolled as `xs`, then `ys`), and without its fuel and accumulator: the
  relation `Unr`, which `unrollAux` computes (`Unr.run`).  The manual unrollings of the development
  are related to `Unr`; fuel is mentioned once more, in `Unr.top`.
-/
import Gmars.Proofs.ExprRef

namespace Gmars
namespace AsmComposeFor
open Gmars.Spec

theorem unrollAux_nil (f : Nat) (before : List Item) (k : Nat) :
    unrollAux (f + 1) [] before k = some (before, k) := by
  rw [unrollAux]

theorem unrollAux_for (f : Nat) (labels : List String) (ctr : String) (cnt : List ETok)
    (body rest before : List Item) (k : Nat) :
    unrollAux (f + 1) (.for_ labels ctr cnt body :: rest) before k =
      (expandEqus 64 (equsOf before) cnt).bind fun toks =>
      (Expr.evalInt toks).bind fun n =>
      if n < 0 then none else
      (unrollAux f ((List.range n.toNat).flatMap fun i => substItems ctr [.num (i + 1)] body)
          before (k + 1)).bind fun p =>
      unrollAux f rest (before ++ attachLabels labels (p.1.drop before.length)) p.2 := by
  rw [unrollAux]
  rfl

def isFor : Item → Bool
  | .for_ .. => true
  | _ => false

theorem unrollAux_other {f : Nat} {i : Item} {rest before : List Item} {k : Nat}
    (h : isFor i = false) :
    unrollAux (f + 1) (i :: rest) before k = unrollAux f rest (before ++ [i]) k := by
  cases i with
  | for_ l c n b => simp [isFor] at h
  | _ => rw [unrollAux]; intro _ _ _ _ h'; cases h'

theorem unrollAux_zero (items before : List Item) (k : Nat) : unrollAux 0 items before k = none := by
  rw [unrollAux]

theorem unrollAux_for_some {f : Nat} {labels : List String} {ctr : String} {cnt : List ETok}
    {body rest before : List Item} {k : Nat} {r : List Item × Nat} :
    unrollAux (f + 1) (.for_ labels ctr cnt body :: rest) before k = some r ↔
      ∃ toks n p, expandEqus 64 (equsOf before) cnt = some toks ∧ Expr.evalInt toks = some n ∧
        ¬n < 0 ∧
        unrollAux f ((List.range n.toNat).flatMap fun i => substItems ctr [.num (i + 1)] body)
          before (k + 1) = some p ∧
        unrollAux f rest (before ++ attachLabels labels (p.1.drop before.length)) p.2 = some r := by
  simp only [unrollAux_for, Option.bind_eq_some_iff, Option.ite_none_left_eq_some,
    exists_and_left]

theorem isFor_cases (i : Item) : (∃ l c n b, i = .for_ l c n b) ∨ isFor i = false := by
  cases i with
  | for_ l c n b => exact .inl ⟨l, c, n, b, rfl⟩
  | _ => exact .inr rfl

theorem unrollAux_succ : ∀ (f : Nat) (items before : List Item) (k : Nat) (r : List Item × Nat),
    unrollAux f items before k = some r → unrollAux (f + 1) items before k = some r := by
  intro f
  induction f with
  | zero => intro items before k r h; rw [unrollAux_zero] at h; cases h
  | succ f ih =>
    intro items before k r h
    cases items with
    | nil => rw [unrollAux_nil] at h ⊢; exact h
    | cons i rest =>
      rcases isFor_cases i with ⟨l, c, n, b, rfl⟩ | hi
      · obtain ⟨toks, n, p, hE, hN, hn, hC, hR⟩ := unrollAux_for_some.1 h
        exact unrollAux_for_some.2 ⟨toks, n, p, hE, hN, hn, ih _ _ _ _ hC, ih _ _ _ _ hR⟩
      · rw [unrollAux_other hi] at h ⊢
        exact ih _ _ _ _ h

theorem unrollAux_mono {f f' : Nat} {items before : List Item} {k : Nat} {r : List Item × Nat}
    (h : unrollAux f items before k = some r) (hf : f ≤ f') :
    unrollAux f' items before k = some r := by
  induction hf with
  | refl => exact h
  | step _ ih => exact unrollAux_succ _ _ _ _ _ ih

theorem unrollAux_append : ∀ (f : Nat) (xs ys before : List Item) (k : Nat) (b' : List Item)
    (k' g : Nat) (r : List Item × Nat),
    unrollAux (f + 1) xs before k = some (b', k') → unrollAux g ys b' k' = some r →
    unrollAux (f + g) (xs ++ ys) before k = some r := by
  intro f xs
  induction xs generalizing f with
  | nil =>
    intro ys before k b' k' g r h1 h2
    rw [unrollAux_nil] at h1
    cases h1
    exact unrollAux_mono h2 (Nat.le_add_left ..)
  | cons i rest ih =>
    intro ys before k b' k' g r h1 h2
    -- `i` takes one unit of the fuel `f + 1`; what follows it needs another, and so does `ys`
    cases f with
    | zero =>
      rcases isFor_cases i with ⟨l, c, n, b, rfl⟩ | hi
      · obtain ⟨_, _, _, _, _, _, hC, _⟩ := unrollAux_for_some.1 h1
        rw [unrollAux_zero] at hC; cases hC
      · rw [unrollAux_other hi, unrollAux_zero] at h1; cases h1
    | succ f =>
      rw [List.cons_append, Nat.add_right_comm]
      rcases isFor_cases i with ⟨l, c, n, b, rfl⟩ | hi
      · obtain ⟨toks, n, p, hE, hN, hn, hC, hR⟩ := unrollAux_for_some.1 h1
        have hg : 1 ≤ g := Nat.pos_of_ne_zero fun h0 => by rw [h0, unrollAux_zero] at h2; cases h2
        exact unrollAux_for_some.2 ⟨toks, n, p, hE, hN, hn,
          unrollAux_mono hC (Nat.add_le_add_left hg f), ih _ _ _ _ _ _ _ _ hR h2⟩
      · rw [unrollAux_other hi] at h1 ⊢
        exact ih _ _ _ _ _ _ _ _ h1 h2

theorem equsOf_append (a b : List Item) : equsOf (a ++ b) = equsOf a ++ equsOf b := by
  simp [equsOf]

theorem attachLabels_nil (items : List Item) : attachLabels [] items = items := by
  induction items with
  | nil => rfl
  | cons i r ih => cases i <;> simp [attachLabels, ih]

theorem attachLabels_length (ls : List String) (items : List Item) :
    (attachLabels ls items).length = items.length := by
  induction items with
  | nil => rfl
  | cons i r ih => cases i <;> simp [attachLabels, ih]

theorem expandEqus_num (f : Nat) (tab : List (String × List ETok)) (m : Nat) :
    expandEqus (f + 1) tab [.num m] = some [.num m] := by
  simp [expandEqus]

/-- `Spec.unrollAux` without its fuel and its accumulator: with the EQU definitions `eqs` in front,
    `items` unroll to `em`, which takes `j` block expansions.  An item that is no block is kept; a
    block is replaced by the unrolling `X` of its copies (inner blocks included, unrolled with the
    same EQUs), and what it leaves counts as standing in front of the rest. -/
inductive Unr : List (String × List ETok) → List Item → List Item → Nat → Prop
  | nil (eqs) : Unr eqs [] [] 0
  | other {eqs i rest em j} :
      isFor i = false → Unr (eqs ++ equsOf [i]) rest em j → Unr eqs (i :: rest) (i :: em) j
  | block {eqs labels ctr cnt toks body rest X Y} {n : Int} {j1 j2} :
      expandEqus 64 eqs cnt = some toks → Expr.evalInt toks = some n → ¬n < 0 →
      Unr eqs ((List.range n.toNat).flatMap fun i => substItems ctr [.num (i + 1)] body) X j1 →
      Unr (eqs ++ equsOf (attachLabels labels X)) rest Y j2 →
      Unr eqs (.for_ labels ctr cnt body :: rest) (attachLabels labels X ++ Y) (1 + j1 + j2)

/-- **`Spec.unrollAux` computes `Unr`**: one unit of fuel for every item that comes out and for
    every expansion is enough (the copies of a block and what follows it each get the whole fuel of
    the call, so the two needs add up to a bound, not to the need) -/
theorem Unr.run {eqs : List (String × List ETok)} {items em : List Item} {j : Nat}
    (h : Unr eqs items em j) : ∀ (before : List Item) (k : Nat), equsOf before = eqs →
      unrollAux (em.length + j + 1) items before k = some (before ++ em, k + j) := by
  induction h with
  | nil eqs => intro before k _; simp [unrollAux_nil]
  | @other eqs i rest em j hi _ ih =>
    intro before k hb
    rw [List.length_cons, Nat.add_right_comm _ 1 j, unrollAux_other hi,
      ih _ k (by rw [equsOf_append, hb])]
    simp
  | @block eqs labels ctr cnt toks body rest X Y n j1 j2 hE hN hn _ _ ihX ihY =>
    intro before k hb
    have hY := ihY (before ++ attachLabels labels X) (k + 1 + j1) (by rw [equsOf_append, hb])
    refine unrollAux_for_some.2 ⟨toks, n, (before ++ X, k + 1 + j1), hb ▸ hE, hN, hn,
      unrollAux_mono (ihX before (k + 1) hb) ?_, ?_⟩
    · simp only [List.length_append, attachLabels_length]; omega
    · rw [List.drop_left]
      refine (unrollAux_mono hY ?_).trans ?_
      · simp only [List.length_append, attachLabels_length]; omega
      · simp only [List.append_assoc, Nat.add_assoc]

/-- `100000` is the fuel of `Spec.unroll` -/
theorem Unr.top {items em : List Item} {j : Nat} (h : Unr [] items em j)
    (hf : em.length + j < 100000) : unrollAux 100000 items [] 0 = some (em, j) := by
  simpa using unrollAux_mono (h.run [] 0 rfl) hf

theorem Unr.unroll {items em : List Item} {j : Nat} (h : Unr [] items em j)
    (hf : em.length + j < 100000) : Spec.unroll items = some em := by
  rw [Spec.unroll, h.top hf]
  rfl

theorem Unr.expansions {items em : List Item} {j : Nat} (h : Unr [] items em j)
    (hf : em.length + j < 100000) : Spec.expansions items = j := by
  rw [Spec.expansions, h.top hf]
  rfl

theorem Unr.meaning (sc : Cfg) {items em : List Item} {j : Nat} (h : Unr [] items em j)
    (hf : em.length + j < 100000) : Spec.meaning sc items = Spec.meaningFlat sc em := by
  simp only [Spec.meaning, h.unroll hf, Option.bind_eq_bind, Option.bind_some]

theorem Unr.append {eqs : List (String × List ETok)} {xs ys e1 e2 : List Item} {j1 j2 : Nat}
    (h1 : Unr eqs xs e1 j1) (h2 : Unr (eqs ++ equsOf e1) ys e2 j2) :
    Unr eqs (xs ++ ys) (e1 ++ e2) (j1 + j2) := by
  induction h1 with
  | nil eqs => simpa [equsOf] using h2
  | @other eqs i rest em j hi _ ih =>
    rw [← List.singleton_append, equsOf_append, ← List.append_assoc] at h2
    simpa [Nat.add_assoc] using Unr.other hi (ih h2)
  | block hE hN hn hX _ _ ihY =>
    rw [equsOf_append, ← List.append_assoc] at h2
    simpa [Nat.add_assoc] using Unr.block hE hN hn hX (ihY h2)

theorem Unr.flatMap {eqs : List (String × List ETok)} (items out : Nat → List Item)
    (K : Nat → Nat) (is : List Nat) (h : ∀ i ∈ is, Unr eqs (items i) (out i) (K i))
    (he : ∀ i ∈ is, equsOf (out i) = []) :
    Unr eqs (is.flatMap items) (is.flatMap out) (is.map K).sum := by
  induction is with
  | nil => exact .nil eqs
  | cons i is ih =>
    have h := List.forall_mem_cons.1 h
    have he := List.forall_mem_cons.1 he
    exact h.1.append (by rw [he.1, List.append_nil]; exact ih h.2 he.2)

end AsmComposeFor
end Gmars
