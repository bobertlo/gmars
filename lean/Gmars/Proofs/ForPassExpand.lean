/-
  C08: one pass of the FOR expander (`forExpandWith`, Gmars/Model/ForExpand.lean) outside the body
  of a block: which lines it sends on as they are, and what it reads of a FOR line.
-/
import Gmars.Proofs.ForPassBasic

namespace Gmars
namespace ForPass

open ForExpand

variable (e : List Token → SymTab → EvalRes) (s : SymTab)

/-- `forLine` on `look-ahead :: remaining input` (here and below the `[]` case only makes the
    function total: every statement has a token in front) -/
def runLine : List Token → Out → Res
  | [], o => .ok o
  | c :: r, o => forLine e s c r o

def runCEL : List Token → Out → Res
  | [], o => .ok o
  | c :: r, o => consumeEmitLine e s c r o

def runCL : List Token → List String → Out → Res
  | [], _, o => .ok o
  | c :: r, lb, o => consumeLabels e s c r lb o

def runCE : List Token → List Token → List String → Out → Res
  | [], _, _, o => .ok o
  | c :: r, eb, lb, o => consumeExpression e s c r eb lb o

theorem cel_inline {cur t : Token} {r : List Token} {o : Out} (h : InLine cur) :
    consumeEmitLine e s cur (t :: r) o = consumeEmitLine e s t r (o.emit cur) := by
  obtain ⟨h1, h2, h3⟩ := h
  rw [consumeEmitLine]
  split <;> simp_all

theorem cel_nl {cur t : Token} {r : List Token} {o : Out} (h : cur.typ = .newline) :
    consumeEmitLine e s cur (t :: r) o = forLine e s t r (o.emit cur) := by
  rw [consumeEmitLine, forLine]
  split <;> simp_all

theorem runCEL_line (args : List Token) (nl t : Token) (r : List Token) (o : Out)
    (ha : ∀ x ∈ args, InLine x) (hnl : nl.typ = .newline) :
    runCEL e s (args ++ nl :: t :: r) o = runLine e s (t :: r) (emits o (args ++ [nl])) := by
  induction args generalizing o with
  | nil => exact cel_nl e s hnl
  | cons a as ih =>
    have ha := List.forall_mem_cons.1 ha
    obtain ⟨x, xs, hx⟩ := exists_cons as nl (t :: r)
    rw [List.cons_append, hx, runCEL, cel_inline e s ha.1,
      ← runCEL, ← hx, ih _ ha.2]
    rfl

theorem cl_label {cur t : Token} {r : List Token} {lb : List String} {o : Out}
    (h : isLabelTok cur = true) :
    consumeLabels e s cur (t :: r) lb o = consumeLabels e s t r (lb ++ [cur.val]) o := by
  obtain ⟨h1, h2, h3⟩ := isLabelTok_iff.1 h
  rw [consumeLabels]
  simp [h1, h2, h3]

theorem cl_write {cur t : Token} {r : List Token} {lb : List String} {o : Out}
    (h1 : cur.typ = .text) (h2 : cur.isOp = true) (h3 : lowerStr cur.val ≠ "for") :
    consumeLabels e s cur (t :: r) lb o =
      consumeEmitLine e s t r ((o.emitLabels lb).emit cur) := by
  rw [consumeLabels]
  simp only [h1, beq_self_eq_true, ↓reduceIte, h2, beq_iff_eq, h3]
  split <;> rfl

theorem cl_for {cur t : Token} {r : List Token} {lb : List String} {o : Out}
    (h1 : cur.typ = .text) (h3 : lowerStr cur.val = "for") :
    consumeLabels e s cur (t :: r) lb o = consumeExpression e s t r [] lb o := by
  rw [consumeLabels]
  simp [h1, isPseudoOp_of_lower_for h3, h3]

theorem runCL_labels {lbls rest : List Token} {lb : List String} {o : Out}
    (hl : ∀ x ∈ lbls, isLabelTok x = true) (hr : rest ≠ []) :
    runCL e s (lbls ++ rest) lb o = runCL e s rest (lb ++ lbls.map (·.val)) o := by
  induction lbls generalizing lb with
  | nil => simp
  | cons a as ih =>
    have hl := List.forall_mem_cons.1 hl
    obtain ⟨x, xs, hx⟩ := List.exists_cons_of_ne_nil (List.append_ne_nil_of_right_ne_nil as hr)
    rw [List.cons_append, hx, runCL, cl_label e s hl.1,
      ← runCL, ← hx, ih hl.2, List.map_cons,
      List.append_assoc]
    rfl

theorem runLine_text (a : Token) (as : List Token) (o : Out) (h : a.typ = .text) :
    runLine e s (a :: as) o = runCL e s (a :: as) [] o := by
  simp [runLine, runCL, forLine, h]

theorem runCL_line (l : List Token) (nl t : Token) (r : List Token) (lb : List String) (o : Out)
    (hl : ∀ x ∈ l, InLine x) (hnl : nl.typ = .newline)
    (hk : lineKind l = .op ∨ lineKind l = .rof ∨ lineKind l = .pseudo) :
    runCL e s (l ++ nl :: t :: r) lb o =
      runLine e s (t :: r) (emits (o.emitLabels lb) (l ++ [nl])) := by
  obtain ⟨lbls, rest, rfl, hlab, -, hhead⟩ := exists_labels l
  rw [lineKind_labels _ hlab] at hk
  cases rest with
  | nil => simp [lineKind] at hk
  | cons a as =>
    have h1 : a.typ = .text := by
      by_cases h : a.typ = .text
      · exact h
      · simp [lineKind, h] at hk
    have h2 : a.isOp = true := by simpa [isLabelTok, h1] using hhead a rfl
    have h3 : lowerStr a.val ≠ "for" := fun hf => by
      simp [lineKind_for h1 hf] at hk
    obtain ⟨x, xs, hx⟩ := exists_cons as nl (t :: r)
    rw [List.append_assoc, runCL_labels e s hlab (by simp), List.cons_append, hx, runCL,
      cl_write e s h1 h2 h3, ← runCEL, ← hx,
      runCEL_line e s as nl t r _ (fun x hx => hl x (by simp [hx])) hnl]
    -- what was sent: the label buffer, the labels of the line, the rest of the line
    rw [emitLabels_eq, emitLabels_eq, labelToks_append,
      labelToks_vals (fun x hx => (isLabelTok_iff.1 (hlab x hx)).1), ← emits_cons, ← emits_append,
      ← emits_append]
    simp

theorem runLine_nontext (l : List Token) (nl t : Token) (r : List Token) (o : Out)
    (hl : ∀ x ∈ l, InLine x) (hnl : nl.typ = .newline)
    (hh : ∀ x ∈ l.head?, x.typ ≠ .text) :
    runLine e s (l ++ nl :: t :: r) o = runLine e s (t :: r) (emits o (l ++ [nl])) := by
  rw [← runCEL_line e s l nl t r o hl hnl]
  cases l with
  | nil => simp [runLine, runCEL, forLine, hnl]
  | cons a as => simp [runLine, runCEL, forLine, hh a rfl]

/-- the lines that `forLine` sends through unchanged. A line of labels only, or labels followed by
    a colon or comment, is NOT one: the labels are kept for the next line and the
    colon/comment/newline is dropped. -/
def PassLine (l : List Token) : Prop :=
  (∀ x ∈ l.head?, x.typ ≠ .text) ∨ lineKind l = .op ∨ lineKind l = .rof ∨ lineKind l = .pseudo

theorem runLine_passLine (l : Line) (t : Token) (r : List Token) (o : Out)
    (hwf : l.WF) (hp : PassLine l.toks) :
    runLine e s (l.flat ++ t :: r) o = runLine e s (t :: r) (emits o l.flat) := by
  obtain ⟨hnl, hl⟩ := hwf
  unfold Line.flat
  rw [List.append_assoc, List.singleton_append]
  rcases hp with hh | hk
  · exact runLine_nontext e s _ _ _ _ _ hl hnl hh
  · obtain ⟨a, as, hlt, h1⟩ := lineKind_head_text (l := l.toks) (by rcases hk with h | h | h <;> simp [h])
    rw [hlt, List.cons_append, runLine_text e s _ _ _ h1, ← List.cons_append, ← hlt,
      runCL_line e s l.toks l.nl t r [] o hl hnl hk]
    rfl

theorem runLine_passLines (ls : List Line) (t : Token) (r : List Token) (o : Out)
    (hwf : ∀ l ∈ ls, l.WF) (hp : ∀ l ∈ ls, PassLine l.toks) :
    runLine e s (flat ls ++ t :: r) o = runLine e s (t :: r) (emits o (flat ls)) := by
  induction ls generalizing o with
  | nil => rfl
  | cons l ls ih =>
    obtain ⟨x, xs, hx⟩ := exists_cons (flat ls) t r
    rw [flat_cons, List.append_assoc, hx,
      runLine_passLine e s l x xs o (hwf l (List.mem_cons_self ..)) (hp l (List.mem_cons_self ..)),
      ← hx, ih _ (fun l' h' => hwf l' (List.mem_cons_of_mem _ h'))
        (fun l' h' => hp l' (List.mem_cons_of_mem _ h')), emits_append]

/-- the tokens of the count expression that reach the evaluator -/
def exprToks (count : List Token) : List Token := count.filter (fun t => t.typ != .comment)

theorem exprToks_single (t : Token) (h : t.typ ≠ .comment) : exprToks [t] = [t] := by
  simp [exprToks, h]

theorem ce_inline {cur t : Token} {r : List Token} {eb : List Token} {lb : List String} {o : Out}
    (h : InLine cur) :
    consumeExpression e s cur (t :: r) eb lb o =
      consumeExpression e s t r (eb ++ exprToks [cur]) lb o := by
  obtain ⟨h1, h2, h3⟩ := h
  rw [consumeExpression]
  split <;> simp_all [exprToks]

theorem ce_nl {cur t : Token} {r : List Token} {eb : List Token} {lb : List String} {o : Out}
    (hc : cur.typ = .newline) :
    consumeExpression e s cur (t :: r) eb lb o = forFor e s t r eb lb o := by
  rw [consumeExpression]
  split <;> simp_all

theorem runCE_count (count : List Token) (nl t : Token) (r : List Token) (eb : List Token)
    (lb : List String) (o : Out) (hc : ∀ x ∈ count, InLine x) (hnl : nl.typ = .newline) :
    runCE e s (count ++ nl :: t :: r) eb lb o = forFor e s t r (eb ++ exprToks count) lb o := by
  induction count generalizing eb with
  | nil => simpa [runCE, exprToks] using ce_nl e s hnl
  | cons a as ih =>
    have hc := List.forall_mem_cons.1 hc
    obtain ⟨x, xs, hx⟩ := exists_cons as nl (t :: r)
    rw [List.cons_append, hx, runCE, ce_inline e s hc.1, ← runCE, ← hx, ih _ hc.2,
      List.append_assoc, exprToks, exprToks, ← List.filter_append]
    rfl

/-- the context `forFor` builds from the label buffer `labels ++ [counter]` -/
def mkCtx (labels : List String) (ctr : String) (n : Int) : Ctx :=
  { forCountLabel := ctr, forLineLabels := labels, forCount := n }

/-- `forFor` folds over the count tokens and emits an error for a terminator among them; the count
    of a well-formed FOR line has none, so the fold does nothing -/
theorem termFold_id (eb : List Token) (o : Out) (heb : ∀ x ∈ eb, x.isTerm = false) :
    eb.foldl (fun o t =>
      if t.isTerm then o.emit { typ := .error, val := "unexpected expression term: " ++ t.str } else o) o = o := by
  induction eb generalizing o with
  | nil => rfl
  | cons a as ih =>
    rw [List.foldl_cons, heb a (List.mem_cons_self ..)]
    exact ih o (fun x hx => heb x (List.mem_cons_of_mem _ hx))

theorem forFor_ok (t : Token) (r : List Token) (eb : List Token) (labels : List String)
    (ctr : String) (o : Out) (n : Int)
    (heb : ∀ x ∈ eb, x.isTerm = false) (hev : e eb s = .ok n) :
    forFor e s t r eb (labels ++ [ctr]) o =
      innerLine (mkCtx labels ctr n) t r
        { toWrite := labels.map (forLabel ctr), out := o } := by
  unfold forFor
  simp only [termFold_id eb o heb, hev, List.getLast?_append, List.getLast?_singleton,
    Option.some_or, List.dropLast_concat, mkCtx]

end ForPass
end Gmars
