/-
  C03: mnemonic letter case as an explicit rendering step.

  In `assemble_meaning_equ` the opcode, modifier and pseudo-op texts of a program are the texts "as
  written", and the reference `Spec.meaningFlat` reads opcodes and modifiers case-insensitively
  (`Spec.opOfString`, `Spec.modOfString`), pseudo-op keywords not at all.  So every case variant
  `q` of a program `p`, in every spacing, assembles to the reference meaning of `p`
  (`assemble_meaning_anycase`).

  Only ASCII: outside ASCII Go's `strings.ToLower` and the reference differ
  (`AsmLine.getOpCode_nonascii_counterexample`: `dİv`).  Labels, EQU names and the names used in
  expressions are case-sensitive in gmars and are not touched.
-/
import Gmars.Proofs.AsmComposeEqu

namespace Gmars
namespace AsmComposeEqu
open Gmars.Render Gmars.AsmLine Gmars.AsmCompose GoStr

def CaseEq (s t : String) : Prop := Ascii s ∧ Ascii t ∧ lowerStr s = lowerStr t

instance (s t : String) : Decidable (CaseEq s t) := by unfold CaseEq; infer_instance

theorem CaseEq.refl {s : String} (h : Ascii s) : CaseEq s s := ⟨h, h, rfl⟩
theorem CaseEq.symm {s t : String} (h : CaseEq s t) : CaseEq t s := ⟨h.2.1, h.1, h.2.2.symm⟩

theorem lower_of_lowerStr {s t : String} (h : lowerStr s = lowerStr t) :
    toLower s.toList = toLower t.toList := by
  have := congrArg String.toList h
  simpa [lowerStr] using this

theorem lowerStr_of_lower {s t : String} (h : toLower s.toList = toLower t.toList) :
    lowerStr s = lowerStr t := by
  unfold lowerStr; rw [h]

def CaseEqO : Option String → Option String → Prop
  | none, none => True
  | some s, some t => CaseEq s t
  | _, _ => False

@[elab_as_elim]
theorem CaseEqO.elim {motive : Option String → Option String → Prop} (none : motive none none)
    (some : ∀ s t, CaseEq s t → motive (some s) (some t)) {md md' : Option String}
    (h : CaseEqO md md') : motive md md' := by
  cases md <;> cases md'
  · exact none
  · exact False.elim h
  · exact False.elim h
  · exact some _ _ h

/-- on ASCII `lowerChar` moves only the capital letters, and they stay letters -/
theorem ident_lowerChar {c : Char} (h : c.toNat < 128) :
    isIdentStart (lowerChar c) = isIdentStart c ∧ isIdentChar (lowerChar c) = isIdentChar c := by
  by_cases hu : 65 ≤ c.toNat ∧ c.toNat ≤ 90
  · have h1 : c.isAlpha = true := (isAlpha_iff c).mpr (.inl hu)
    have h2 : (lowerChar c).isAlpha = true :=
      (isAlpha_iff _).mpr (.inr (by have := lowerChar_upper hu; omega))
    simp only [isIdentStart, isIdentChar, Char.isAlphanum, h1, h2, Bool.true_or, and_self]
  · rw [lowerChar_of_not_upper hu h]
    exact ⟨rfl, rfl⟩

def recaseL : List Bool → List Char → List Char
  | b :: bs, c :: cs => (if b then c.toUpper else lowerChar c) :: recaseL bs cs
  | _, cs => cs

def recase (mask : List Bool) (s : String) : String := String.ofList (recaseL mask s.toList)

theorem recaseL_spec (mask : List Bool) (l : List Char) (h : ∀ c ∈ l, c.toNat < 128) :
    (∀ c ∈ recaseL mask l, c.toNat < 128) ∧ toLower (recaseL mask l) = toLower l := by
  induction l generalizing mask with
  | nil => cases mask <;> exact ⟨h, rfl⟩
  | cons c cs ih =>
    cases mask with
    | nil => exact ⟨h, rfl⟩
    | cons b bs =>
      obtain ⟨hc, hcs⟩ := List.forall_mem_cons.1 h
      obtain ⟨i1, i2⟩ := ih bs hcs
      have hb : (if b then c.toUpper else lowerChar c).toNat < 128 ∧
          lowerChar (if b then c.toUpper else lowerChar c) = lowerChar c := by
        cases b
        · exact ⟨lowerChar_toNat_lt hc, lowerChar_idem c⟩
        · exact ⟨toUpper_toNat_lt hc, lowerChar_toUpper c⟩
      refine ⟨List.forall_mem_cons.2 ⟨hb.1, i1⟩, ?_⟩
      show lowerChar _ :: toLower (recaseL bs cs) = lowerChar c :: toLower cs
      rw [hb.2, i2]

theorem caseEq_recase (mask : List Bool) {s : String} (h : Ascii s) : CaseEq s (recase mask s) := by
  obtain ⟨h1, h2⟩ := recaseL_spec mask s.toList h
  have e : (recase mask s).toList = recaseL mask s.toList := String.toList_ofList
  rw [← e] at h1 h2
  exact ⟨h, h1, lowerStr_of_lower h2.symm⟩

theorem all_identChar_lower (l : List Char) (h : ∀ c ∈ l, c.toNat < 128) :
    (l.map lowerChar).all isIdentChar = l.all isIdentChar := by
  induction l with
  | nil => rfl
  | cons c cs ih =>
    obtain ⟨hc, hcs⟩ := List.forall_mem_cons.1 h
    simp only [List.map_cons, List.all_cons, (ident_lowerChar hc).2, ih hcs]

theorem identL_lower (l : List Char) (h : ∀ c ∈ l, c.toNat < 128) : identL (toLower l) = identL l := by
  cases l with
  | nil => rfl
  | cons c cs =>
    obtain ⟨hc, hcs⟩ := List.forall_mem_cons.1 h
    simp only [toLower, List.map_cons, identL, (ident_lowerChar hc).1, all_identChar_lower cs hcs]

theorem identOK_caseEq {s t : String} (h : CaseEq s t) : identOK s = identOK t := by
  rw [identOK_eq, identOK_eq, ← identL_lower _ h.1, ← identL_lower _ h.2.1, lower_of_lowerStr h.2.2]

theorem getOpCode_lower {s t : String} (h : lowerStr s = lowerStr t) :
    getOpCode s.toList = getOpCode t.toList := by
  unfold getOpCode
  rw [lower_of_lowerStr h]

theorem isPseudoOp_lower {s t : String} (h : lowerStr s = lowerStr t) :
    (⟨.text, s⟩ : Token).isPseudoOp = (⟨.text, t⟩ : Token).isPseudoOp := by
  unfold Token.isPseudoOp
  simp only [h]

theorem dot_mem_lower {s t : String} (h : lowerStr s = lowerStr t) :
    '.' ∈ s.toList ↔ '.' ∈ t.toList := by
  rw [← mem_toLower_iff (d := '.') (by decide), lower_of_lowerStr h, mem_toLower_iff (by decide)]

theorem isOp_lower {s t : String} (h : lowerStr s = lowerStr t) :
    (⟨.text, s⟩ : Token).isOp = (⟨.text, t⟩ : Token).isOp := by
  unfold Token.isOp
  simp only [List.contains_eq_mem, decide_eq_decide.mpr (dot_mem_lower h), getOpCode_lower h,
    isPseudoOp_lower h]

theorem isOpName_lower {s t : String} (h : lowerStr s = lowerStr t) (hs : IsOpName s) : IsOpName t := by
  unfold IsOpName at *
  rw [← isOp_lower h, ← isPseudoOp_lower h]; exact hs

theorem opOfString_caseEq {s t : String} (h : CaseEq s t) : Spec.opOfString s = Spec.opOfString t := by
  rw [← getOpCode_eq h.1, ← getOpCode_eq h.2.1, getOpCode_lower h.2.2]

theorem modOfString_caseEq {s t : String} (h : CaseEq s t) : Spec.modOfString s = Spec.modOfString t := by
  rw [← getOpMode_eq h.1, ← getOpMode_eq h.2.1]
  unfold getOpMode
  rw [lower_of_lowerStr h.2.2]

theorem instrMeaning_caseEq (c : Spec.Cfg) (t : Spec.Tables) (k : Nat) {op op' : String}
    {md md' : Option String} (a : Spec.POperand) (b : Option Spec.POperand)
    (hop : CaseEq op op') (hmd : CaseEqO md md') :
    Spec.instrMeaning c t k op md a b = Spec.instrMeaning c t k op' md' a b := by
  have h1 := opOfString_caseEq hop
  refine hmd.elim ?_ ?_
  · simp only [Spec.instrMeaning, h1]
  · intro s s' h
    simp only [Spec.instrMeaning, h1, modOfString_caseEq h, Option.isSome_some]

theorem opString_caseEq {op op' : String} {md md' : Option String} (hop : CaseEq op op')
    (hmd : CaseEqO md md') : CaseEq (opString op md) (opString op' md') := by
  refine hmd.elim ?_ ?_
  · rw [opString_none, opString_none]
    exact hop
  · intro s s' h
    have asc : ∀ {o m : String}, Ascii o → Ascii m → Ascii (opString o (some m)) := by
      intro o m ho hm c hc
      rw [opString_some_toList] at hc
      rcases List.mem_append.1 hc with hc | hc
      · exact ho c hc
      · rcases List.mem_cons.1 hc with rfl | hc
        · decide
        · exact hm c hc
    have h1 : op.toList.map lowerChar = op'.toList.map lowerChar := lower_of_lowerStr hop.2.2
    have h2 : s.toList.map lowerChar = s'.toList.map lowerChar := lower_of_lowerStr h.2.2
    refine ⟨asc hop.1 h.1, asc hop.2.1 h.2.1, lowerStr_of_lower ?_⟩
    rw [opString_some_toList, opString_some_toList]
    simp only [toLower, List.map_append, List.map_cons, h1, h2]

def XCase : AsmLine.XItem → AsmLine.XItem → Prop
  | .instr ls op md a b, y => ∃ op' md', y = .instr ls op' md' a b ∧ CaseEq op op' ∧ CaseEqO md md'
  | .equ kw n e, y => ∃ kw', y = .equ kw' n e ∧ lowerStr kw = lowerStr kw'
  | .org kw e, y => ∃ kw', y = .org kw' e ∧ lowerStr kw = lowerStr kw'
  | .end_ kw e, y => ∃ kw', y = .end_ kw' e ∧ lowerStr kw = lowerStr kw'
  | .assert cm e, y => y = .assert cm e

def XCases : List AsmLine.XItem → List AsmLine.XItem → Prop
  | [], [] => True
  | x :: r, y :: s => XCase x y ∧ XCases r s
  | _, _ => False

theorem XCases.ind2 {motive : ∀ P Q, XCases P Q → Prop} (nil : motive [] [] trivial)
    (cons : ∀ x y r s (hxy : XCase x y) (h : XCases r s),
      motive r s h → motive (x :: r) (y :: s) ⟨hxy, h⟩) :
    ∀ P Q h, motive P Q h := by
  intro P
  induction P with
  | nil => intro Q h; cases Q with
    | nil => exact nil
    | cons y s => exact False.elim h
  | cons x r ih => intro Q h; cases Q with
    | nil => exact False.elim h
    | cons y s => exact cons x y r s h.1 h.2 (ih s h.2)

theorem XCases.append {P Q P' Q' : List AsmLine.XItem} (h : XCases P Q) (h' : XCases P' Q') :
    XCases (P ++ P') (Q ++ Q') := by
  induction P, Q, h using XCases.ind2 with
  | nil => exact h'
  | cons x y r s hxy _ ih => exact ⟨hxy, ih⟩

@[elab_as_elim]
theorem XCase.elim {motive : AsmLine.XItem → AsmLine.XItem → Prop}
    (instr : ∀ ls op md a b op' md', CaseEq op op' → CaseEqO md md' →
      motive (.instr ls op md a b) (.instr ls op' md' a b))
    (equ : ∀ kw kw' n e, lowerStr kw = lowerStr kw' → motive (.equ kw n e) (.equ kw' n e))
    (org : ∀ kw kw' e, lowerStr kw = lowerStr kw' → motive (.org kw e) (.org kw' e))
    (end_ : ∀ kw kw' e, lowerStr kw = lowerStr kw' → motive (.end_ kw e) (.end_ kw' e))
    (assert : ∀ cm e, motive (.assert cm e) (.assert cm e))
    {x y : AsmLine.XItem} (h : XCase x y) : motive x y := by
  cases x with
  | instr ls op md a b => obtain ⟨op', md', rfl, h1, h2⟩ := h; exact instr _ _ _ _ _ _ _ h1 h2
  | equ kw n e => obtain ⟨kw', rfl, h1⟩ := h; exact equ _ _ _ _ h1
  | org kw e => obtain ⟨kw', rfl, h1⟩ := h; exact org _ _ _ h1
  | end_ kw e => obtain ⟨kw', rfl, h1⟩ := h; exact end_ _ _ _ h1
  | assert cm e => cases h; exact assert _ _

theorem XCase.isInstr {x y : AsmLine.XItem} (h : XCase x y) : y.isInstr = x.isInstr := by
  refine h.elim ?_ ?_ ?_ ?_ ?_ <;> intros <;> rfl

theorem XCases.labelsFrom {P Q : List AsmLine.XItem} (h : XCases P Q) :
    ∀ k, xlabelsFrom k Q = xlabelsFrom k P := by
  induction P, Q, h using XCases.ind2 with
  | nil => intro k; rfl
  | cons x y r s hxy _ ih =>
    intro k
    refine hxy.elim ?_ ?_ ?_ ?_ ?_ <;> intros <;> simp only [xlabelsFrom, ih]

theorem XCases.equs {P Q : List AsmLine.XItem} (h : XCases P Q) : xequs Q = xequs P := by
  induction P, Q, h using XCases.ind2 with
  | nil => rfl
  | cons x y r s hxy _ ih =>
    refine hxy.elim ?_ ?_ ?_ ?_ ?_ <;> intros <;> simp only [xequs, ih]

theorem XCases.instrCount {P Q : List AsmLine.XItem} (h : XCases P Q) :
    xinstrCount Q = xinstrCount P := by
  induction P, Q, h using XCases.ind2 with
  | nil => rfl
  | cons x y r s hxy _ ih => rw [xinstrCount_cons, xinstrCount_cons, hxy.isInstr, ih]

theorem XCases.names {P Q : List AsmLine.XItem} (h : XCases P Q) :
    Q.flatMap XItemNames = P.flatMap XItemNames := by
  induction P, Q, h using XCases.ind2 with
  | nil => rfl
  | cons x y r s hxy _ ih =>
    simp only [List.flatMap_cons, ih]
    congr 1
    refine hxy.elim ?_ ?_ ?_ ?_ ?_ <;> intros <;> rfl

theorem XCases.start {P Q : List AsmLine.XItem} (h : XCases P Q) : xstart Q = xstart P := by
  unfold xstart
  generalize ([.num 0] : List Spec.ETok) = acc
  induction P, Q, h using XCases.ind2 generalizing acc with
  | nil => rfl
  | cons x y r s hxy _ ih =>
    have : xstartStep acc y = xstartStep acc x := by
      refine hxy.elim (by intros; rfl) (by intros; rfl) (by intros; rfl)
        (fun _ _ e _ => by cases e <;> rfl) (by intros; rfl)
    simp only [List.foldl_cons, this, ih]

theorem XCases.asserts_eq {P Q : List AsmLine.XItem} (h : XCases P Q) (c : Spec.Cfg) (t : Spec.Tables) :
    assertsOk c t (Q.map AsmLine.XItem.toItem) = assertsOk c t (P.map AsmLine.XItem.toItem) := by
  induction P, Q, h using XCases.ind2 with
  | nil => rfl
  | cons x y r s hxy _ ih =>
    simp only [List.map_cons, assertsOk_cons, ih]
    congr 1
    refine hxy.elim ?_ ?_ ?_ ?_ ?_ <;> intros <;> rfl

theorem XCases.code_eq {P Q : List AsmLine.XItem} (h : XCases P Q) (c : Spec.Cfg) (t : Spec.Tables) :
    ∀ init, codeFold c t (Q.map AsmLine.XItem.toItem) init =
      codeFold c t (P.map AsmLine.XItem.toItem) init := by
  induction P, Q, h using XCases.ind2 with
  | nil => intro init; rfl
  | cons x y r s hxy _ ih =>
    intro init
    refine hxy.elim ?_ ?_ ?_ ?_ ?_
    · intro ls op md a b op' md' hop hmd
      obtain ⟨code, k⟩ := init
      cases code with
      | none => simp only [List.map_cons, AsmLine.XItem.toItem, codeFold_instr_none, ih]
      | some code =>
        simp only [List.map_cons, AsmLine.XItem.toItem, codeFold_instr_some, ih,
          instrMeaning_caseEq c t k a.toP (b.map XOperand.toP) hop hmd]
    all_goals
      intros
      simp only [List.map_cons, AsmLine.XItem.toItem, codeFold_equ, codeFold_org, codeFold_end,
        codeFold_assert, ih]

theorem XCases.tables {P Q : List AsmLine.XItem} (h : XCases P Q) (sc : Spec.Cfg) :
    xtables sc Q = xtables sc P := by
  unfold xtables
  rw [h.labelsFrom, h.equs]

theorem XCases.meaning_eq {P Q : List AsmLine.XItem} (h : XCases P Q) (sc : Spec.Cfg) :
    Spec.meaningFlat sc (Q.map AsmLine.XItem.toItem) = Spec.meaningFlat sc (P.map AsmLine.XItem.toItem) := by
  rw [meaningFlat_eq, meaningFlat_eq, xlabelFold_items, xlabelFold_items, h.labelsFrom,
    h.instrCount]
  unfold flatTail tablesOf
  simp only [xequsOf_items, xstartFold_items, xmetaOf_items, h.equs, h.start, h.asserts_eq,
    h.code_eq]

theorem XCase.wf {x y : AsmLine.XItem} (h : XCase x y) {lexTokens : String → List Token}
    {sc : Spec.Cfg} {t : Spec.Tables} {k : Nat} (hw : x.WF lexTokens sc t k) : y.WF lexTokens sc t k := by
  revert hw
  refine h.elim ?_ ?_ ?_ ?_ ?_
  · intro ls op md a b op' md' hop hmd ⟨_, h2, _, h4, h5⟩
    refine ⟨hop.2.1, mt (dot_mem_lower hop.2.2).2 h2, ?_, h4, h5⟩
    refine hmd.elim ?_ ?_
    · intro s hs
      cases hs
    · intro s0 s1 hc s hs
      cases hs
      exact hc.2.1
  · intro kw kw' n e hk hw
    exact ⟨hk.symm.trans hw.1, hw.2⟩
  · intro kw kw' e hk hw
    exact ⟨hk.symm.trans hw.1, hw.2⟩
  · intro kw kw' e hk hw
    exact ⟨hk.symm.trans hw.1, hw.2⟩
  · intro cm e hw
    exact hw

theorem XCases.wf {P Q : List AsmLine.XItem} (h : XCases P Q) {lexTokens : String → List Token}
    {sc : Spec.Cfg} {t : Spec.Tables} :
    ∀ k, XProgWF lexTokens sc t k P → XProgWF lexTokens sc t k Q := by
  induction P, Q, h using XCases.ind2 with
  | nil => intro k _; trivial
  | cons x y r s hxy _ ih =>
    intro k hw
    refine ⟨hxy.wf hw.1, ?_⟩
    rw [hxy.isInstr]
    exact ih _ hw.2

def EItem.CaseVar : EItem → EItem → Prop
  | .instr ls op md a b k, y =>
    ∃ op' md', y = .instr ls op' md' a b k ∧ CaseEq op op' ∧ CaseEqO md md'
  | .equ n kw e k, y => ∃ kw', y = .equ n kw' e k ∧ CaseEq kw kw'
  | .org kw e k, y => ∃ kw', y = .org kw' e k ∧ CaseEq kw kw'
  | .assert cs e k, y => y = .assert cs e k
  | .comment cs k, y => y = .comment cs k

def ECases : List EItem → List EItem → Prop
  | [], [] => True
  | x :: r, y :: s => x.CaseVar y ∧ ECases r s
  | _, _ => False

theorem ECases.ind2 {motive : ∀ I J, ECases I J → Prop} (nil : motive [] [] trivial)
    (cons : ∀ x y r s (hxy : x.CaseVar y) (h : ECases r s),
      motive r s h → motive (x :: r) (y :: s) ⟨hxy, h⟩) :
    ∀ I J h, motive I J h := by
  intro I
  induction I with
  | nil => intro J h; cases J with
    | nil => exact nil
    | cons y s => exact False.elim h
  | cons x r ih => intro J h; cases J with
    | nil => exact False.elim h
    | cons y s => exact cons x y r s h.1 h.2 (ih s h.2)

structure EProg.CaseVar (p q : EProg) : Prop where
  lead : q.lead = p.lead
  items : ECases p.items q.items
  fin : match p.fin with
    | none => q.fin = none
    | some (kw, e) => ∃ kw', q.fin = some (kw', e) ∧ CaseEq kw kw'
  trail : q.trail = p.trail

theorem ECases.mem {I J : List EItem} (h : ECases I J) : ∀ y ∈ J, ∃ x ∈ I, x.CaseVar y := by
  induction I, J, h using ECases.ind2 with
  | nil => intro y hy; cases hy
  | cons x y r s hxy _ ih =>
    intro z hz
    rcases List.mem_cons.1 hz with rfl | hz
    · exact ⟨x, List.mem_cons_self .., hxy⟩
    · obtain ⟨w, hw, hwz⟩ := ih z hz
      exact ⟨w, List.mem_cons_of_mem _ hw, hwz⟩

theorem EItem.CaseVar.spec {x y : EItem} (h : x.CaseVar y) :
    XCases x.toX.toList y.toX.toList ∧ (x.LexOK → y.LexOK) ∧ (x.NamesOK → y.NamesOK) ∧
      (∀ cs k, y = .comment cs k → x = y) ∧ ∀ m, y.toP.metadata m = x.toP.metadata m := by
  cases x with
  | instr ls op md a b k =>
    obtain ⟨op', md', rfl, hop, hmd⟩ := h
    have ho := opString_caseEq hop hmd
    exact ⟨⟨⟨_, _, rfl, hop, hmd⟩, trivial⟩, fun hx => ⟨hx.1, identOK_caseEq ho ▸ hx.2.1, hx.2.2⟩,
      fun hx => ⟨hx.1, isOpName_lower ho.2.2 hx.2⟩, nofun, fun m => Eq.refl m⟩
  | equ n kw e k =>
    obtain ⟨kw', rfl, hk⟩ := h
    exact ⟨⟨⟨_, rfl, hk.2.2⟩, trivial⟩, fun hx => ⟨hx.1, identOK_caseEq hk ▸ hx.2.1, hx.2.2⟩, id, nofun,
      fun m => Eq.refl m⟩
  | org kw e k =>
    obtain ⟨kw', rfl, hk⟩ := h
    exact ⟨⟨⟨_, rfl, hk.2.2⟩, trivial⟩, fun hx => ⟨identOK_caseEq hk ▸ hx.1, hx.2⟩, id, nofun,
      fun m => Eq.refl m⟩
  | assert cs e k => cases h; exact ⟨⟨rfl, trivial⟩, id, id, nofun, fun _ => rfl⟩
  | comment cs k => cases h; exact ⟨trivial, id, id, fun _ _ _ => rfl, fun _ => rfl⟩

theorem ECases.xcases {I J : List EItem} (h : ECases I J) :
    XCases (I.filterMap EItem.toX) (J.filterMap EItem.toX) := by
  induction I, J, h using ECases.ind2 with
  | nil => trivial
  | cons x y r s hxy _ ih =>
    have e : ∀ (z : EItem) l, (z :: l).filterMap EItem.toX = z.toX.toList ++ l.filterMap EItem.toX :=
      fun z l => by rw [List.filterMap_cons]; cases z.toX <;> rfl
    rw [e, e]
    exact hxy.spec.1.append ih

theorem EProg.CaseVar.xcases {p q : EProg} (h : p.CaseVar q) : XCases p.xitems q.xitems := by
  unfold EProg.xitems EProg.finX
  refine XCases.append h.items.xcases ?_
  have hf := h.fin
  split at hf
  · rename_i hp
    rw [hp, hf]
    trivial
  · rename_i kw e hp
    obtain ⟨kw', hq, hk⟩ := hf
    rw [hp, hq]
    exact ⟨⟨kw', rfl, hk.2.2⟩, trivial⟩

theorem EProg.CaseVar.lexOK {p q : EProg} (h : p.CaseVar q) (hp : p.LexOK) : q.LexOK where
  items := by
    intro y hy
    obtain ⟨x, hx, hxy⟩ := h.items.mem y hy
    exact hxy.spec.2.1 (hp.items x hx)
  fin := by
    intro kw' e hq
    have hf := h.fin
    split at hf
    · rw [hf] at hq
      cases hq
    · rename_i kw e0 hpf
      obtain ⟨kw'', hq', hk⟩ := hf
      rw [hq'] at hq
      cases hq
      obtain ⟨h1, h2⟩ := hp.fin kw e hpf
      exact ⟨identOK_caseEq hk ▸ h1, h2⟩

theorem EProg.CaseVar.namesOK {p q : EProg} (h : p.CaseVar q) (hp : p.NamesOK) : q.NamesOK where
  items := by
    intro y hy
    obtain ⟨x, hx, hxy⟩ := h.items.mem y hy
    exact hxy.spec.2.2.1 (hp.items x hx)

theorem EProg.CaseVar.plain {p q : EProg} (h : p.CaseVar q)
    (hp : ∀ cs k, EItem.comment cs k ∈ p.items → plainComment cs) :
    ∀ cs k, EItem.comment cs k ∈ q.items → plainComment cs := by
  intro cs k hq
  obtain ⟨x, hx, hxy⟩ := h.items.mem _ hq
  exact hp cs k (hxy.spec.2.2.2.1 cs k rfl ▸ hx)

theorem ECases.meta_eq {I J : List EItem} (h : ECases I J) :
    ∀ m, pitemsMeta (J.map EItem.toP) m = pitemsMeta (I.map EItem.toP) m := by
  induction I, J, h using ECases.ind2 with
  | nil => intro m; rfl
  | cons x y r s hxy _ ih =>
    intro m
    simp only [List.map_cons, pitemsMeta, hxy.spec.2.2.2.2 m, ih]

theorem EProg.CaseVar.meta_eq {p q : EProg} (h : p.CaseVar q) : q.meta = p.meta :=
  h.items.meta_eq {}

/-- `assemble_meaning_anycase` of C03: `p` carries the hypotheses of `assemble_meaning_equ`, `ls` is
    any spacing of the words of its case variant `q`, the result is the reference meaning of `p` -/
theorem assemble_meaning_anycase (cfg : Config) (sc : Spec.Cfg) (p q : EProg) (d : String → Nat)
    (hpq : p.CaseVar q)
    (hv : cfg.validate = true) (h63 : cfg.coreSize.toNat < 2 ^ 63) (hr : CfgRel cfg sc)
    (hlex : p.LexOK) (hnames : p.NamesOK)
    (hplain : ∀ cs k, EItem.comment cs k ∈ p.items → plainComment cs)
    (hnd : (p.labels ++ p.equNames ++ constNames).Nodup)
    (hcl : ∀ x ∈ p.names, x ∈ p.labels ∨ x ∈ p.equNames ∨ x ∈ constNames)
    (hsmall : xinstrCount p.xitems < 2 ^ 63)
    (hrk : ERanked (xequs p.xitems ++ Spec.predefined sc) d) (hlt : ∀ s, d s < 63)
    (hw : XProgWF lexString sc (xtables sc p.xitems) 0 p.xitems)
    (ls : List SrcLine) (hls : ∀ l ∈ ls, l.ok (some '\n') = true) (hsame : SameLines ls q.srcLines)
    (src : List UInt8) (hsrc : decodeRunes src = renderLines ls) :
    assemble cfg src =
      match Spec.meaningFlat sc (p.xitems.map AsmLine.XItem.toItem) with
      | some m => .ok (toWD p.meta m)
      | none => .err := by
  have hx := hpq.xcases
  have hlab : q.labels = p.labels := by unfold EProg.labels; rw [hx.labelsFrom]
  have hequ : q.equNames = p.equNames := by unfold EProg.equNames; rw [hx.equs]
  have hnam : q.names = p.names := hx.names
  rw [assemble_meaning_equ cfg sc q d hv h63 hr (hpq.lexOK hlex) (hpq.namesOK hnames)
    (hpq.plain hplain) (by rw [hlab, hequ]; exact hnd) (by rw [hlab, hequ, hnam]; exact hcl)
    (by rw [hx.instrCount]; exact hsmall) (by rw [hx.equs]; exact hrk) hlt
    (by rw [hx.tables]; exact hx.wf 0 hw) ls hls hsame src hsrc, hx.meaning_eq sc, hpq.meta_eq]
  -- the `match` here and the one of `assemble_meaning_equ` are two auxiliary functions: unifying
  -- them directly makes Lean evaluate `Spec.meaningFlat`
  cases Spec.meaningFlat sc (p.xitems.map AsmLine.XItem.toItem) <;> rfl

end AsmComposeEqu
end Gmars
