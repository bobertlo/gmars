/-
  The printed names of the opcodes and modifiers (`Op.name`, `Modifier.name`) are words of
  upper-case letters. Whatever the printers and readers need of them (no blank, no `;`, no `.`,
  still a word after lower-casing) holds of every such word.  That the readers read the names
  back comes from the name tables of Proofs/AsmOps.lean (`AsmLine.getOpCode_name`), for the
  reference readers through `AsmLine.getOpCode_eq`.
-/
import Gmars.Spec.LoadText
import Gmars.Proofs.Legal88
import Gmars.Proofs.AsmOps

namespace Gmars.RoundTrip
open Gmars.GoStr

def IsUpper (c : Char) : Prop := 65 ≤ c.toNat ∧ c.toNat ≤ 90

theorem IsUpper.ne {c d : Char} (h : IsUpper c) (hd : d.toNat < 65) : c ≠ d := by
  intro e
  have := h.1
  subst e
  omega

theorem IsUpper.noSpace {c : Char} (h : IsUpper c) : isAsciiSpace c = false := by
  cases hs : isAsciiSpace c with
  | false => rfl
  | true =>
    rw [isAsciiSpace_iff] at hs
    rcases hs with e | e | e | e | e | e <;> exact absurd e (h.ne (by decide))

theorem IsUpper.lower_ne {c d : Char} (h : IsUpper c) (hd : d.toNat < 65) : lowerChar c ≠ d :=
  fun e => h.ne hd ((lowerChar_eq_iff hd).1 e)

theorem dot_not_mem_lower {w : Str} (h : ∀ c ∈ w, IsUpper c) : '.' ∉ toLower w := by
  intro hm
  obtain ⟨c, hc, e⟩ := List.mem_map.1 hm
  exact (h c hc).lower_ne (by decide) e

theorem op_upper (o : Op) : ∀ c ∈ o.name.toList, IsUpper c := by
  unfold IsUpper; cases o <;> decide +kernel

theorem mod_upper (m : Modifier) : ∀ c ∈ m.name.toList, IsUpper c := by
  unfold IsUpper; cases m <;> decide +kernel

theorem forall_mnemonic {Q : Char → Prop} (hdot : Q '.') (hup : ∀ c, IsUpper c → Q c)
    (legacy : Bool) (o : Op) (m : Modifier) :
    ∀ c ∈ o.name.toList ++ (if legacy then [] else '.' :: m.name.toList), Q c := by
  intro c hc
  rcases List.mem_append.1 hc with hc | hc
  · exact hup c (op_upper o c hc)
  · cases legacy
    · rcases List.mem_cons.1 hc with rfl | hc
      · exact hdot
      · exact hup c (mod_upper m c hc)
    · cases hc

theorem op_name_length (o : Op) : o.name.toList.length = 3 := by cases o <;> decide +kernel

theorem op_ne_nil (o : Op) : o.name.toList ≠ [] :=
  fun h => absurd (op_name_length o) (by rw [h]; decide)

theorem ascii_of_upper {s : String} (h : ∀ c ∈ s.toList, IsUpper c) :
    AsmLine.Ascii s ∧ '.' ∉ s.toList :=
  ⟨fun c hc => Nat.lt_of_le_of_lt (h c hc).2 (by decide), fun hd => absurd (h _ hd).1 (by decide)⟩

theorem ascii_opName (op : Op) : AsmLine.Ascii op.name ∧ '.' ∉ op.name.toList :=
  ascii_of_upper (op_upper op)

theorem ascii_mdName (md : Modifier) : AsmLine.Ascii md.name := (ascii_of_upper (mod_upper md)).1

theorem dot_not_mem_mdName (md : Modifier) : '.' ∉ md.name.toList :=
  (ascii_of_upper (mod_upper md)).2

theorem is88Op_of_mem {op : Op} (h : op ∈ ops88) : Spec.is88Op op = true :=
  List.contains_iff_mem.2 h

theorem opOfString_name (o : Op) : Spec.opOfString o.name = some o := by
  rw [← AsmLine.getOpCode_eq (ascii_of_upper (op_upper o)).1, AsmLine.getOpCode_name]

theorem modOfString_name (m : Modifier) : Spec.modOfString m.name = some m := by
  rw [← AsmLine.getOpMode_eq (ascii_of_upper (mod_upper m)).1, AsmLine.getOpMode_name]

/-- the reference reader of listings searches the names as the reference assembler does, on
    character lists instead of strings -/
theorem find?_name_toList {β : Type} (all : List β) (name : β → String) (l : Str) :
    all.find? (fun o => (name o).toList == l.map Char.toUpper) =
      all.find? (fun o => name o == (String.ofList l).toUpper) := by
  congr 1; funext o
  rw [String.toUpper, Bool.eq_iff_iff, beq_iff_eq, beq_iff_eq]
  constructor
  · intro e; apply String.toList_injective; rw [e, String.toList_map, String.toList_ofList]
  · intro e; rw [e, String.toList_map, String.toList_ofList]

theorem opOfName_name (o : Op) : Spec.opOfName o.name.toList = some o := by
  rw [Spec.opOfName, find?_name_toList, String.ofList_toList]
  exact opOfString_name o

theorem modOfName_name (m : Modifier) : Spec.modOfName m.name.toList = some m := by
  rw [Spec.modOfName, find?_name_toList, String.ofList_toList]
  exact modOfString_name m

theorem getOpCode88_name {o : Op} (ho : o ∈ ops88) :
    getOpCode88 (toLower o.name.toList) = some o := by
  rw [AsmLine.getOpCode88_eq_filter, AsmLine.getOpCode_toLower, AsmLine.getOpCode_name, Option.filter,
    if_pos (is88Op_of_mem ho)]

end Gmars.RoundTrip
