/-
  C16 for the tool: what `gmars -A` prints is, file by file, a listing that denotes the warrior
  the assembler produced for that file under the configuration the flags describe.

  `RoundTrip.listing_roundtrip_gen` (C16) needs an entry point inside the code and, in the '88 dialect,
  legal '88 instructions: `Compile.compile_wf` and `Compile.compile_88_legal` (Proofs/CompileWF)
  provide both for every assembled warrior, given a core below 2^63 cells. For the tool that
  bound is not a hypothesis: a larger core makes
  `NewSimulator` panic in `make` before anything is printed (`cliAssembleRun`). The empty warrior
  (`LoadCode() = ""`) is covered too: the empty text reads back as the empty program with entry
  point 0, which is what the assembler returned.
-/
import Gmars.Model.CliList
import Gmars.Proofs.RoundTripB
import Gmars.Proofs.AsmTerm

namespace Gmars.Cli
open GoStr

/-- `newCompiler` validates the configuration -/
theorem assemble_ok_validate {cfg : Config} {src : List UInt8} {w : WarriorData}
    (h : assemble cfg src = .ok w) : cfg.validate = true := by
  obtain ⟨lines, ameta, hc⟩ := assemble_ok_from_compile h
  exact (Compile.compileX_ok (Compile.compile_eq_some hc)).valid

theorem assembleAll_cases (cfg : Config) (files : List (List UInt8)) :
    (∃ ws, assembleAll cfg files = .ok ws ∧ ws.length = files.length ∧
      ∀ p ∈ files.zip ws, assemble cfg p.1 = .ok p.2) ∨
    ∃ r, assembleAll cfg files = .error r ∧ ∀ t, r ≠ .out t := by
  induction files with
  | nil => exact .inl ⟨[], rfl, rfl, nofun⟩
  | cons f fs ih =>
    rw [assembleAll]
    cases hw : assemble cfg f with
    | ok w =>
      rcases ih with ⟨ws, e, hl, hz⟩ | ⟨r, e, hr⟩
      · refine .inl ⟨w :: ws, by simp only [e], congrArg (· + 1) hl, fun p hp => ?_⟩
        rcases List.mem_cons.1 hp with rfl | hp
        · exact hw
        · exact hz p hp
      · exact .inr ⟨r, by simp only [e], hr⟩
    | err => exact .inr ⟨_, rfl, nofun⟩
    | unmodelled => exact .inr ⟨_, rfl, nofun⟩
    | fault ft => exact .inr ⟨_, rfl, nofun⟩

theorem assembleAll_ok {cfg : Config} {files : List (List UInt8)} {ws : List WarriorData}
    (h : assembleAll cfg files = .ok ws) :
    ws.length = files.length ∧ ∀ p ∈ files.zip ws, assemble cfg p.1 = .ok p.2 := by
  rcases assembleAll_cases cfg files with ⟨ws', e, h'⟩ | ⟨r, e, _⟩
  · cases e.symm.trans h
    exact h'
  · cases e.symm.trans h

theorem assembleAll_get {cfg : Config} {files : List (List UInt8)} {ws : List WarriorData}
    (h : assembleAll cfg files = .ok ws) (i : Nat) (hi : i < files.length) :
    ∃ hw : i < ws.length, assemble cfg files[i] = .ok ws[i] := by
  obtain ⟨hl, hz⟩ := assembleAll_ok h
  have hw : i < ws.length := hl ▸ hi
  refine ⟨hw, hz (files[i], ws[i]) ?_⟩
  rw [List.mem_iff_getElem]
  exact ⟨i, by rw [List.length_zip]; omega, by simp⟩

/-- `NewSimulator` cannot fail in the `-A` branch: the `nilDeref` arm of `cliAssembleRun` is dead
    code, as in main.go -/
theorem assembleAll_validate {cfg : Config} {files : List (List UInt8)} {ws : List WarriorData}
    (h : assembleAll cfg files = .ok ws) (hne : ws ≠ []) : cfg.validate = true := by
  obtain ⟨hl, hz⟩ := assembleAll_ok h
  match files, ws, hl, hz, hne with
  | f :: _, w :: _, _, hz, _ => exact assemble_ok_validate (hz (f, w) (by simp))
  | _, [], _, _, hne => exact absurd rfl hne

/-- `listingOf` is `LoadCode()` of a warrior added to the simulator `NewSimulator(cfg)` returns -/
theorem listingOf_sim {cfg : Config} {s : Sim} (h : Sim.new cfg = some s) (w : WarriorData) :
    loadCode s.m s.legacy w = listingOf cfg w := by
  unfold Sim.new at h
  split at h
  · cases h; rfl
  · cases h

/-- the core is below 2^63 cells because `compile_wf` needs it (`int(m)` must not be negative in
    `reduceMod`). No hypothesis on the length: the empty warrior prints "" and "" reads back as the
    empty program, entry point 0. -/
theorem listing_denotes {cfg : Config} {src : List UInt8} {w : WarriorData}
    (h : assemble cfg src = .ok w) (h63 : cfg.coreSize.toNat < 2 ^ 63) :
    ∃ t, Spec.readText (listingOf cfg w) = some t ∧
      Spec.denotes cfg.coreSize.toNat t w.code.toList w.start = true := by
  obtain ⟨lines, ameta, hc⟩ := assemble_ok_from_compile h
  obtain ⟨_, hst, _⟩ := Compile.compile_wf hc h63
  have h88 := Compile.compile_88_legal hc
  rcases hst with ⟨h0, hs0⟩ | ⟨hs, hlt⟩
  · have hl : w.code.toList = [] := List.eq_nil_of_length_eq_zero (by simpa using h0)
    have he : listingOf cfg w = [] := by simp [listingOf, loadCode, h0]
    refine ⟨{ code := [], start := 0 }, ?_, ?_⟩
    · rw [he]; decide
    · rw [hl, hs0]; simp [Spec.denotes]
  · exact RoundTrip.listing_roundtrip_gen cfg.coreSize (cfg.mode == .icws88) w hs hlt
      (fun hl => h88 (by simpa using hl))

/-- for any configuration (not only one the flags can describe) and any number of files -/
theorem listings_denote {cfg : Config} {files : List (List UInt8)} {ws : List WarriorData}
    (h : assembleAll cfg files = .ok ws) (h63 : cfg.coreSize.toNat < 2 ^ 63) :
    listings cfg ws = (ws.map (fun w => listingOf cfg w ++ ['\n'])).flatten ∧
    ∀ w ∈ ws, ∃ t, Spec.readText (listingOf cfg w) = some t ∧
      Spec.denotes cfg.coreSize.toNat t w.code.toList w.start = true := by
  refine ⟨rfl, ?_⟩
  intro w hw
  obtain ⟨hl, _⟩ := assembleAll_ok h
  obtain ⟨i, hi, rfl⟩ := List.mem_iff_getElem.mp hw
  obtain ⟨_, ha⟩ := assembleAll_get h i (hl ▸ hi)
  exact listing_denotes ha h63

theorem alloc_bound {m : Nat} (h : ¬ m * instrBytes > maxAlloc) : m < 2 ^ 63 := by
  simp only [instrBytes, maxAlloc] at h
  omega

/-- what a run that prints something went through, arm by arm of `cliAssembleRun` -/
theorem cliAssembleRun_out {fl : Flags} {files : List (List UInt8)} {text : Str}
    (h : cliAssembleRun fl files = .out text) :
    ∃ cfg ws, config fl = some cfg ∧ files.length ≤ 2 ∧ assembleAll cfg files = .ok ws ∧ ws ≠ [] ∧
      cfg.validate = true ∧ cfg.coreSize.toNat < 2 ^ 63 ∧ text = listings cfg ws := by
  unfold cliAssembleRun at h
  split at h
  · cases h
  rename_i cfg hcfg
  split at h
  · cases h
  rename_i hlen
  split at h
  · -- a refusal of `assembleAll` is never an output
    rename_i r hr
    rcases assembleAll_cases cfg files with ⟨_, e, _⟩ | ⟨r', e, hr'⟩
    · cases e.symm.trans hr
    · cases e.symm.trans hr
      exact absurd h (hr' _)
  rename_i ws hws
  split at h
  · cases h
  rename_i hne
  split at h
  · cases h
  rename_i hv
  split at h
  · cases h
  rename_i halloc
  cases h
  exact ⟨cfg, ws, hcfg, by omega, hws, by rintro rfl; simp at hne, by simpa using hv,
    alloc_bound halloc, rfl⟩

/-- `cli_A_roundtrip` — whenever `gmars -A <flags> <files>` prints something (exit status 0),
    then for the configuration `cfg` the flags describe (`Cli.config`: a preset, or
    `NewQuickConfig` of `-8 -s -p -c -l`) there is one warrior per file (one or two files), in
    order, the `i`-th being what `CompileWarrior` returns for the `i`-th file under `cfg`; the
    output is the concatenation of `listing ++ "\n"` over the files; and each listing, read back
    with the reference reader `Spec.readText`, denotes (`Spec.denotes`, fields modulo the core
    size) exactly that warrior: its instructions and its entry point.

    No side condition is left to the caller: the validity of `cfg` follows from the assembler
    having accepted a file, the bound `core < 2^63` from the runtime's allocation limit
    (`NewSimulator` panics above 2^48/40 cells: no output), and empty warriors are included. -/
theorem cli_A_roundtrip {fl : Flags} {files : List (List UInt8)} {out : String}
    (h : cliAssembleOutput fl files = some out) :
    ∃ (cfg : Config) (ws : List WarriorData),
      config fl = some cfg ∧ cfg.validate = true ∧ cfg.coreSize.toNat < 2 ^ 63 ∧
      ws.length = files.length ∧ 1 ≤ files.length ∧ files.length ≤ 2 ∧
      (∀ p ∈ files.zip ws, assemble cfg p.1 = .ok p.2) ∧
      out = String.ofList ((ws.map (fun w => listingOf cfg w ++ ['\n'])).flatten) ∧
      ∀ w ∈ ws, ∃ t, Spec.readText (listingOf cfg w) = some t ∧
        Spec.denotes cfg.coreSize.toNat t w.code.toList w.start = true := by
  unfold cliAssembleOutput at h
  split at h
  · rename_i text hrun
    cases h
    obtain ⟨cfg, ws, hcfg, hlen, hws, hne, hv, h63, rfl⟩ := cliAssembleRun_out hrun
    obtain ⟨hl, hz⟩ := assembleAll_ok hws
    have : 0 < ws.length := List.length_pos_iff.mpr hne
    exact ⟨cfg, ws, hcfg, hv, h63, hl, by omega, hlen, hz, rfl, (listings_denote hws h63).2⟩
  · cases h

def twoLine : List UInt8 := "mov 0, 1\ndat #3, 4001\n".toList.map (fun c => UInt8.ofNat c.toNat)

/-- `gmars -A two.red` (default flags: ICWS'94, core 8000): ORG START first, modifiers printed,
    4001 shown as -3999 -/
theorem twoLine_default :
    cliAssembleOutput {} [twoLine] = some
      "       ORG      START\nSTART  MOV.I  $     0, $     1     \n       DAT.F  #     3, $ -3999     \n\n" := by
  decide +kernel

/-- `gmars -A -8 two.red`: no ORG line, no modifiers, END START last; under '88 rules the lone
    `$`-mode B operand of DAT is assembled as `#` -/
theorem twoLine_88 :
    cliAssembleOutput { use88 := true } [twoLine] = some
      "START  MOV    $     0, $     1     \n       DAT    #     3, # -3999     \n       END      START\n\n" := by
  decide +kernel

/-- the same file twice under a preset (`-preset nop256` wins over `-8 -s 55440`): two listings,
    each followed by the newline of `Println`; 4001 mod 256 = 161 is shown as -95 -/
example :
    cliAssembleOutput { preset := "nop256", use88 := true, size := 55440 } [twoLine, twoLine] = some
      ("       ORG      START\nSTART  MOV.I  $     0, $     1     \n       DAT.F  #     3, $   -95     \n\n" ++
       "       ORG      START\nSTART  MOV.I  $     0, $     1     \n       DAT.F  #     3, $   -95     \n\n") := by
  decide +kernel

example :
    Spec.readText "       ORG      START\nSTART  MOV.I  $     0, $     1     \n       DAT.F  #     3, $ -3999     \n".toList =
      some { code := [(.mov, some .i, .direct, 0, .direct, 1), (.dat, some .f, .immediate, 3, .direct, -3999)],
             start := 0 } := by
  decide +kernel

example :
    Spec.readText "START  MOV    $     0, $     1     \n       DAT    #     3, # -3999     \n       END      START\n".toList =
      some { code := [(.mov, none, .direct, 0, .direct, 1), (.dat, none, .immediate, 3, .immediate, -3999)],
             start := 0 } := by
  decide +kernel

example : ∃ cfg w, config { use88 := true } = some cfg ∧ assemble cfg twoLine = .ok w ∧
    ∃ t, Spec.readText (listingOf cfg w) = some t ∧
      Spec.denotes cfg.coreSize.toNat t w.code.toList w.start = true := by
  obtain ⟨cfg, ws, hc, _, _, hl, _, _, hz, _, hd⟩ := cli_A_roundtrip twoLine_88
  match ws, hl with
  | [w], _ => exact ⟨cfg, w, hc, hz (twoLine, w) (by simp), hd w (by simp)⟩

/-- an empty program: `LoadCode()` is "", `Println` prints the bare newline -/
example : cliAssembleOutput {} ["; nothing\n".toList.map (fun c => UInt8.ofNat c.toNat)] = some "\n" := by
  decide +kernel

/-- nothing is printed when a file does not assemble (the second file here), for an unknown
    preset, for three files, for no file -/
example : cliAssembleOutput {} [twoLine, "mov 0,\n".toList.map (fun c => UInt8.ofNat c.toNat)] = none := by
  decide +kernel
example : cliAssembleOutput { preset := "bogus" } [twoLine] = none := by decide +kernel
example : cliAssembleOutput {} [twoLine, twoLine, twoLine] = none := by decide +kernel
example : cliAssembleOutput {} [] = none := by decide +kernel

/-- `-s -1` is the core size 2^64-1: the file assembles, `NewSimulator` panics in `make` -/
example : ∃ pn, cliAssembleRun { size := -1 } [twoLine] = .fault (.panic pn) ∧ pn = .makeLen := by
  refine ⟨.makeLen, ?_, rfl⟩
  have : (match cliAssembleRun { size := -1 } [twoLine] with
          | .fault (.panic .makeLen) => true | _ => false) = true := by decide +kernel
  split at this <;> simp_all

end Gmars.Cli
