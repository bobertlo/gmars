/-
  `assemble` unfolded into its stages: the scan / expand loop on the lexer's token stream
  (`assembleTokens`), then parser and compiler (`parseCompile`).  Where the loop hands the tokens
  on unchanged after one scan and no expansion pass, `assemble` is `parseCompile` on the lexer's
  tokens: for a stream without a `for` token on which the scanner does not fail
  (`assemble_stages`), and for FOR-free lines up to a terminator or an END line
  (`assemble_stages_lines`, `assemble_stages_end`).  The symbol scanner reports "symbol redefined"
  only from an `equ` line, so on a token list without `equ` it cannot fail (`scan_noEquTok`).
-/
import Gmars.Proofs.ForPass
import Gmars.Proofs.CompileWF

namespace Gmars
namespace AsmCompose

open ForPass

theorem scan_noEquTok (ts : List Token) (h : NoEquTok ts) : scanInput ts ≠ .ok none :=
  (scan_good ts).2.2 h

theorem forLoop_plain (fuel depth : Nat) (ts : List Token) (hnf : NoForTok ts) (hterm : HasTerm ts)
    (hscan : scanInput ts ≠ .ok none) : forLoop (fuel + 1) depth ts = .ok ts := by
  rcases forLoop_noForTok fuel depth ts hnf hterm with ⟨_, _, h⟩ | ⟨h, _⟩
  · exact h
  · exact absurd h hscan

/-- the parser and the compiler stage of `CompileWarrior` on a token stream -/
def parseCompile (cfg : Config) (tokens : List Token) : AsmRes :=
  match parse tokens with
  | .error f => .fault f
  | .ok none => .err
  | .ok (some (lines, ameta)) =>
    if compileUnmodelled lexString cfg lines ameta then .unmodelled
    else match compile lexString cfg lines ameta with
      | .error f => .fault f
      | .ok none => .err
      | .ok (some w) => .ok w

def resOf : Option WarriorData → AsmRes
  | some w => .ok w
  | none => .err

theorem parseCompile_of (cfg : Config) (tokens : List Token) (lines : List SourceLine)
    (ameta : AsmMeta) (hp : parse tokens = .ok (some (lines, ameta)))
    (r : Option WarriorData)
    (hc : Compile.compileX lexString cfg lines ameta = Compile.optM r) :
    parseCompile cfg tokens = resOf r := by
  unfold parseCompile
  rw [hp]
  simp only [Compile.compileUnmodelled_of_compileX hc, Compile.compile_of_compileX hc]
  cases r <;> rfl

end AsmCompose

/-- `CompileWarrior` on the token stream of the lexer: pass loop, parser, compiler -/
def AsmComposeFor.assembleTokens (cfg : Config) (tokens : List Token) : AsmRes :=
  match forLoop 14 0 tokens with
  | .error r => r
  | .ok tokens => AsmCompose.parseCompile cfg tokens

namespace AsmCompose
open AsmComposeFor

theorem assemble_eq_tokens (cfg : Config) (src : List UInt8) :
    assemble cfg src = assembleTokens cfg (lexBytes src) := by
  unfold assemble assembleTokens parseCompile
  simp only
  cases forLoop 14 0 (lexBytes src) <;> rfl

theorem assembleTokens_of_forLoop (cfg : Config) (ts out : List Token)
    (h : forLoop 14 0 ts = .ok out) : assembleTokens cfg ts = parseCompile cfg out := by
  unfold assembleTokens
  rw [h]

theorem assemble_of_forLoop (cfg : Config) (src : List UInt8) {ts : List Token}
    (h : forLoop 14 0 (lexBytes src) = .ok ts) : assemble cfg src = parseCompile cfg ts := by
  rw [assemble_eq_tokens, assembleTokens_of_forLoop cfg _ _ h]

end AsmCompose

open AsmCompose ForPass in
/-- `hscan`: no symbol is defined twice by EQU lines (`.ok none` is the scanner's "symbol
    redefined") -/
theorem assemble_stages (cfg : Config) (src : List UInt8) (hnf : NoForTok (lexBytes src))
    (hscan : scanInput (lexBytes src) ≠ .ok none) :
    assemble cfg src = parseCompile cfg (lexBytes src) :=
  assemble_of_forLoop cfg src
    (forLoop_plain 13 0 _ hnf (hasTerm_of_terminated (lexBytes_terminated src)) hscan)

open AsmCompose ForPass in
theorem assemble_stages_noEqu (cfg : Config) (src : List UInt8) (hnf : NoForTok (lexBytes src))
    (hne : NoEquTok (lexBytes src)) :
    assemble cfg src = parseCompile cfg (lexBytes src) :=
  assemble_stages cfg src hnf (scan_noEquTok _ hne)

open AsmCompose ForPass in
theorem assemble_stages_lines (cfg : Config) (src : List UInt8) (ls : List Line) (z : Token)
    (rest : List Token) (syms : SymTab) (hsrc : lexBytes src = flat ls ++ z :: rest)
    (hwf : ∀ l ∈ ls, l.WF) (hpre : ScanPre ls [] syms) (hz : z.isTerm = true) :
    assemble cfg src = parseCompile cfg (lexBytes src) := by
  refine assemble_of_forLoop cfg src ?_
  rw [hsrc]
  exact forLoop_forFree 13 0 ls z rest syms hwf hpre hz

open AsmCompose ForPass in
/-- whatever follows the `end` is not scanned: FOR blocks behind it are never expanded -/
theorem assemble_stages_end (cfg : Config) (src : List UInt8) (ls : List Line) (lbls : List Token)
    (f : Token) (rest : List Token) (syms : SymTab)
    (hsrc : lexBytes src = flat ls ++ (lbls ++ f :: rest))
    (hwf : ∀ l ∈ ls, l.WF) (hpre : ScanPre ls [] syms)
    (hl : ∀ x ∈ lbls, isLabelTok x = true) (h1 : f.typ = .text) (h3 : lowerStr f.val = "end") :
    assemble cfg src = parseCompile cfg (lexBytes src) := by
  refine assemble_of_forLoop cfg src ?_
  rw [hsrc]
  exact forLoop_end 13 0 ls lbls f rest syms hwf hpre hl h1 h3

end Gmars
