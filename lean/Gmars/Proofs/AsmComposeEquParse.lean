/-
  C03: the parser on programs with EQU lines `name equ expr`.  The parser records the name as a
  label of a pseudo-op line (so it must be new, like a label), notes the references of the
  expression, and carries on.  Programs without EQU lines (`XProg`) are a special case (`ofX`).
-/
import Gmars.Proofs.ParserWalk
import Gmars.Proofs.ParseReps

namespace Gmars
namespace AsmCompose
open Gmars.Render

theorem lines_xitem (it : XItem) (hok : it.OK) (c : Ctx) (hf : FreshLabels it.labelNames c.symbols) :
    Lines it.tokens c
      { line := c.line + 1 + it.blanks, codeLine := c.codeLine + it.codeLines, cur := c.cur,
        metadata := it.metadata c.metadata, lines := c.lines ++ it.lines c.line c.codeLine,
        symbols := it.labelNames.reverse ++ c.symbols, references := it.refs c.references } := by
  cases it with
  | base it => exact lines_item it hok c hf
  | org kw toks k =>
    obtain ⟨hk, hne, hts⟩ := hok
    refine (lines_pseudo ⟨[], kw, toks, none⟩ ⟨nofun, isPseudoOp_of_lower hk (.inl rfl), hts⟩
      (by rw [hk]; decide) hne k c trivial).eq rfl ?_
    simp [PLine.after, PLine.entry, PLine.names, endLine, hne, XItem.lines, XItem.blanks, XItem.codeLines,
      XItem.metadata, XItem.labelNames, XItem.refs, pseudoLine]

end AsmCompose

namespace AsmComposeEqu
open Gmars.Render Gmars.AsmCompose

theorem isPseudoOp_equ {kw : String} (hk : lowerStr kw = "equ") :
    (⟨.text, kw⟩ : Token).isPseudoOp = true := by
  unfold Token.isPseudoOp
  simp only [hk]

theorem lines_pitem (it : PItem) (hok : it.OK) (c : Ctx) (hf : FreshLabels it.labelNames c.symbols) :
    Lines it.tokens c
      { line := c.line + 1 + it.blanks, codeLine := c.codeLine + it.codeLines, cur := c.cur,
        metadata := it.metadata c.metadata, lines := c.lines ++ it.lines c.line c.codeLine,
        symbols := it.labelNames.reverse ++ c.symbols, references := it.refs c.references } := by
  cases it with
  | x it => exact lines_xitem it hok c hf
  | equ name kw toks k =>
    obtain ⟨hl, hk, hne, hts⟩ := hok
    refine (lines_pseudo ⟨[(name, false)], kw, toks, none⟩ ⟨by simpa using hl, isPseudoOp_equ hk, hts⟩
      (by rw [hk]; decide) hne k c hf).eq rfl ?_
    simp [PLine.after, PLine.entry, PLine.names, endLine, hne, PItem.lines, PItem.blanks, PItem.codeLines,
      PItem.metadata, PItem.labelNames, PItem.refs, equLine]

theorem lines_pitems : ∀ (items : List PItem) (c : Ctx), (∀ it ∈ items, it.OK) →
    FreshLabels (pitemsLabels items) c.symbols →
    Lines (pitemsTokens items) c
      { line := pitemsEndLine items c.line, codeLine := pitemsEndCode items c.codeLine, cur := c.cur,
        metadata := pitemsMeta items c.metadata, lines := c.lines ++ pitemsLines items c.line c.codeLine,
        symbols := (pitemsLabels items).reverse ++ c.symbols,
        references := pitemsRefs items c.references }
  | [], c, _, _ => (Lines.nil c).eq rfl (by simp [pitemsLines, pitemsLabels]; rfl)
  | it :: items, c, hok, hf => by
    rw [pitemsLabels, FreshLabels_append] at hf
    refine ((lines_pitem it (hok it (by simp)) c hf.1).append
      (lines_pitems items _ (fun x hx => hok x (by simp [hx])) hf.2)).eq rfl ?_
    simp [pitemsEndLine, pitemsEndCode, pitemsMeta, pitemsLines, pitemsLabels, pitemsRefs]

theorem parse_pprog (p : PProg) (hp : p.OK) :
    parse p.tokens = .ok (some (p.lines, p.metadata)) := by
  obtain ⟨lead, items, fin, trail⟩ := p
  have h := lines_pitems items { line := 1 + lead, lines := blankLines 1 lead } hp.items
    ((FreshLabels_iff _ _).mpr ⟨hp.nodup, hp.notPredefined⟩)
  have hv : ∀ x ∈ PProg.refs ⟨lead, items, fin, trail⟩, x ∈ (pitemsLabels items).reverse ++ predefined :=
    fun x hx => by rw [List.mem_append, List.mem_reverse]; exact hp.defined x hx
  cases fin with
  | none =>
    simpa [PProg.tokens, PProg.finTokens, PProg.lines, PProg.finLines, PProg.metadata] using
      parse_of_lines lead h (final_eof _) hv
  | some kt =>
    obtain ⟨hk, hts, htr⟩ := hp.fin kt.1 kt.2 rfl
    simpa [PLine.tokens, PLine.after, PLine.entry, PLine.names, PProg.tokens, PProg.finTokens, PProg.lines,
      PProg.finLines, PProg.metadata, endLine, labelTokens, AsmLayout.cmtToks] using
      parse_of_lines lead h (final_end ⟨[], kt.1, kt.2, none⟩
        ⟨nofun, isPseudoOp_of_lower hk (.inr rfl), hts⟩ hk nofun trail htr _ trivial) hv

theorem pitems_x (l : List XItem) :
    pitemsTokens (l.map .x) = xitemsTokens l ∧ ∀ m, pitemsMeta (l.map .x) m = xitemsMeta l m := by
  induction l with
  | nil => exact ⟨rfl, fun _ => rfl⟩
  | cons it r ih =>
    simp only [List.map_cons, pitemsTokens, pitemsMeta, xitemsTokens, xitemsMeta, ih.1, ih.2]
    exact ⟨rfl, fun _ => rfl⟩

end AsmComposeEqu

namespace AsmCompose
open AsmComposeEqu

theorem ofX_tokens (p : XProg) : (ofX p).tokens = p.tokens := by
  unfold PProg.tokens XProg.tokens PProg.finTokens XProg.finTokens ofX
  simp only [(pitems_x p.items).1]

end AsmCompose
end Gmars
