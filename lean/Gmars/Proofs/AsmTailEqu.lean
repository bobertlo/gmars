/-
  C03 / C06, labels on the END line, programs with labels, EQUs and asserts:
  the counter of `loadSymbols` counts the instruction lines, the END line gives its labels the
  value of that counter (`loadSymbolsLine_xend`), so `loadSymbols` builds the label table
  `xtailLabels` (`symC_xrenderT`); `Spec.meaningFlatT` is `flatTail` with that table, and
  `compile_meaning_equ_tail` is `compileFrom_xrender` at it (past `loadSymbols` the labels of a
  line are not read, `compileFrom_unl`, so the END line goes without them).
-/
import Gmars.Proofs.AsmEqu
import Gmars.Spec.ProgramTail
import Gmars.Proofs.AsmComposeCongr

namespace Gmars.AsmLine
open Gmars.Compile

def xtailLabels (body : List XItem) (tail : List String) : List (String × Nat) :=
  xlabelsFrom 0 body ++ tail.map (fun l => (l, xinstrCount body))

theorem xtailLabels_keys (body : List XItem) (tail : List String) :
    (xtailLabels body tail).map (·.1) = (xlabelsFrom 0 body).map (·.1) ++ tail := by
  rw [xtailLabels, List.map_append, List.map_map]
  exact congrArg _ (List.map_id _)

def xrenderT (body : List XItem) (kw : String) (e : Option (List Spec.ETok)) (tail : List String) :
    List SourceLine :=
  xrender 0 body ++ [xendLineT kw e tail]

def xtablesT (sc : Spec.Cfg) (body : List XItem) (kw : String) (e : Option (List Spec.ETok))
    (tail : List String) : Spec.Tables :=
  xtablesS sc (xtailLabels body tail) (body ++ [XItem.end_ kw e])

theorem xprogWF_app (lexTokens : String → List Token) (sc : Spec.Cfg) (t : Spec.Tables)
    (a b : List XItem) :
    ∀ k, XProgWF lexTokens sc t k (a ++ b) ↔
      XProgWF lexTokens sc t k a ∧ XProgWF lexTokens sc t (k + xinstrCount a) b := by
  induction a with
  | nil => intro k; simp [XProgWF, xinstrCount]
  | cons it r ih =>
    intro k
    simp only [List.cons_append, XProgWF, ih, and_assoc, xinstrCount_cons_add]

theorem loadSymbolsLine_snd (st : Compiler × Int) (l : SourceLine) :
    (loadSymbolsLine st l).2 = if isInstr l then wrap64 (st.2 + 1) else st.2 := by
  unfold loadSymbolsLine isInstr
  cases l.typ == .instruction <;> rfl

/-- Go's counter is an `int64` (`wrap64` in the model): it counts the instruction lines as long
    as their number stays below `2^63` -/
theorem foldl_loadSymbolsLine_cur (lines : List SourceLine) :
    ∀ st : Compiler × Int, 0 ≤ st.2 → st.2 + ((lines.filter isInstr).length : Int) < 2 ^ 63 →
      (lines.foldl loadSymbolsLine st).2 = st.2 + ((lines.filter isInstr).length : Int) := by
  induction lines with
  | nil => intro st _ _; simp
  | cons l r ih =>
    intro st h0 hlt
    rw [List.foldl_cons]
    have hs := loadSymbolsLine_snd st l
    cases hl : isInstr l with
    | true =>
      rw [hl, if_pos rfl] at hs
      simp only [List.filter_cons, hl, if_true, List.length_cons, Int.natCast_add, Int.natCast_one] at hlt ⊢
      have hw : wrap64 (st.2 + 1) = st.2 + 1 := wrap64_id (by omega) (by omega)
      rw [ih _ (by rw [hs, hw]; omega) (by rw [hs, hw]; omega), hs, hw]
      omega
    | false =>
      rw [hl, if_neg (by simp)] at hs
      simp only [List.filter_cons, hl, Bool.false_eq_true, if_false] at hlt ⊢
      rw [ih _ (by rw [hs]; exact h0) (by rw [hs]; exact hlt), hs]

theorem xrender_instrLines (prog : List XItem) :
    ∀ k, ((xrender k prog).filter isInstr).length = xinstrCount prog := by
  induction prog with
  | nil => intro k; rfl
  | cons it r ih =>
    intro k
    have hl : isInstr (it.toLine k) = it.isInstr := by cases it <;> rfl
    simp only [xrender, List.filter_cons, hl, xinstrCount]
    cases it.isInstr with
    | true => simp only [if_true, List.length_cons, ih]; rfl
    | false => simp only [Bool.false_eq_true, if_false, ih]; rfl

theorem xequs_end (body : List XItem) (kw : String) (e : Option (List Spec.ETok)) :
    xequs (body ++ [XItem.end_ kw e]) = xequs body := by
  rw [xequs_app]
  exact List.append_nil _

theorem foldl_loadSymbolsLine_xrenderT (body : List XItem)
    (kw : String) (e : Option (List Spec.ETok)) (tail : List String) (c : Compiler)
    (hsmall : xinstrCount body < 2 ^ 63)
    (hkw : (XItem.end_ kw e).KW)
    (hw : ∀ it ∈ body, it.KW) :
    ((xrenderT body kw e tail).foldl loadSymbolsLine (c, 0)).1 =
      { c with labels := setAll LabTab.set c.labels ((xtailLabels body tail).map castL),
               values := setAll SymTab.set c.values ((xequs body).map rendEqu),
               startExpr := xstartStepT (body.foldl xstartStepT c.startExpr) (XItem.end_ kw e) } := by
  unfold xrenderT
  rw [List.foldl_append, List.foldl_cons, List.foldl_nil]
  have h1 := foldl_loadSymbolsLine_xrender body 0 (c, 0) hw
  have h2 := foldl_loadSymbolsLine_cur (xrender 0 body) (c, 0) (Int.le_refl 0)
    (by rw [xrender_instrLines, Int.zero_add]; omega)
  rw [xrender_instrLines, Int.zero_add] at h2
  generalize (xrender 0 body).foldl loadSymbolsLine (c, 0) = st' at h1 h2
  obtain ⟨c', cur'⟩ := st'
  simp only at h1 h2
  subst h1 h2
  rw [loadSymbolsLine_xend _ _ kw e tail hkw]
  simp only [xtailLabels, setAll, List.map_append, List.map_map, List.foldl_append, List.foldl_map]
  rfl

theorem symC_xrenderT (cfg : Config) (body : List XItem)
    (kw : String) (e : Option (List Spec.ETok)) (tail : List String)
    (hnl : ((xlabelsFrom 0 body).map (·.1) ++ tail).Nodup)
    (hnq : (constNames ++ (xequs body).map (·.1)).Nodup)
    (hsmall : xinstrCount body < 2 ^ 63)
    (hkw : (XItem.end_ kw e).KW)
    (hw : ∀ it ∈ body, it.KW) :
    symC cfg (xrenderT body kw e tail) =
      symCXS cfg (xtailLabels body tail) (body ++ [XItem.end_ kw e]) := by
  unfold symC loadSymbols
  simp only
  rw [foldl_loadSymbolsLine_xrenderT body kw e tail _ hsmall hkw hw,
    setAll_fresh LabTab.set_new _ _ (by rw [castL_keys, xtailLabels_keys]; exact hnl),
    setAll_fresh SymTab.set_new _ _ (by rw [rendEqu_keys, ← consts, consts_eq]; exact hnq)]
  unfold symCXS xstart
  rw [← xstartT_aux, xequs_end, List.foldl_append]
  rfl

theorem xrenderT_unl (body : List XItem) (kw : String) (e : Option (List Spec.ETok))
    (tail : List String) :
    (xrenderT body kw e tail).map unl = (xrender 0 (body ++ [XItem.end_ kw e])).map unl := by
  unfold xrenderT
  rw [xrender_app]
  simp only [List.map_append, xrender, List.map_cons, List.map_nil]
  rfl

theorem xtailLabels_le (body : List XItem) (tail : List String) :
    ∀ p ∈ xtailLabels body tail, p.2 ≤ xinstrCount body := by
  intro p hp
  unfold xtailLabels at hp
  rcases List.mem_append.1 hp with hp | hp
  · have := xlabelsFrom_lt body 0 p hp
    omega
  · obtain ⟨l, _, rfl⟩ := List.mem_map.1 hp
    exact Nat.le_refl _

theorem xinstrCount_end (body : List XItem) (kw : String) (e : Option (List Spec.ETok)) :
    xinstrCount (body ++ [XItem.end_ kw e]) = xinstrCount body := by
  simp [xinstrCount, XItem.isInstr]

theorem meaningFlatT_eq (c : Spec.Cfg) (items : List Spec.Item) (tail : List String) :
    Spec.meaningFlatT c items tail =
      flatTail c items ((labelFold items).1 ++ tail.map (fun l => (l, (labelFold items).2)))
        (labelFold items).2 := rfl

theorem meaningFlatT_xitems (sc : Spec.Cfg) (body : List XItem) (kw : String)
    (e : Option (List Spec.ETok)) (tail : List String) :
    Spec.meaningFlatT sc ((body ++ [XItem.end_ kw e]).map XItem.toItem) tail =
      flatTail sc ((body ++ [XItem.end_ kw e]).map XItem.toItem) (xtailLabels body tail)
        (xinstrCount (body ++ [XItem.end_ kw e])) := by
  rw [meaningFlatT_eq, xlabelFold_items]
  simp only [xlabelsFrom_app, xinstrCount_end]
  simp [xtailLabels, xlabelsFrom]

theorem compileX_meaning_equ_tail (lexTokens : String → List Token) (cfg : Config) (sc : Spec.Cfg)
    (body : List XItem) (kw : String) (e : Option (List Spec.ETok)) (tail : List String)
    (ameta : AsmMeta) (d : String → Nat)
    (hv : cfg.validate = true) (h63 : cfg.coreSize.toNat < 2 ^ 63) (hr : CfgRel cfg sc)
    (hnd : ((xlabelsFrom 0 body).map (·.1) ++ tail ++ (xequs body).map (·.1) ++ constNames).Nodup)
    (hsmall : xinstrCount body < 2 ^ 63)
    (hrk : ERanked (xequs body ++ Spec.predefined sc) d) (hlt : ∀ s, d s < 63)
    (hw : XProgWF lexTokens sc (xtablesT sc body kw e tail) 0 (body ++ [XItem.end_ kw e])) :
    compileX lexTokens cfg (xrenderT body kw e tail) ameta =
      optM ((Spec.meaningFlatT sc ((body ++ [XItem.end_ kw e]).map XItem.toItem) tail).map
        (toWD ameta)) := by
  obtain ⟨hnl, hnq⟩ := nodup_parts hnd
  have hkwAll := hw.kw
  have hq := xequs_end body kw e
  have hS : ((xtailLabels body tail).map (·.1) ++ (xequs (body ++ [XItem.end_ kw e])).map (·.1) ++
      constNames).Nodup := by
    rw [hq, xtailLabels_keys]
    exact hnd
  rw [compileX_from _ _ _ _ hv,
    symC_xrenderT cfg body kw e tail hnl hnq hsmall
      (hkwAll _ (List.mem_append_right _ (List.mem_singleton.2 rfl)))
      (fun it hit => hkwAll it (List.mem_append_left _ hit)),
    compileFrom_unl _ _ _ _ _ _ (xrenderT_unl body kw e tail),
    compileFrom_xrender lexTokens cfg sc _ _ ameta d hv h63 hr hS
      (fun p hp => by have := xtailLabels_le body tail p hp; omega)
      (fun _ => by rw [xinstrCount_end]; exact hsmall) (by rw [hq]; exact hrk) hlt hw,
    meaningFlatT_xitems]

/-- `compile_meaning_equ` for programs whose last line is
    `l1 l2 … END [e]`.  `body` is a program of labelled instructions, EQU / ORG / `;assert` lines
    (`XItem`s), `kw`/`e` the keyword and the optional argument of the END line, `tail` the labels
    written in front of it; `xrenderT` are the parser's source lines (the END line has
    `labels := tail`).  The labels of `tail` stand for the address just after the code,
    `xinstrCount body`, wherever they are used: operands, EQU bodies, asserts, ORG / END arguments
    (`xtailLabels`, `xtablesT`).

    Hypotheses as in `compile_meaning_equ`, with the END-line labels among the symbols that must be
    defined once, and `XProgWF` for the tables with the longer label table. -/
theorem compile_meaning_equ_tail (lexTokens : String → List Token) (cfg : Config) (sc : Spec.Cfg)
    (body : List XItem) (kw : String) (e : Option (List Spec.ETok)) (tail : List String)
    (ameta : AsmMeta) (d : String → Nat)
    (hv : cfg.validate = true) (h63 : cfg.coreSize.toNat < 2 ^ 63) (hr : CfgRel cfg sc)
    (hnd : ((xlabelsFrom 0 body).map (·.1) ++ tail ++ (xequs body).map (·.1) ++ constNames).Nodup)
    (hsmall : xinstrCount body < 2 ^ 63)
    (hrk : ERanked (xequs body ++ Spec.predefined sc) d) (hlt : ∀ s, d s < 63)
    (hw : XProgWF lexTokens sc (xtablesT sc body kw e tail) 0 (body ++ [XItem.end_ kw e])) :
    compile lexTokens cfg (xrenderT body kw e tail) ameta =
      .ok ((Spec.meaningFlatT sc ((body ++ [XItem.end_ kw e]).map XItem.toItem) tail).map
        (toWD ameta)) :=
  compile_of_compileX
    (compileX_meaning_equ_tail lexTokens cfg sc body kw e tail ameta d hv h63 hr hnd hsmall hrk hlt hw)

theorem compile_meaning_equ_tail_modelled (lexTokens : String → List Token) (cfg : Config)
    (sc : Spec.Cfg)
    (body : List XItem) (kw : String) (e : Option (List Spec.ETok)) (tail : List String)
    (ameta : AsmMeta) (d : String → Nat)
    (hv : cfg.validate = true) (h63 : cfg.coreSize.toNat < 2 ^ 63) (hr : CfgRel cfg sc)
    (hnd : ((xlabelsFrom 0 body).map (·.1) ++ tail ++ (xequs body).map (·.1) ++ constNames).Nodup)
    (hsmall : xinstrCount body < 2 ^ 63)
    (hrk : ERanked (xequs body ++ Spec.predefined sc) d) (hlt : ∀ s, d s < 63)
    (hw : XProgWF lexTokens sc (xtablesT sc body kw e tail) 0 (body ++ [XItem.end_ kw e])) :
    compileUnmodelled lexTokens cfg (xrenderT body kw e tail) ameta = false :=
  compileUnmodelled_of_compileX
    (compileX_meaning_equ_tail lexTokens cfg sc body kw e tail ameta d hv h63 hr hnd hsmall hrk hlt hw)

end Gmars.AsmLine
