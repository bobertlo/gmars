/-
  C15 "reports tell listeners about every change, at valid addresses", for one executed task:
  every changed cell is named in a write, increment or decrement report; the cells so named are
  those of `Spec.mayTouch`, in its order; a `taskTerminate` report is emitted iff the reference
  step has no successor. The first needs no hypothesis on the state (`ReportsEff`), the
  other two compare with the reference along `ExecPre.walk`.
-/
import Gmars.Proofs.ReportsEff
import Gmars.Proofs.Refine
import Gmars.Proofs.WFExec

namespace Gmars

def execNew (s s' : Sim) : List Report := s'.log.toList.drop s.log.size

def execNamed (s s' : Sim) : List Nat :=
  ((execNew s s').filter (fun r => r.typ = .write ∨ r.typ = .increment ∨ r.typ = .decrement)).map
    (·.addr.toNat)

theorem execNamed_eq (s s' : Sim) : execNamed s s' = namedOf (execNew s s') := rfl

theorem execNew_of_log {s s' : Sim} {L : List Report} (h : s'.log.toList = s.log.toList ++ L) :
    execNew s s' = L := by
  unfold execNew
  rw [h, ← Array.length_toList, List.drop_left]

/-- every cell whose content changes during a task is named in a write, increment or
    decrement report of that task; no hypothesis on the state at all -/
theorem changes_reported' (s s' : Sim) (pc : UInt64) (wi : Nat) (hex : s.exec pc wi = .ok s') :
    ∀ a (h1 : a < s.mem.size) (h2 : a < s'.mem.size), s'.mem[a] ≠ s.mem[a] → a ∈ execNamed s s' := by
  obtain ⟨L, p, he, _⟩ := (eff_exec wi s pc).out s' hex
  intro a h1 h2 hne
  rw [execNamed_eq, execNew_of_log he.log]
  have := he.chg a (by
    rw [Array.getElem?_eq_getElem h1, Array.getElem?_eq_getElem h2]
    exact fun e => hne (Option.some.inj e))
  exact this.elim id (fun h => absurd h List.not_mem_nil)

/-- `changes_reported'` under hypotheses of which none is used; C15 `changes_reported` states it
    without them -/
theorem changes_reported (s s' : Sim) (pc : UInt64) (wi : Nat) (q : PQ) (_hwf : s.WF)
    (_hpc : pc < s.m) (_hq : s.pqOf wi = some q) (hex : s.exec pc wi = .ok s') :
    ∀ a (h1 : a < s.mem.size) (h2 : a < s'.mem.size), s'.mem[a] ≠ s.mem[a] → a ∈ execNamed s s' :=
  changes_reported' s s' pc wi hex

theorem terminate_report (s s' : Sim) (pc : UInt64) (wi : Nat) (hex : s.exec pc wi = .ok s') :
    ∀ r ∈ execNew s s', r.typ = .taskTerminate → r = rep .taskTerminate wi pc := by
  obtain ⟨L, p, he, hl⟩ := (eff_exec wi s pc).out s' hex
  rw [execNew_of_log he.log]
  exact fun r hr ht => (mem_of_endOf hl hr (Or.inl ht)).1

theorem terminate_unchanged (s s' : Sim) (pc : UInt64) (wi : Nat) (q : PQ)
    (hq : s.pqOf wi = some q) (hex : s.exec pc wi = .ok s') :
    (∃ r ∈ execNew s s', r.typ = .taskTerminate) → s'.pqOf wi = some q := by
  obtain ⟨L, p, he, hl⟩ := (eff_exec wi s pc).out s' hex
  rw [execNew_of_log he.log]
  rintro ⟨r, hr, ht⟩
  obtain ⟨q', hq', hqr⟩ := he.queue q hq
  rw [hq', hqr.2.2.2 (mem_of_endOf hl hr (Or.inl ht)).2]

/-- The queue has room whenever `exec` is called from `runWarrior`, which has just popped the
    task. Without `q.length < q.size` the implication from right to left fails: a push onto a full
    queue also leaves it unchanged (see `full_queue_counterexample`). -/
theorem terminate_iff_unchanged (s s' : Sim) (pc : UInt64) (wi : Nat) (q : PQ)
    (hq : s.pqOf wi = some q) (hex : s.exec pc wi = .ok s') (hroom : q.length < q.size) :
    ∃ q', s'.pqOf wi = some q' ∧ ((∃ r ∈ execNew s s', r.typ = .taskTerminate) ↔ q' = q) := by
  obtain ⟨L, p, he, hl⟩ := (eff_exec wi s pc).out s' hex
  rw [execNew_of_log he.log]
  obtain ⟨q', hq', hqr⟩ := he.queue q hq
  refine ⟨q', hq', fun ⟨r, hr, ht⟩ => hqr.2.2.2 (mem_of_endOf hl hr (Or.inl ht)).2, fun e => ?_⟩
  cases p
  · exact ⟨_, endOf_mem hl rfl, rfl⟩
  · have := hqr.2.2.1 rfl hroom
    rw [e] at this
    exact absurd this (UInt64.lt_irrefl _)

theorem dmZeroS_abs (md : Modifier) (ira : Instr) : Spec.dmZeroS md ira.abs = dmZero md ira := by
  cases md <;> simp only [Spec.dmZeroS, dmZero, Instr.abs, u_eq_zero_iff]

theorem noSucc_abs (ir ira : Instr) : Spec.noSucc ir.op ir.md ira.abs = noPush ir ira := by
  unfold Spec.noSucc noPush
  cases ir.op <;> simp only [dmZeroS_abs]

theorem namedOf_postRep (wi : Nat) (mode : Mode) (pip : UInt64) :
    namedOf (postRep wi mode pip) = ((pipOf mode pip).map (·.1)).toList := by
  unfold postRep pipOf
  cases Spec.kind mode <;> rfl

theorem Ctx.namedOf_preRep {M R W : Nat} {s : Sim} (hc : Ctx M R W s) {pc : UInt64}
    (hpc : pc.toNat < M) (wi : Nat) (c : Spec.Core) (mode : Mode) (p : UInt64) :
    namedOf (preRep wi mode ((pc + s.writeFold p) % s.m)) =
      (Spec.evalOperand M R W pc.toNat c mode p.toNat).dec.toList := by
  unfold preRep Spec.evalOperand
  cases Spec.kind mode
  case pre f => exact congrArg (fun a => [a]) (hc.wrAddr hpc p)
  all_goals rfl

theorem exec_reports_spec (s s' : Sim) (pc : UInt64) (wi : Nat) (q : PQ) (h : StepPre s pc wi q)
    (hex : s.exec pc wi = .ok s') :
    execNamed s s' =
      Spec.mayTouch s.m.toNat s.readLimit.toNat s.writeLimit.toNat s.absCore pc.toNat ∧
    ((∃ r ∈ execNew s s', r.typ = .taskTerminate) ↔
      (Spec.step s.m.toNat s.readLimit.toNat s.writeLimit.toNat s.absCore pc.toNat).succ = []) := by
  have hpc : pc.toNat < s.m.toNat := UInt64.lt_iff_toNat_lt.mp h.pc
  obtain ⟨s5, hexec, -, ir, s1, rpa, wpa, pipa, ira, s2, s3, rpb, wpb, pipb, irb, s4, hir, e2, hpipa, hira,
    e4, hc2, e5, hwpb, hwpb', hpipb, e7, hc4, e8⟩ :=
    h.execPre.walk h.bounds h.pc rfl rfl rfl rfl rfl
  cases hex.symm.trans hexec
  -- the reports of the five phases
  have EA := (eff_operand wi s pc false ir.am ir.a 0).out _ e2
  have EPA := (eff_post wi s1 ir.am pipa).out _ e4
  have EB := (eff_operand wi s2 pc true ir.bm ir.b pipa).out _ e5
  have EPB := (eff_post wi s3 ir.bm pipb).out _ e7
  obtain ⟨t, x, y, EO⟩ := (eff_opPhase wi s4 ir ira irb pc rpa rpb wpb).out _ e8
  have hnew := execNew_of_log ((((EA.trans EPA).trans EB).trans EPB).trans EO).log
  have hop : (s.absCore.at pc.toNat).op = ir.op := by rw [← hir]; rfl
  have hmd : (s.absCore.at pc.toNat).md = ir.md := by rw [← hir]; rfl
  constructor
  · rw [execNamed_eq, hnew, Spec.mayTouch_eq, hop]
    simp only [namedOf_append, namedOf_postRep, namedOf_opReports, ← hpipa, ← hpipb,
      h.ctx.namedOf_preRep hpc wi s.absCore, hc2.namedOf_preRep hpc wi
        (Spec.core1 s.m.toNat s.readLimit.toNat s.writeLimit.toNat s.absCore pc.toNat),
      hc4.idx hpc hwpb', hwpb, List.append_assoc]
    rw [Spec.opA, Spec.opB, ← hir]
    rfl
  · have hend : endOf (execNew s s') = if !noPush ir ira then [] else [rep .taskTerminate wi pc] := by
      simp only [hnew, endOf_append, endOf_preRep, endOf_postRep, endOf_opReports, List.nil_append]
      cases noPush ir ira <;> rfl
    rw [Spec.step_succ_nil, hop, hmd, ← hira, noSucc_abs]
    refine ⟨fun ⟨r, hr, ht⟩ => by simpa using (mem_of_endOf hend hr (Or.inl ht)).2, fun hn => ?_⟩
    exact ⟨_, endOf_mem hend (by rw [hn]; rfl), rfl⟩

theorem StepPre.of_wf {s : Sim} {pc : UInt64} {wi : Nat} {q : PQ} (hwf : s.WF) (hpc : pc < s.m)
    (hq : s.pqOf wi = some q) (m32 : s.m.toNat ≤ 2 ^ 32) (rl : s.readLimit.toNat ≤ s.m.toNat)
    (wl : s.writeLimit.toNat ≤ s.m.toNat) : StepPre s pc wi q :=
  ⟨hwf, m32, rl, wl, hpc, hq, (Sim.pqOf_warriorOK hwf hq).1⟩

/-- C15 `reported_subset_mayTouch`: nothing is reported as written, incremented or decremented that the
    reference semantics could not touch -/
theorem named_subset_mayTouch (s s' : Sim) (pc : UInt64) (wi : Nat) (q : PQ)
    (h : StepPre s pc wi q) (hex : s.exec pc wi = .ok s') :
    ∀ a ∈ execNamed s s',
      a ∈ Spec.mayTouch s.m.toNat s.readLimit.toNat s.writeLimit.toNat s.absCore pc.toNat :=
  fun _ ha => (exec_reports_spec s s' pc wi q h hex).1 ▸ ha

/-- C15 `terminate_iff`: a `taskTerminate` report is among the reports of the task iff the reference
    step queues no successor, and then it is the report for the executed cell -/
theorem terminate_iff (s s' : Sim) (pc : UInt64) (wi : Nat) (q : PQ)
    (h : StepPre s pc wi q) (hex : s.exec pc wi = .ok s') :
    ((∃ r ∈ execNew s s', r.typ = .taskTerminate) ↔
      (Spec.step s.m.toNat s.readLimit.toNat s.writeLimit.toNat s.absCore pc.toNat).succ = []) ∧
    (∀ r ∈ execNew s s', r.typ = .taskTerminate → r = rep .taskTerminate wi pc) :=
  ⟨(exec_reports_spec s s' pc wi q h hex).2, terminate_report s s' pc wi hex⟩

theorem terminate_mem_iff (s s' : Sim) (pc : UInt64) (wi : Nat) (q : PQ)
    (h : StepPre s pc wi q) (hex : s.exec pc wi = .ok s') :
    rep .taskTerminate wi pc ∈ execNew s s' ↔
      (Spec.step s.m.toNat s.readLimit.toNat s.writeLimit.toNat s.absCore pc.toNat).succ = [] := by
  rw [← (terminate_iff s s' pc wi q h hex).1]
  constructor
  · intro hm; exact ⟨_, hm, rfl⟩
  · rintro ⟨r, hr, ht⟩
    rw [← terminate_report s s' pc wi hex r hr ht]; exact hr

/-- one process allowed, one queued; `JMP $0` at cell 0 -/
def fullQueueSim : Sim :=
  { m := 3, maxProcs := 1, maxCycles := 1, readLimit := 3, writeLimit := 3,
    mem := #[{ op := .jmp }, default, default], legacy := false,
    warriors := #[{ data := {}, index := 0, state := .alive,
                    pq := some { queue := #[0], size := 1, length := 1 } }],
    warriorCount := 1, living := 1 }

theorem fullQueueSim_wf : fullQueueSim.WF := by
  refine ⟨by decide, by decide, by decide, by decide, by decide, by decide, ?_, by decide,
    by decide, ?_, by decide, by decide⟩
  · unfold Sim.FieldsOK; decide
  · intro i hi
    have : i = 0 := by simp [fullQueueSim] at hi; omega
    subst this
    refine ⟨rfl, ?_⟩
    show PQ.Inv _ ∧ _
    exact ⟨⟨by decide, by decide, by decide, by decide, by decide⟩, by decide, by decide,
      fun _ => by decide, fun h => by simp [fullQueueSim] at h⟩

/-- `q' = q` does NOT imply a terminate report when the queue is full: the `JMP` pushes onto
    the full queue, which drops the address; the queue is unchanged and nothing is reported -/
theorem full_queue_counterexample :
    ∃ s', fullQueueSim.exec 0 0 = .ok s' ∧ s'.pqOf 0 = fullQueueSim.pqOf 0 ∧
      execNew fullQueueSim s' = [] := by
  refine ⟨_, rfl, ?_, ?_⟩
  · decide
  · decide

/-- `MOV.I $0, >1`: cell 1 changes, and it is named twice (increment, then write) -/
def movSim : Sim :=
  { m := 4, maxProcs := 2, maxCycles := 1, readLimit := 4, writeLimit := 4,
    mem := #[{ op := .mov, md := .i, a := 0, am := .direct, b := 1, bm := .bInc },
             default, default, default], legacy := false,
    warriors := #[{ data := {}, index := 0, state := .alive,
                    pq := some { queue := #[0, 0], size := 2, length := 0 } }],
    warriorCount := 1, living := 1 }

example : ∃ s', movSim.exec 0 0 = .ok s' ∧ s'.mem[1]? ≠ movSim.mem[1]? ∧
    execNamed movSim s' = [1, 1] ∧
    (execNew movSim s').map (·.typ) = [.increment, .taskPush, .write] := by
  refine ⟨_, rfl, ?_, ?_, ?_⟩ <;> decide

end Gmars
