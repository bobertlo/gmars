/-
  C14, map iteration order: Go ranges over maps in `buildReferenceGraph`, `graphContainsCycle`,
  `expandExpressions` (and `validateSymbols`).  The model iterates an association list in list
  order; here we prove that the results do not depend on that order as long as the keys are
  unique (which they are in a Go map).
-/
import Gmars.Proofs.ExpandFull
import Gmars.Model.Parser

namespace Gmars
namespace MapOrder

open Compile AsmLine

theorem get?_perm {values values' : SymTab} (hp : values'.Perm values)
    (hnd : (values.map (·.1)).Nodup) (k : String) : values'.get? k = values.get? k := by
  unfold SymTab.get?
  rw [find?_key_perm hp hnd]

/-- The cycle check decides whether the table has a rank (`acyclic_iff_tranked`), and a rank looks
    at the table through its lookups only. -/
theorem cycle_perm {values values' : SymTab} (hp : values'.Perm values)
    (hnd : (values.map (·.1)).Nodup) :
    graphContainsCycle (buildReferenceGraph values') =
      graphContainsCycle (buildReferenceGraph values) := by
  have h := acyclic_iff_tranked ((hp.map (·.1)).nodup_iff.mpr hnd)
  simp only [TRanked, get?_perm hp hnd] at h
  have h := h.trans (acyclic_iff_tranked hnd).symm
  cases hb : graphContainsCycle (buildReferenceGraph values) with
  | false => exact h.mpr hb
  | true => exact Bool.of_not_eq_false fun hb' => by rw [h.mp hb'] at hb; cases hb

def full (values : SymTab) : Nat → List Token → List Token
  | 0, ts => ts
  | n + 1, ts => ts.flatMap (fun t =>
      if t.typ == .text then
        match values.get? t.val with
        | some v => full values n v
        | none => [t]
      else [t])

/-- level by level or round by round: the same list -/
theorem full_eq_iterT (V : SymTab) : ∀ (n : Nat) (ts : List Token), full V n ts = iterT V n ts := by
  intro n
  induction n with
  | zero => intro ts; rfl
  | succ n ih =>
    intro ts
    rw [iterT, stepT, iterT_flatMap, full]
    refine flatMap_congr fun t _ => ?_
    unfold stepTTok
    split
    · cases hg : V.get? t.val with
      | some v => exact ih v
      | none => exact (iterT_keyfree V n _ (TKeyFree.single fun _ => hg)).symm
    · rename_i htx
      exact (iterT_keyfree V n _ (TKeyFree.single fun h => absurd (by simpa using h) htx)).symm

/-- on a table that passed the cycle check `expandExpressions` returns the table of the full
    expansions: same keys, each value expanded `values.length` levels deep (which is all the way
    down: the result contains no name of the table any more) -/
theorem expand_full {values : SymTab}
    (hc : graphContainsCycle (buildReferenceGraph values) = false) :
    ∃ res, expandExpressions values (buildReferenceGraph values) = some res ∧
      ∀ k, res.get? k = (values.get? k).map (full values values.length) := by
  rw [funext (full_eq_iterT values values.length)]
  exact expandExpressions_full hc

theorem full_perm {values values' : SymTab} (hp : values'.Perm values)
    (hnd : (values.map (·.1)).Nodup) :
    ∀ (n : Nat) (ts : List Token), full values' n ts = full values n ts := by
  intro n
  induction n with
  | zero => intro ts; rfl
  | succ n ih =>
    intro ts
    rw [full_eq_iterT, full_eq_iterT, iterT, iterT, stepT_congr fun t _ _ => get?_perm hp hnd t.val,
      ← full_eq_iterT, ← full_eq_iterT, ih]

/-- on a table that passed the cycle check, `expandExpressions` succeeds for every order of
    the table, and the resolved value of every symbol is the same -/
theorem expand_perm {values values' : SymTab} (hp : values'.Perm values)
    (hnd : (values.map (·.1)).Nodup)
    (hc : graphContainsCycle (buildReferenceGraph values) = false) :
    ∃ res res', expandExpressions values (buildReferenceGraph values) = some res ∧
      expandExpressions values' (buildReferenceGraph values') = some res' ∧
      ∀ k, res'.get? k = res.get? k := by
  have hc' : graphContainsCycle (buildReferenceGraph values') = false := by
    rw [cycle_perm hp hnd]; exact hc
  obtain ⟨res, hres, hget⟩ := expand_full hc
  obtain ⟨res', hres', hget'⟩ := expand_full hc'
  refine ⟨res, res', hres, hres', fun k => ?_⟩
  rw [hget, hget', get?_perm hp hnd, hp.length_eq, funext (full_perm hp hnd values.length)]

theorem expandAndEvaluate_eq (expr : List Token) (values : SymTab) :
    expandAndEvaluate expr values =
      if graphContainsCycle (buildReferenceGraph values) then .err
      else match expandExpressions values (buildReferenceGraph values) with
        | none => .err
        | some res => evaluateExpression (stepT res expr) := rfl

theorem expandAndEvaluate_perm {values values' : SymTab} (hp : values'.Perm values)
    (hnd : (values.map (·.1)).Nodup) (expr : List Token) :
    expandAndEvaluate expr values' = expandAndEvaluate expr values := by
  rw [expandAndEvaluate_eq, expandAndEvaluate_eq, cycle_perm hp hnd]
  cases hc : graphContainsCycle (buildReferenceGraph values) with
  | true => rw [if_pos rfl, if_pos rfl]
  | false =>
    obtain ⟨res, res', h1, h2, h3⟩ := expand_perm hp hnd hc
    rw [h1, h2]
    simp only
    rw [stepT_congr fun t _ _ => h3 t.val]

/-- the outcome of `validateSymbols` depends on the key sets only -/
theorem symbolsValid_perm {p p' : Parser.PState} (hr : p'.references.Perm p.references)
    (hs : p'.symbols.Perm p.symbols) : Parser.symbolsValid p' = Parser.symbolsValid p := by
  unfold Parser.symbolsValid
  have : (fun s => p'.symbols.contains s) = (fun s => p.symbols.contains s) := by
    funext s
    rw [Bool.eq_iff_iff, List.contains_iff_mem, List.contains_iff_mem, hs.mem_iff]
  rw [this]
  exact hr.all_eq

/-! Unique keys are needed from the cycle check on: with a duplicated key (impossible in a Go map)
  the first entry shadows the second one in every lookup, so a permutation changes the table that
  is looked at. -/

def dupA : SymTab := [("a", [{ typ := .text, val := "a" }]), ("a", [{ typ := .number, val := "1" }])]
def dupB : SymTab := [("a", [{ typ := .number, val := "1" }]), ("a", [{ typ := .text, val := "a" }])]

theorem dup_perm : dupB.Perm dupA := List.Perm.swap _ _ _

theorem dup_cycle : graphContainsCycle (buildReferenceGraph dupA) = true ∧
    graphContainsCycle (buildReferenceGraph dupB) = false := by
  constructor <;> decide

end MapOrder
end Gmars
