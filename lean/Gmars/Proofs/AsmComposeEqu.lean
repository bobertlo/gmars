/-
  C03: the whole assembler, from BYTES, on programs with labels AND EQU definitions.

  Why the extra hypotheses of `assemble_meaning_equ` (checked with #eval on the models):
    * `hcl` (every name used in an operand, an EQU body, ORG or END is a label, an EQU name or a
      predefined constant): on `x equ foo / dat 0` the parser rejects the undefined `foo`
      (`assemble = .err`), while `Spec.meaningFlat` never expands the unused `x` and accepts.
    * END only as the last line, comments on lines of their own: as for `assemble_meaning_labels`.
    * EQU names without a colon (`x: equ 5` is accepted by parser and pre-scan alike, but
      `EItem.equ` has no colon flag: not covered).
-/
import Gmars.Proofs.AsmComposeEquLines
import Gmars.Proofs.AsmComposeEquOK
import Gmars.Proofs.AsmComposeUtf8
import Gmars.Proofs.AsmEqu
import Gmars.Proofs.AsmComposeEquScan

namespace Gmars
namespace AsmComposeEqu
open Gmars.Render Gmars.AsmLine Gmars.AsmCompose

/-- the comment lines are classified right: plain comments by hypothesis, assert lines because
    `XProgWF` says that their text starts with ";assert" -/
theorem EProg.commentOK (p : EProg) {lexTokens : String → List Token} {sc : Spec.Cfg}
    {t : Spec.Tables} (hw : XProgWF lexTokens sc t 0 p.xitems)
    (hplain : ∀ cs k, EItem.comment cs k ∈ p.items → plainComment cs) :
    ∀ it ∈ p.items, it.CommentOK := by
  intro it hit
  cases it with
  | comment cs k => exact hplain cs k hit
  | assert cs e k =>
    obtain ⟨k', hwf⟩ := hw.mem_wf _
      (p.mem_xitems_of_toX (x := .assert (String.ofList (';' :: cs)) e) hit rfl)
    have h1 := hwf.1
    rw [String.toList_ofList] at h1
    exact h1
  | instr ls op md a b k => trivial
  | equ n kw e k => trivial
  | org kw e k => trivial

/-- what `assemble_meaning_equ` asks of the program; `d` ranks the EQU names -/
structure EProg.Hyps (sc : Spec.Cfg) (p : EProg) (d : String → Nat) : Prop where
  lex : p.LexOK
  names : p.NamesOK
  plain : ∀ cs k, EItem.comment cs k ∈ p.items → plainComment cs
  nodup : (p.labels ++ p.equNames ++ constNames).Nodup
  closed : ∀ x ∈ p.names, x ∈ p.labels ∨ x ∈ p.equNames ∨ x ∈ constNames
  small : xinstrCount p.xitems < 2 ^ 63
  ranked : ERanked (xequs p.xitems ++ Spec.predefined sc) d
  lt : ∀ s, d s < 63
  wf : XProgWF lexString sc (xtables sc p.xitems) 0 p.xitems

theorem parseCompile_equ (cfg : Config) (sc : Spec.Cfg) (p : EProg) (d : String → Nat)
    (hv : cfg.validate = true) (h63 : cfg.coreSize.toNat < 2 ^ 63) (hr : CfgRel cfg sc)
    (h : p.Hyps sc d) :
    parseCompile cfg p.toP.tokens =
      match Spec.meaningFlat sc (p.xitems.map AsmLine.XItem.toItem) with
      | some m => .ok (toWD p.meta m)
      | none => .err := by
  have hc : Compile.compileX lexString cfg p.toP.lines p.toP.metadata =
      Compile.optM ((Spec.meaningFlat sc (p.xitems.map AsmLine.XItem.toItem)).map
        (toWD p.toP.metadata)) := by
    rw [← compileX_norm, p.norm_lines h.lex (p.commentOK h.wf h.plain)]
    exact compileX_meaning_xitems lexString cfg sc p.xitems _ d hv h63 hr h.nodup (fun _ => h.small) h.ranked h.lt
      h.wf
  rw [parseCompile_of cfg _ p.toP.lines p.toP.metadata
    (parse_pprog p.toP (p.toP_OK h.lex h.names h.wf.kw h.nodup h.closed)) _ hc]
  cases Spec.meaningFlat sc (p.xitems.map AsmLine.XItem.toItem) <;> rfl

/-- **`assemble_meaning_equ`** — the whole assembler on programs with labels AND EQU definitions.

    `p : EProg` is a program of labelled instructions, ORG lines, EQU lines `name equ tokens`
    placed anywhere, `;assert` comment lines, optionally a last line END (`p.xitems :
    List AsmLine.XItem`, the programs of `compile_meaning_equ`; every expression is a list of
    reference tokens) with a layout: colon suffixes of labels, blank lines, comment lines.  `ls` is
    ANY list of source lines carrying the words of the program (`SameLines ls p.srcLines`: same
    words, same comments, line by line; an EQU line is the word line `name equ <expression words>`)
    with arbitrary leading blanks and separators of blanks and tabs (`SrcLine.ok`: a separator may
    be empty where the lexer separates the words anyway, `x equ 1+2`).  `src` is any byte string
    the Go reader decodes to that text.

    Then `CompileWarrior` — lexer, pre-scan of the FOR pass loop, parser, compiler — returns the
    warrior of the reference meaning (with the metadata of the comment lines), or an error exactly
    when the reference rejects the program: EQU names substituted textually, labels as offsets.

    Hypotheses: those of `compile_meaning_equ` (valid configuration, core size below 2^63, every
    symbol — label, EQU name, predefined constant — defined once, fewer than 2^63 instructions,
    a ranked acyclic EQU table of depth < 63, `XProgWF` with the real lexer `lexString` for the
    assert texts) and
      * `p.LexOK`    names and keywords are identifiers, expression tokens are numbers, names,
                     `+ - * / %` and parentheses, every EQU / ORG / END / operand expression has at
                     least one token, an operand without mode does not start with `*`, comments
                     have no newline
      * `p.NamesOK`  the opcode text is taken for an opcode by the parser (an opcode or contains a
                     `.`) and is no pseudo-op; labels and EQU names are neither (in particular not
                     `equ`, `for`, `rof`, `end`, `org` in any letter case)
      * `hplain`     the other comment lines do not start with ";assert"
      * `hcl`        every name used is a label, an EQU name or a predefined constant
    The condition under which the pre-scan `scanInput` succeeds — no name defined by two EQU
    lines — follows from `hnd` (`scan_pprog`). -/
theorem assemble_meaning_equ (cfg : Config) (sc : Spec.Cfg) (p : EProg) (d : String → Nat)
    (hv : cfg.validate = true) (h63 : cfg.coreSize.toNat < 2 ^ 63) (hr : CfgRel cfg sc)
    (hlex : p.LexOK) (hnames : p.NamesOK)
    (hplain : ∀ cs k, EItem.comment cs k ∈ p.items → plainComment cs)
    (hnd : (p.labels ++ p.equNames ++ constNames).Nodup)
    (hcl : ∀ x ∈ p.names, x ∈ p.labels ∨ x ∈ p.equNames ∨ x ∈ constNames)
    (hsmall : xinstrCount p.xitems < 2 ^ 63)
    (hrk : ERanked (xequs p.xitems ++ Spec.predefined sc) d) (hlt : ∀ s, d s < 63)
    (hw : XProgWF lexString sc (xtables sc p.xitems) 0 p.xitems)
    (ls : List SrcLine) (hls : ∀ l ∈ ls, l.ok (some '\n') = true) (hsame : SameLines ls p.srcLines)
    (src : List UInt8) (hsrc : decodeRunes src = renderLines ls) :
    assemble cfg src =
      match Spec.meaningFlat sc (p.xitems.map AsmLine.XItem.toItem) with
      | some m => .ok (toWD p.meta m)
      | none => .err := by
  have htok : lexBytes src = p.toP.tokens := by
    unfold lexBytes; rw [hsrc, p.lex_tokens hlex ls hls hsame]
  rw [assemble_stages_pprog cfg src p.toP (p.toP_OK hlex hnames hw.kw hnd hcl) htok,
    parseCompile_equ cfg sc p d hv h63 hr ⟨hlex, hnames, hplain, hnd, hcl, hsmall, hrk, hlt, hw⟩]

/-- `assemble_meaning_equ` for ASCII text given as characters -/
theorem assemble_meaning_equ_ascii (cfg : Config) (sc : Spec.Cfg) (p : EProg) (d : String → Nat)
    (hv : cfg.validate = true) (h63 : cfg.coreSize.toNat < 2 ^ 63) (hr : CfgRel cfg sc)
    (hlex : p.LexOK) (hnames : p.NamesOK)
    (hplain : ∀ cs k, EItem.comment cs k ∈ p.items → plainComment cs)
    (hnd : (p.labels ++ p.equNames ++ constNames).Nodup)
    (hcl : ∀ x ∈ p.names, x ∈ p.labels ∨ x ∈ p.equNames ∨ x ∈ constNames)
    (hsmall : xinstrCount p.xitems < 2 ^ 63)
    (hrk : ERanked (xequs p.xitems ++ Spec.predefined sc) d) (hlt : ∀ s, d s < 63)
    (hw : XProgWF lexString sc (xtables sc p.xitems) 0 p.xitems)
    (ls : List SrcLine) (hls : ∀ l ∈ ls, l.ok (some '\n') = true) (hsame : SameLines ls p.srcLines)
    (hascii : ∀ c ∈ renderLines ls, c.toNat < 128) :
    assemble cfg (asciiBytes (renderLines ls)) =
      match Spec.meaningFlat sc (p.xitems.map AsmLine.XItem.toItem) with
      | some m => .ok (toWD p.meta m)
      | none => .err :=
  assemble_meaning_equ cfg sc p d hv h63 hr hlex hnames hplain hnd hcl hsmall hrk hlt hw ls hls hsame _
    (decodeRunes_ascii _ hascii)

/-- `assemble_meaning_equ` for the UTF-8 encoding (`String.toUTF8`) of the text; comment lines may
    contain any characters -/
theorem assemble_meaning_equ_utf8 (cfg : Config) (sc : Spec.Cfg) (p : EProg) (d : String → Nat)
    (hv : cfg.validate = true) (h63 : cfg.coreSize.toNat < 2 ^ 63) (hr : CfgRel cfg sc)
    (hlex : p.LexOK) (hnames : p.NamesOK)
    (hplain : ∀ cs k, EItem.comment cs k ∈ p.items → plainComment cs)
    (hnd : (p.labels ++ p.equNames ++ constNames).Nodup)
    (hcl : ∀ x ∈ p.names, x ∈ p.labels ∨ x ∈ p.equNames ∨ x ∈ constNames)
    (hsmall : xinstrCount p.xitems < 2 ^ 63)
    (hrk : ERanked (xequs p.xitems ++ Spec.predefined sc) d) (hlt : ∀ s, d s < 63)
    (hw : XProgWF lexString sc (xtables sc p.xitems) 0 p.xitems)
    (ls : List SrcLine) (hls : ∀ l ∈ ls, l.ok (some '\n') = true) (hsame : SameLines ls p.srcLines) :
    assemble cfg (String.ofList (renderLines ls)).toUTF8.data.toList =
      match Spec.meaningFlat sc (p.xitems.map AsmLine.XItem.toItem) with
      | some m => .ok (toWD p.meta m)
      | none => .err :=
  assemble_meaning_equ cfg sc p d hv h63 hr hlex hnames hplain hnd hcl hsmall hrk hlt hw ls hls hsame _
    (decodeRunes_toUTF8 _)

/-- the pre-scan of the FOR pass loop on these programs: it returns the EQU table (names with
    their value tokens) and `forSeen = false`; the hypothesis it needs is that no name is defined
    by two EQU lines -/
theorem scan_eprog (p : EProg) (hlex : p.LexOK) (hnames : p.NamesOK)
    (hkw : ∀ x ∈ p.xitems, x.KW) (hnd : p.equNames.Nodup)
    (ls : List SrcLine) (hls : ∀ l ∈ ls, l.ok (some '\n') = true) (hsame : SameLines ls p.srcLines) :
    scanInput (Lex.tokens (renderLines ls)) =
      .ok (some ((xequs p.xitems).map rendEqu, false)) := by
  rw [p.lex_tokens hlex ls hls hsame]
  have heq : pitemsEqus p.toP.items = (xequs p.xitems).map rendEqu := by
    have h1 : ∀ items : List EItem, pitemsEqus (items.map EItem.toP) =
        (xequs (items.filterMap EItem.toX)).map rendEqu := by
      intro items
      induction items with
      | nil => rfl
      | cons it r ih =>
        cases it <;>
          simp only [List.map_cons, EItem.toP, pitemsEqus, EItem.toX, List.filterMap_cons, xequs, ih,
            rendEqu]
    unfold EProg.xitems
    rw [xequs_app, p.finX_equs, List.append_nil]
    exact h1 p.items
  have hfin : ∀ kw toks, p.toP.fin = some (kw, toks) → lowerStr kw = "end" := by
    intro kw toks hf
    obtain ⟨e, _, _, hmem⟩ := p.toP_fin hf
    exact (hkw _ hmem).1
  rw [← heq]
  refine scan_pprog p.toP (p.toP_items_OK hlex hnames hkw) hfin ?_
  rw [heq, rendEqu_keys]
  exact hnd

end AsmComposeEqu
end Gmars
