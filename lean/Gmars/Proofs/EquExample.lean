/-
  The hypotheses of `compile_meaning_equ` are satisfiable: a five-line program with a forward EQU
  use, an EQU that uses another EQU and a label, textual (unparenthesised) substitution and an
  assert.

      x      equ 1+2
      a      dat x*3          ; 1+2*3 = 7, not 9
             dat y            ; y → x-a → 1+2-a → 1+2--1 = 4 on line 1
      y      EQU x-a
      ;assert x
-/
import Gmars.Proofs.EquCheck

namespace Gmars.AsmLine.EquExample

def cfgE : Config := Config.quick .icws94 8000 8000 80000 100
def scE : Spec.Cfg := { legacy := false, M := 8000, maxLen := 100, maxProcs := 8000, minDist := 100 }

open Spec.ETok in
def progE : List XItem := [
  .equ "equ" "x" [num 1, op "+", num 2],
  .instr ["a"] "dat" none ⟨none, [name "x", op "*", num 3]⟩ none,
  .instr [] "dat" none ⟨none, [name "y"]⟩ none,
  .equ "EQU" "y" [name "x", op "-", name "a"],
  .assert ";assert x" [name "x"] ]

def lexE : String → List Token := fun _ => toksOf [Spec.ETok.name "x"] ++ [{ typ := .eof }]

theorem cfgE_valid : cfgE.validate = true := by decide
theorem cfgE_size : cfgE.coreSize.toNat < 2 ^ 63 := by decide
theorem cfgE_rel : CfgRel cfgE scE := ⟨rfl, rfl, rfl, rfl, rfl⟩

theorem example_meaning (ameta : AsmMeta) :
    compile lexE cfgE (xrender 0 progE) ameta =
      .ok ((Spec.meaningFlat scE (progE.map XItem.toItem)).map (toWD ameta)) :=
  have hr := rankB_sound (tab := xequs progE ++ Spec.predefined scE) (by decide +kernel)
  compile_meaning_equ lexE cfgE scE progE ameta _ cfgE_valid cfgE_size cfgE_rel (by decide)
    (by decide) hr.1 hr.2
    (xprogWFB_sound (la := fun _ e => e == [.name "x"])
      (fun _ _ h => by cases eq_of_beq h; exact ⟨_, rfl⟩) (by decide +kernel))

end Gmars.AsmLine.EquExample
