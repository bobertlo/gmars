/-
  C03 / C07, compiler stage: programs with labels, EQU definitions (anywhere, EQU-in-EQU, using
  labels and the predefined constants) and `;assert` lines.  Main theorem: `compile_meaning_equ`.

  The hypothesis "every symbol is defined once" is necessary, as for labels: on
      x equ 5 / x dat x
  the model of `compile()` (like Go: `values` is looked up before `labels`) ACCEPTS the program
  (dat 5), `Spec.meaningFlat` rejects it (checked with #eval).

  The hypothesis "EQU chains shorter than 64" (`d s < 63`) is necessary as well: on the chain
      x0 equ x1 / x1 equ x2 / … / x63 equ x64 / x64 equ 5 / dat x0        (65 EQUs)
  the model accepts (dat 5; Go has no depth limit on an acyclic table), `Spec.expandEqus 64` runs
  out of fuel and the reference rejects (checked with #eval; 64 EQUs are accepted by both, and
  with a label at the end of the chain 63 are, 64 are not).  Likewise the 20000-token limit
  (`SizeOK`) exists in the reference only.  Cyclic tables are rejected by both
  (`compile_equ_cyclic`).
-/
import Gmars.Proofs.Equ
import Gmars.Proofs.AsmReps

namespace Gmars.AsmLine
open Gmars.Compile Gmars.ExprProofs

theorem xequsOf_items (prog : List XItem) : Spec.equsOf (prog.map XItem.toItem) = xequs prog := by
  induction prog with
  | nil => rfl
  | cons it r ih =>
    unfold Spec.equsOf at ih ⊢
    cases it <;> simp only [List.map_cons, XItem.toItem, List.filterMap_cons, xequs, ih]

def xtables (sc : Spec.Cfg) (prog : List XItem) : Spec.Tables :=
  { labels := xlabelsFrom 0 prog, equs := xequs prog ++ Spec.predefined sc }

/-- the tables of the reference with an arbitrary label table `S` (`xtables` is the case
    `S = xlabelsFrom 0 prog`; END-line labels need a longer table) -/
def xtablesS (sc : Spec.Cfg) (S : List (String × Nat)) (prog : List XItem) : Spec.Tables :=
  { labels := S, equs := xequs prog ++ Spec.predefined sc }

theorem tablesOf_xitemsS (sc : Spec.Cfg) (S : List (String × Nat)) (prog : List XItem) :
    tablesOf sc (prog.map XItem.toItem) S = xtablesS sc S prog := by
  unfold tablesOf xtablesS
  rw [xequsOf_items]

theorem tablesOf_xitems (sc : Spec.Cfg) (prog : List XItem) :
    tablesOf sc (prog.map XItem.toItem) (xlabelsFrom 0 prog) = xtables sc prog :=
  tablesOf_xitemsS sc _ prog

theorem codeFold_length (c : Spec.Cfg) (t : Spec.Tables) (prog : List XItem) :
    ∀ (code : List Instr) (k : Nat) (out : List Instr),
      (codeFold c t (prog.map XItem.toItem) (some code, k)).1 = some out →
      out.length = code.length + xinstrCount prog := by
  induction prog with
  | nil => intro code k out h; cases h; rfl
  | cons it r ih =>
    intro code k out h
    cases it with
    | instr ls op md a b =>
      rw [List.map_cons, XItem.toItem, codeFold_instr_some] at h
      cases hi : Spec.instrMeaning c t k op md a.toP (b.map XOperand.toP) with
      | none => rw [hi, Option.map_none, codeFold_none] at h; cases h
      | some i =>
        rw [hi, Option.map_some] at h
        rw [ih _ _ _ h, List.length_append, List.length_singleton, Nat.add_assoc, Nat.add_comm 1]
        rfl
    | _ => exact ih code k out h

theorem xlabelFold_items (prog : List XItem) :
    labelFold (prog.map XItem.toItem) = (xlabelsFrom 0 prog, xinstrCount prog) := by
  suffices h : ∀ ls k, (prog.map XItem.toItem).foldl (fun (acc : List (String × Nat) × Nat) it =>
      match it with
      | .instr ls _ _ _ _ => (acc.1 ++ ls.map (fun l => (l, acc.2)), acc.2 + 1)
      | _ => acc) (ls, k) = (ls ++ xlabelsFrom k prog, k + xinstrCount prog) by
    have := h [] 0
    rwa [List.nil_append, Nat.zero_add] at this
  induction prog with
  | nil => intro ls k; simp [xlabelsFrom, xinstrCount]
  | cons it r ih =>
    intro ls k
    cases it with
    | instr l op md a b =>
      simp only [List.map_cons, XItem.toItem, List.foldl_cons]
      rw [ih, xlabelsFrom, List.append_assoc, ← xinstrCount_cons_add]
      rfl
    | _ => exact ih ls k

theorem xmetaOf_items (prog : List XItem) (k : Spec.MetaKind) : metaOf (prog.map XItem.toItem) k = [] := by
  unfold metaOf
  rw [List.filterMap_eq_nil_iff]
  intro x hx
  obtain ⟨it, _, rfl⟩ := List.mem_map.1 hx
  cases it <;> rfl

def xstartStep (acc : List Spec.ETok) : XItem → List Spec.ETok
  | .org _ e => e
  | .end_ _ (some e) => e
  | _ => acc

def xstart (prog : List XItem) : List Spec.ETok := prog.foldl xstartStep [.num 0]

theorem xstartFold_items (prog : List XItem) : startFold (prog.map XItem.toItem) = xstart prog := by
  unfold startFold xstart
  rw [List.foldl_map]
  exact congrArg (fun f => prog.foldl f _) (funext fun acc => funext fun it => by
    rcases it with _ | _ | _ | ⟨_, _ | _⟩ | _ <;> rfl)

theorem codeFold_equ (c : Spec.Cfg) (t : Spec.Tables) (n : String) (e : List Spec.ETok)
    (r : List Spec.Item) (init : Option (List Instr) × Nat) :
    codeFold c t (.equ n e :: r) init = codeFold c t r init := by
  obtain ⟨x, k⟩ := init
  cases x <;> rfl

theorem codeFold_assert (c : Spec.Cfg) (t : Spec.Tables) (e : List Spec.ETok)
    (r : List Spec.Item) (init : Option (List Instr) × Nat) :
    codeFold c t (.assert e :: r) init = codeFold c t r init := by
  obtain ⟨x, k⟩ := init
  cases x <;> rfl

theorem xlabelsFrom_lt (prog : List XItem) :
    ∀ k, ∀ p ∈ xlabelsFrom k prog, p.2 < k + xinstrCount prog := by
  induction prog with
  | nil => intro k p hp; cases hp
  | cons it r ih =>
    intro k
    cases it with
    | instr ls op md a b =>
      rw [← xinstrCount_cons_add, xlabelsFrom, List.forall_mem_append, List.forall_mem_map]
      exact ⟨fun l _ => Nat.lt_add_right _ (Nat.lt_succ_self k), ih (k + 1)⟩
    | _ => exact ih k

/-- an expression inside the reference's size limit whose full expansion is a well-formed tree -/
structure GoodX (sc : Spec.Cfg) (t : Spec.Tables) (k : Nat) (e : List Spec.ETok) : Prop where
  size : SizeOK t.equs e
  tree : TreeOK sc t k e

theorem TreeOK.ne_nil {sc : Spec.Cfg} {t : Spec.Tables} {k : Nat} {e : List Spec.ETok}
    (h : TreeOK sc t k e) : e ≠ [] := by
  rintro rfl
  obtain ⟨c, _, _, hc⟩ := h [] [] rfl rfl
  have := c.ntoks_pos
  rw [← CST.etoks_length, hc] at this
  exact Nat.lt_irrefl 0 this

/-- side conditions on the item that is line `k` of the code.  `.assert`: the comment starts with
    `;assert` (7 characters) and the lexer reads `e`, plus its end token, from the rest -/
def XItem.WF (lexTokens : String → List Token) (sc : Spec.Cfg) (t : Spec.Tables) (k : Nat) : XItem → Prop
  | .instr _ op md a b =>
    Ascii op ∧ '.' ∉ op.toList ∧ (∀ s, md = some s → Ascii s) ∧ GoodX sc t k a.expr ∧
      (∀ bo, b = some bo → GoodX sc t k bo.expr)
  | .equ kw _ e => lowerStr kw = "equ" ∧ SizeOK t.equs e
  | .org kw e => lowerStr kw = "org" ∧ GoodX sc t 0 e
  | .end_ kw e => lowerStr kw = "end" ∧ (∀ x, e = some x → GoodX sc t 0 x)
  | .assert cm e =>
    assertPrefix.isPrefixOf cm.toList = true ∧
      (∃ last, lexTokens (String.ofList (cm.toList.drop 7)) = toksOf e ++ [last]) ∧ GoodX sc t 0 e

def XProgWF (lexTokens : String → List Token) (sc : Spec.Cfg) (t : Spec.Tables) :
    Nat → List XItem → Prop
  | _, [] => True
  | k, it :: r => it.WF lexTokens sc t k ∧ XProgWF lexTokens sc t (if it.isInstr then k + 1 else k) r

theorem XProgWF.mem_wf {lexTokens : String → List Token} {sc : Spec.Cfg} {t : Spec.Tables}
    {prog : List AsmLine.XItem} : ∀ {k : Nat}, XProgWF lexTokens sc t k prog →
      ∀ it ∈ prog, ∃ k', it.WF lexTokens sc t k' := by
  induction prog with
  | nil => intro k _ it hit; cases hit
  | cons x r ih =>
    intro k hw it hit
    rcases List.mem_cons.1 hit with rfl | hit
    · exact ⟨k, hw.1⟩
    · exact ih hw.2 it hit

theorem XItem.WF.kw {lexTokens : String → List Token} {sc : Spec.Cfg} {t : Spec.Tables} {k : Nat}
    {it : XItem} (h : it.WF lexTokens sc t k) : it.KW := by
  cases it with
  | equ kw n e => exact h.1
  | org kw e => exact h.1
  | end_ kw e => exact ⟨h.1, fun x hx => (h.2 x hx).tree.ne_nil⟩
  | _ => trivial

theorem XProgWF.kw {lexTokens : String → List Token} {sc : Spec.Cfg} {t : Spec.Tables}
    {prog : List XItem} {k : Nat} (hw : XProgWF lexTokens sc t k prog) : ∀ it ∈ prog, it.KW :=
  fun it hit => (hw.mem_wf it hit).elim fun _ h => h.kw

def rendEqu (p : String × List Spec.ETok) : String × List Token := (p.1, toksOf p.2)

def xstartStepT (acc : List Token) : XItem → List Token
  | .org _ e => toksOf e
  | .end_ _ (some e) => toksOf e
  | _ => acc

theorem xstartT_aux (prog : List XItem) :
    ∀ acc : List Spec.ETok, prog.foldl xstartStepT (toksOf acc) = toksOf (prog.foldl xstartStep acc) :=
  fun _ => List.foldl_hom toksOf fun acc it => by
    rcases it with _ | _ | _ | ⟨_, _ | _⟩ | _ <;> rfl

/-- an END line, with the labels written in front of it (`xendLineT`; none on the line of an
    `XItem`): its argument, if there is one, is the start expression, its labels get the counter -/
theorem loadSymbolsLine_xend (c : Compiler) (cur : Int) (kw : String) (e : Option (List Spec.ETok))
    (tail : List String) (hkw : (XItem.end_ kw e).KW) :
    loadSymbolsLine (c, cur) (xendLineT kw e tail) =
      ({ c with startExpr := xstartStepT c.startExpr (.end_ kw e),
                labels := tail.foldl (fun t l => t.set l cur) c.labels }, cur) := by
  unfold loadSymbolsLine
  simp only [xendLineT, XItem.toLine, hkw.1]
  cases e with
  | none => rfl
  | some x =>
    have : (toksOf x).length > 0 := List.length_pos_iff.2 (toksOf_ne_nil (hkw.2 x rfl))
    simp [xstartStepT, this]

theorem loadSymbolsLine_xtoLine (c : Compiler) (cur : Int) (k : Nat) (it : XItem) (hkw : it.KW) :
    (loadSymbolsLine (c, cur) (it.toLine k)).1 =
      match it with
      | .instr ls _ _ _ _ => { c with labels := ls.foldl (fun t l => t.set l (k : Int)) c.labels }
      | .equ _ n e => { c with values := c.values.set n (toksOf e) }
      | it => { c with startExpr := xstartStepT c.startExpr it } := by
  cases it with
  | instr ls op md a b => rfl
  | assert cm e => rfl
  | equ kw n e =>
    unfold loadSymbolsLine
    simp only [XItem.toLine, show lowerStr kw = "equ" from hkw]
    rfl
  | org kw e =>
    unfold loadSymbolsLine
    simp only [XItem.toLine, show lowerStr kw = "org" from hkw]
    rfl
  | end_ kw e => exact congrArg Prod.fst (loadSymbolsLine_xend c cur kw e [] hkw)

/-- What `loadSymbols` does on the lines of any program, also one that defines a symbol twice (the
    later assignment wins, as in Go): labels and EQU definitions are assigned in program order. -/
theorem foldl_loadSymbolsLine_xrender (prog : List XItem) :
    ∀ (k : Nat) (st : Compiler × Int), (∀ it ∈ prog, it.KW) →
      ((xrender k prog).foldl loadSymbolsLine st).1 =
        { st.1 with labels := setAll LabTab.set st.1.labels ((xlabelsFrom k prog).map castL),
                    values := setAll SymTab.set st.1.values ((xequs prog).map rendEqu),
                    startExpr := prog.foldl xstartStepT st.1.startExpr } := by
  induction prog with
  | nil => intro k st _; rfl
  | cons it r ih =>
    intro k st hw
    rw [xrender, List.foldl_cons, ih _ _ fun x hx => hw x (List.mem_cons_of_mem _ hx),
      loadSymbolsLine_xtoLine st.1 st.2 k it (hw it (List.mem_cons_self ..))]
    cases it with
    | instr ls op md a b =>
      simp only [xlabelsFrom, setAll, List.map_append, List.map_map, List.foldl_append,
        List.foldl_map]
      rfl
    | _ => rfl

/-- the compiler state after `loadSymbols` -/
def symCX (cfg : Config) (prog : List XItem) : Compiler :=
  { cfg := cfg, values := consts cfg ++ (xequs prog).map rendEqu,
    labels := (xlabelsFrom 0 prog).map castL, startExpr := toksOf (xstart prog) }

theorem rendEqu_keys (Q : ETab) : (Q.map rendEqu).map (·.1) = Q.map (·.1) := by
  rw [List.map_map]; rfl

theorem castL_keys (S : List (String × Nat)) : (S.map castL).map (·.1) = S.map (·.1) := by
  rw [List.map_map]; rfl

/-- with every symbol defined once the assignments append -/
theorem symC_xrender (cfg : Config)
    (prog : List XItem) (hnl : ((xlabelsFrom 0 prog).map (·.1)).Nodup)
    (hnq : (constNames ++ (xequs prog).map (·.1)).Nodup)
    (hw : ∀ it ∈ prog, it.KW) :
    symC cfg (xrender 0 prog) = symCX cfg prog := by
  unfold symC loadSymbols
  simp only
  rw [foldl_loadSymbolsLine_xrender prog 0 _ hw,
    setAll_fresh LabTab.set_new _ _ (by rw [castL_keys]; exact hnl),
    setAll_fresh SymTab.set_new _ _ (by rw [rendEqu_keys, ← consts, consts_eq]; exact hnq)]
  unfold symCX xstart
  rw [← xstartT_aux]
  rfl

theorem tabRel_rend (Q : ETab) : TabRel (Q.map rendEqu) Q := by
  intro s
  unfold SymTab.get? ETab.get?
  rw [show Q.map rendEqu = Q.map fun p => (p.1, toksOf p.2) from rfl, find?_key_map,
    Option.map_map, Option.map_map]
  rfl

theorem consts_rend {cfg : Config} {sc : Spec.Cfg} (hr : CfgRel cfg sc) :
    consts cfg = (Spec.predefined sc).map rendEqu := by
  rw [consts_eq]
  unfold Spec.predefined
  rw [hr.M, hr.maxLen, hr.maxProcs, hr.minDist]
  rfl

theorem ETab.get?_append_comm (A B : ETab) (h : (A.map (·.1) ++ B.map (·.1)).Nodup) (s : String) :
    (A ++ B).get? s = (B ++ A).get? s := by
  unfold ETab.get?
  rw [find?_key_append_comm A B h]

/-- the model's table (constants first) against the reference's (constants last) -/
theorem tabRel_xequs {cfg : Config} {sc : Spec.Cfg} (hr : CfgRel cfg sc) (Q : ETab)
    (hnq : (constNames ++ Q.map (·.1)).Nodup) :
    TabRel (consts cfg ++ Q.map rendEqu) (Q ++ Spec.predefined sc) := by
  intro s
  rw [consts_rend hr, ← List.map_append, tabRel_rend,
    ETab.get?_append_comm _ _ (by rw [predefined_names]; exact hnq)]

theorem xequCtx {cfg : Config} {sc : Spec.Cfg} (hr : CfgRel cfg sc) (prog : List XItem)
    (hnq : (constNames ++ (xequs prog).map (·.1)).Nodup) {d : String → Nat}
    (hrk : ERanked (xequs prog ++ Spec.predefined sc) d) (hlt : ∀ s, d s < 63) :
    EquCtx (symCX cfg prog).values (xtables sc prog).equs d where
  rel := tabRel_xequs hr (xequs prog) hnq
  nodup := by
    unfold symCX
    rw [List.map_append, rendEqu_keys, consts_eq]
    exact hnq
  ranked := hrk
  lt := hlt

/-- the compiler state after `loadSymbols`, with label table `S` -/
def symCXS (cfg : Config) (S : List (String × Nat)) (prog : List XItem) : Compiler :=
  { cfg := cfg, values := consts cfg ++ (xequs prog).map rendEqu,
    labels := S.map castL, startExpr := toksOf (xstart prog) }

theorem xrel_ofS {cfg : Config} {sc : Spec.Cfg} (S : List (String × Nat)) (prog : List XItem)
    (hv : cfg.validate = true)
    (h63 : cfg.coreSize.toNat < 2 ^ 63) (hr : CfgRel cfg sc) (hS : ∀ p ∈ S, p.2 < 2 ^ 63)
    (c : Compiler) (hcfg : c.cfg = cfg) (hl : c.labels = S.map castL) :
    XRel c sc (xtablesS sc S prog) where
  crel :=
    { legacy := by unfold Compiler.legacy; rw [hcfg, hr.legacy]
      m := by
        unfold Compiler.m
        rw [hcfg, mInt_of_lt h63, hr.M]
      pos := by rw [hr.M]; have := validate_ge3 hv; omega
      lt := by rw [hr.M]; exact h63 }
  labels := hl
  small := hS

theorem assertsOk_cons (c : Spec.Cfg) (t : Spec.Tables) (it : Spec.Item) (r : List Spec.Item) :
    assertsOk c t (it :: r) =
      ((match it with
        | .assert e => match Spec.evalAt c t 0 e with
          | some v => v != 0
          | none => false
        | _ => true) && assertsOk c t r) := rfl

theorem assert_step (x : Option Int) (b : Bool) :
    ((optM x >>= fun v => if v == 0 then (.error .goErr : M Unit) else .ok ()) >>= fun _ =>
      if b then (.ok () : M Unit) else .error .goErr) =
      if ((match x with
          | some v => v != 0
          | none => false) && b) then .ok () else .error .goErr := by
  cases x with
  | none => rfl
  | some v =>
    show ((if v == 0 then (.error .goErr : M Unit) else .ok ()) >>= fun _ =>
        if b then (.ok () : M Unit) else .error .goErr) =
      if (!(v == 0) && b) then .ok () else .error .goErr
    cases (v == 0) <;> cases b <;> rfl

theorem evaluateAssertions_xrender (lexTokens : String → List Token) {c : Compiler} {sc : Spec.Cfg}
    {d : String → Nat} {t : Spec.Tables} (hr : XRel c sc t)
    (hx : EquCtx c.values t.equs d) (prog : List XItem) :
    ∀ k, XProgWF lexTokens sc t k prog →
      evaluateAssertions lexTokens c (xrender k prog) =
        if assertsOk sc t (prog.map XItem.toItem) then .ok () else .error .goErr := by
  induction prog with
  | nil => intro k _; rfl
  | cons it r ih =>
    intro k hw
    simp only [xrender, List.map_cons]
    rw [evaluateAssertions_cons, assertsOk_cons, ih _ hw.2]
    cases it with
    | assert cm e =>
      obtain ⟨hpre, ⟨last, hlex⟩, hg⟩ := hw.1
      have hne : (toksOf e ++ [last]).isEmpty = false := by
        cases toksOf e <;> rfl
      simp only [XItem.toLine, XItem.toItem, beq_self_eq_true, Bool.true_and, hpre, if_true,
        evaluateAssertion_eq, hlex, hne, Bool.false_eq_true, if_false, List.dropLast_concat]
      rw [← bind_assoc,
        show expandExpression c (toksOf e) 0 >>= evalM = optM (Spec.evalAt sc t 0 e) from
          operandM_evalAt hr hx 0 (fun _ => by omega) e hg.size hg.tree]
      exact assert_step _ _
    | _ => rfl

theorem assembleLine_xtoLine {c : Compiler} {sc : Spec.Cfg} {t : Spec.Tables} {d : String → Nat}
    (hr : XRel c sc t) (hx : EquCtx c.values t.equs d) {lexTokens : String → List Token} {k : Nat}
    (hk : t.labels ≠ [] → k < 2 ^ 63) {ls : List String} {op : String} {md : Option String}
    {a : XOperand} {b : Option XOperand} (hw : (XItem.instr ls op md a b).WF lexTokens sc t k) :
    assembleLine c ((XItem.instr ls op md a b).toLine k) =
      optM (Spec.instrMeaning sc t k op md a.toP (b.map XOperand.toP)) := by
  obtain ⟨hop, hdot, hmd, ha, hb⟩ := hw
  have hO := fun e (hg : GoodX sc t k e) => operandM_evalAt hr hx k hk e hg.size hg.tree
  rw [← lineShapeO_meaning sc t k op md a.toP _ hr.crel.pos hr.crel.lt hop hdot hmd
      (b.bind fun bo => Spec.evalAt sc t k bo.expr) (fun _ h => by cases b <;> cases h; rfl),
    ← hr.crel.legacy, ← hr.crel.m]
  cases b with
  | none => exact assembleLine_shapeO c _ _ none hr.m_ne (hO _ ha) nofun
  | some bo =>
    have h := assembleLine_shapeO c ((XItem.instr ls op md a (some bo)).toLine k) _ _ hr.m_ne
      (hO _ ha) fun _ => hO _ (hb bo rfl)
    rwa [show (((XItem.instr ls op md a (some bo)).toLine k).b.getD []).isEmpty = false from
      List.isEmpty_eq_false_iff.2 (toksOf_ne_nil (hb bo rfl).tree.ne_nil)] at h

theorem assembleLines_xrender {c : Compiler} {sc : Spec.Cfg} {t : Spec.Tables} {d : String → Nat}
    (hr : XRel c sc t) (hx : EquCtx c.values t.equs d) (lexTokens : String → List Token)
    (prog : List XItem) :
    ∀ (k : Nat) (code : Array Instr), XProgWF lexTokens sc t k prog →
      (t.labels ≠ [] → k + xinstrCount prog < 2 ^ 63) →
      assembleLines c (xrender k prog) code =
        optM ((codeFold sc t (prog.map XItem.toItem) (some code.toList, k)).1.map List.toArray) := by
  induction prog with
  | nil => intro k code _ _; simp [xrender, assembleLines, codeFold, optM]
  | cons it r ih =>
    intro k code hw hk
    cases it with
    | instr ls op md a b =>
      have hk' : t.labels ≠ [] → k + 1 + xinstrCount r < 2 ^ 63 := fun hl => by
        have := hk hl
        rwa [← xinstrCount_cons_add] at this
      rw [xrender, assembleLines, if_neg (by simp [XItem.toLine]),
        assembleLine_xtoLine hr hx (fun hl => by have := hk' hl; omega) hw.1, List.map_cons,
        XItem.toItem, codeFold_instr_some]
      cases Spec.instrMeaning sc t k op md a.toP (b.map XOperand.toP) with
      | none => rw [Option.map_none, codeFold_none]; rfl
      | some i =>
        rw [Option.map_some, ← Array.toList_push]
        exact ih (k + 1) _ hw.2 hk'
    | _ =>
      rw [xrender, assembleLines, if_pos (by simp [XItem.toLine])]
      exact ih k code hw.2 hk

theorem xequs_expand (lexTokens : String → List Token) {sc : Spec.Cfg} {t : Spec.Tables}
    {V : SymTab} {d : String → Nat} (hx : EquCtx V t.equs d) (prog : List XItem) :
    ∀ k, XProgWF lexTokens sc t k prog →
      ∀ p ∈ xequs prog, (Spec.expandEqus 64 t.equs p.2).isSome = true := by
  induction prog with
  | nil => intro k _ p hp; cases hp
  | cons it r ih =>
    intro k hw p hp
    cases it with
    | equ kw n e =>
      simp only [xequs, List.mem_cons] at hp
      rcases hp with rfl | hp
      · rw [hx.expandEqus hw.1.2]; rfl
      · exact ih _ hw.2 p hp
    | _ => exact ih _ hw.2 p hp

theorem xstart_good (lexTokens : String → List Token) (sc : Spec.Cfg) (t : Spec.Tables)
    (hz : GoodX sc t 0 [.num 0]) (prog : List XItem) :
    ∀ k, XProgWF lexTokens sc t k prog → GoodX sc t 0 (xstart prog) := by
  unfold xstart
  suffices h : ∀ acc, GoodX sc t 0 acc → ∀ k, XProgWF lexTokens sc t k prog →
      GoodX sc t 0 (prog.foldl xstartStep acc) from h _ hz
  induction prog with
  | nil => intro acc h _ _; exact h
  | cons it r ih =>
    intro acc hacc k hw
    simp only [List.foldl_cons]
    cases it with
    | org kw e => exact ih e hw.1.2 _ hw.2
    | end_ kw e =>
      cases e with
      | none => exact ih acc hacc _ hw.2
      | some x => exact ih x (hw.1.2 x rfl) _ hw.2
    | _ => exact ih acc hacc _ hw.2

/-- a tree over numbers is a good expression whatever the tables: nothing is substituted -/
theorem GoodExpr.goodX {sc : Spec.Cfg} {t : Spec.Tables} {k : Nat} {e : CST} (h : GoodExpr e) :
    GoodX sc t k e.etoks where
  size := fun j _ => by
    rw [iterE_keyfree _ _ _ (fun s hs => by simpa [isName] using etoks_no_name e _ hs),
      CST.etoks_length]
    exact h.len
  tree := by
    intro x out h1 h2
    rw [expandEqus_noname _ _ (etoks_no_name e) (by rw [CST.etoks_length]; exact h.len)] at h1
    cases h1
    rw [substLabels_noname _ _ _ _ (etoks_no_name e)] at h2
    cases h2
    exact ⟨e, h.wf, h.nobig, rfl⟩

theorem flatTail_xitems (sc : Spec.Cfg) (S : List (String × Nat)) (n : Nat) (prog : List XItem)
    (he : ∀ p ∈ xequs prog, (Spec.expandEqus 64 (xtablesS sc S prog).equs p.2).isSome = true)
    (hnd : (S.map (·.1) ++ (xequs prog).map (·.1) ++ constNames).Nodup) :
    flatTail sc (prog.map XItem.toItem) S n =
      (codeFold sc (xtablesS sc S prog) (prog.map XItem.toItem) (some [], 0)).1.bind fun code =>
        if code.length > sc.maxLen then none
        else if !(assertsOk sc (xtablesS sc S prog) (prog.map XItem.toItem)) then none
        else
          (Spec.evalAt sc (xtablesS sc S prog) 0 (xstart prog)).bind fun sv =>
            if sv < 0 || (sv ≥ n && sv != 0) then none
            else some { code := code, start := sv.toNat, name := "", author := "", strategy := "" } := by
  unfold flatTail
  rw [xequsOf_items, predefined_names, ← constNames, eraseDups_of_nodup _ hnd, bne_self_eq_false]
  simp only [tablesOf_xitemsS]
  have hall : ((xtablesS sc S prog).equs.all
      (fun (_, e) => (Spec.expandEqus 64 (xtablesS sc S prog).equs e).isSome)) = true :=
    List.all_eq_true.2 fun x hx =>
      (List.mem_append.1 hx).elim (he x) (predefined_expand sc _ x)
  rw [hall, xstartFold_items]
  simp only [xmetaOf_items, Bool.false_eq_true, if_false, Bool.not_true, List.getLast?_nil, Option.map_none,
    Option.getD_none, List.map_nil]
  rfl

theorem flatTail_assert_false (sc : Spec.Cfg) (S : List (String × Nat)) (n : Nat) (prog : List XItem)
    (hA : assertsOk sc (xtablesS sc S prog) (prog.map XItem.toItem) = false) :
    flatTail sc (prog.map XItem.toItem) S n = none := by
  unfold flatTail
  simp only [tablesOf_xitemsS, hA, Bool.not_false, if_true, ite_self, Option.bind_fun_none]

theorem xrender_cfg_labels (cfg : Config) (prog : List XItem) (R : SymTab) :
    ({ symCX cfg prog with values := R } : Compiler).labels = (xlabelsFrom 0 prog).map castL := rfl

/-- the reference lists the constants last, the model's `values` holds them first: hence `C ++ B` -/
theorem nodup_parts {A B C : List String} (h : (A ++ B ++ C).Nodup) :
    A.Nodup ∧ (C ++ B).Nodup := by
  rw [List.append_assoc, List.nodup_append, List.nodup_append] at h
  obtain ⟨hA, ⟨hB, hC, hBC⟩, _⟩ := h
  exact ⟨hA, List.nodup_append.2 ⟨hC, hB, fun c hc b hb hcb => hBC b hb c hc hcb.symm⟩⟩

/-- The compiler stage after `loadSymbols`, for ANY label table `S` the state and the reference
    share: the answer is `flatTail` for that table.  Every other theorem about whole programs is
    this one at a particular table. -/
theorem compileFrom_xrender (lexTokens : String → List Token) (cfg : Config) (sc : Spec.Cfg)
    (S : List (String × Nat)) (prog : List XItem) (ameta : AsmMeta) (d : String → Nat)
    (hv : cfg.validate = true) (h63 : cfg.coreSize.toNat < 2 ^ 63) (hr : CfgRel cfg sc)
    (hnd : (S.map (·.1) ++ (xequs prog).map (·.1) ++ constNames).Nodup)
    (hS : ∀ p ∈ S, p.2 < 2 ^ 63)
    (hsmall : S ≠ [] → xinstrCount prog < 2 ^ 63)
    (hrk : ERanked (xequs prog ++ Spec.predefined sc) d) (hlt : ∀ s, d s < 63)
    (hw : XProgWF lexTokens sc (xtablesS sc S prog) 0 prog) :
    compileFrom lexTokens cfg ameta (symCXS cfg S prog) (xrender 0 prog) =
      optM ((flatTail sc (prog.map XItem.toItem) S (xinstrCount prog)).map (toWD ameta)) := by
  obtain ⟨_, hnq⟩ := nodup_parts hnd
  have hctx : EquCtx (symCXS cfg S prog).values (xtablesS sc S prog).equs d :=
    xequCtx hr prog hnq hrk hlt
  have hrelS : XRel (symCXS cfg S prog) sc (xtablesS sc S prog) :=
    xrel_ofS S prog hv h63 hr hS _ rfl rfl
  rw [compileFrom_eq _ _ _ _ _ hrelS.m_ne]
  simp only [hctx.acyclic, Bool.false_eq_true, if_false,
    evaluateAssertions_xrender lexTokens hrelS hctx prog 0 hw]
  cases hA : assertsOk sc (xtablesS sc S prog) (prog.map XItem.toItem) with
  | false =>
    rw [flatTail_assert_false sc S _ prog hA]
    rfl
  | true =>
    rw [flatTail_xitems sc S _ prog (xequs_expand lexTokens hctx prog 0 hw) hnd]
    simp only [hA, if_true, Bool.not_true, Bool.false_eq_true, if_false]
    show (assembleLines (symCXS cfg S prog) (xrender 0 prog) #[] >>= fun code =>
      finishX cfg ameta (symCXS cfg S prog) code) = _
    rw [assembleLines_xrender hrelS hctx lexTokens prog 0 #[] hw (fun hl => by have := hsmall hl; omega)]
    cases hcode : (codeFold sc (xtablesS sc S prog) (prog.map XItem.toItem) (some [], 0)).1 with
    | none => rfl
    | some code =>
      have hlen := codeFold_length sc _ prog [] 0 code hcode
      rw [List.length_nil, Nat.zero_add] at hlen
      simp only [Option.map_some, Option.bind_some]
      rw [← hlen]
      have hg := xstart_good lexTokens sc _ goodExpr_zero.goodX prog 0 hw
      exact finishX_meaning hr ameta (symCXS cfg S prog) code _
        (operandM_evalAt hrelS hctx 0 (fun _ => by omega) _ hg.size hg.tree)

/-- the instruction bound is asked for only when there are labels (it keeps `label - line`
    inside `int64`) -/
theorem compileX_meaning_xitems (lexTokens : String → List Token) (cfg : Config) (sc : Spec.Cfg)
    (prog : List XItem) (ameta : AsmMeta) (d : String → Nat)
    (hv : cfg.validate = true) (h63 : cfg.coreSize.toNat < 2 ^ 63) (hr : CfgRel cfg sc)
    (hnd : ((xlabelsFrom 0 prog).map (·.1) ++ (xequs prog).map (·.1) ++ constNames).Nodup)
    (hsmall : xlabelsFrom 0 prog ≠ [] → xinstrCount prog < 2 ^ 63)
    (hrk : ERanked (xequs prog ++ Spec.predefined sc) d) (hlt : ∀ s, d s < 63)
    (hw : XProgWF lexTokens sc (xtables sc prog) 0 prog) :
    compileX lexTokens cfg (xrender 0 prog) ameta =
      optM ((Spec.meaningFlat sc (prog.map XItem.toItem)).map (toWD ameta)) := by
  obtain ⟨hnl, hnq⟩ := nodup_parts hnd
  rw [compileX_from _ _ _ _ hv, symC_xrender cfg prog hnl hnq hw.kw, meaningFlat_eq, xlabelFold_items]
  refine compileFrom_xrender lexTokens cfg sc _ prog ameta d hv h63 hr hnd (fun p hp => ?_) hsmall hrk
    hlt hw
  have := xlabelsFrom_lt prog 0 p hp
  have := hsmall (List.ne_nil_of_mem hp)
  omega

/-- Programs of labelled instructions, `ORG`/`END`, `;assert` lines and
    EQU definitions placed anywhere, whose values may use numbers, operators, parentheses, labels,
    the predefined constants and other EQU names (defined earlier or later).  On the parser's
    source lines the model of `compile()` — cycle check, the assertions expanded with the table as
    loaded, `expandExpressions`, then the fixpoint `expandExpression` at every use (with a table
    that expands every expression as the loaded one does, `compileFrom_eq`) — returns
    exactly `Spec.meaningFlat` of the items: the same code and entry point, or a rejection when the
    reference rejects (an undefined name, a failed or unevaluable assert, a division by zero, the
    length limit, a bad entry point).

    Hypotheses: every symbol (label, EQU name, predefined constant) is defined once; fewer than
    `2^63` instructions; the EQU table is acyclic with chains shorter than 64 (`ERanked`, `d s < 63`:
    the reference's fuel); `XProgWF`: keywords, ASCII opcode text, every expression stays within
    the reference's 20000-token limit while it is expanded (`SizeOK`) and its FULL textual
    expansion (EQU bodies inserted without parentheses, labels as signed offsets) is the token
    list of a precedence-well-formed tree in the range the `go/types.Eval` model answers on
    (`TreeOK`). -/
theorem compile_meaning_equ (lexTokens : String → List Token) (cfg : Config) (sc : Spec.Cfg)
    (prog : List XItem) (ameta : AsmMeta) (d : String → Nat)
    (hv : cfg.validate = true) (h63 : cfg.coreSize.toNat < 2 ^ 63) (hr : CfgRel cfg sc)
    (hnd : ((xlabelsFrom 0 prog).map (·.1) ++ (xequs prog).map (·.1) ++ constNames).Nodup)
    (hsmall : xinstrCount prog < 2 ^ 63)
    (hrk : ERanked (xequs prog ++ Spec.predefined sc) d) (hlt : ∀ s, d s < 63)
    (hw : XProgWF lexTokens sc (xtables sc prog) 0 prog) :
    compile lexTokens cfg (xrender 0 prog) ameta =
      .ok ((Spec.meaningFlat sc (prog.map XItem.toItem)).map (toWD ameta)) :=
  compile_of_compileX
    (compileX_meaning_xitems lexTokens cfg sc prog ameta d hv h63 hr hnd (fun _ => hsmall) hrk hlt hw)

/-- on these programs the answer never rests on an expression outside the modelled subset of
    `go/types.Eval` -/
theorem compile_meaning_equ_modelled (lexTokens : String → List Token) (cfg : Config) (sc : Spec.Cfg)
    (prog : List XItem) (ameta : AsmMeta) (d : String → Nat)
    (hv : cfg.validate = true) (h63 : cfg.coreSize.toNat < 2 ^ 63) (hr : CfgRel cfg sc)
    (hnd : ((xlabelsFrom 0 prog).map (·.1) ++ (xequs prog).map (·.1) ++ constNames).Nodup)
    (hsmall : xinstrCount prog < 2 ^ 63)
    (hrk : ERanked (xequs prog ++ Spec.predefined sc) d) (hlt : ∀ s, d s < 63)
    (hw : XProgWF lexTokens sc (xtables sc prog) 0 prog) :
    compileUnmodelled lexTokens cfg (xrender 0 prog) ameta = false :=
  compileUnmodelled_of_compileX
    (compileX_meaning_xitems lexTokens cfg sc prog ameta d hv h63 hr hnd (fun _ => hsmall) hrk hlt hw)

theorem assertsOk_iff (sc : Spec.Cfg) (t : Spec.Tables) (prog : List XItem) :
    assertsOk sc t (prog.map XItem.toItem) = true ↔
      ∀ cm e, XItem.assert cm e ∈ prog → ∃ v, Spec.evalAt sc t 0 e = some v ∧ v ≠ 0 := by
  unfold assertsOk
  rw [List.all_eq_true, List.forall_mem_map]
  constructor
  · intro h cm e hm
    have h1 := h _ hm
    simp only [XItem.toItem] at h1
    cases hv : Spec.evalAt sc t 0 e with
    | none => rw [hv] at h1; cases h1
    | some v =>
      rw [hv] at h1
      exact ⟨v, rfl, by simpa using h1⟩
  · intro h it hit
    cases it with
    | assert cm e =>
      obtain ⟨v, hv, hne⟩ := h cm e hit
      simp only [XItem.toItem, hv]
      simpa using hne
    | _ => rfl

/-- The assertion stage of `compile()` — every `;assert` expression expanded
    with the EQU table as loaded (before `expandExpressions`) and evaluated — passes iff every
    assert has a value in the reference and that value is not 0; otherwise it returns an error. -/
theorem assert_decision (lexTokens : String → List Token) (cfg : Config) (sc : Spec.Cfg)
    (prog : List XItem) (ameta : AsmMeta) (d : String → Nat)
    (hv : cfg.validate = true) (h63 : cfg.coreSize.toNat < 2 ^ 63) (hr : CfgRel cfg sc)
    (hnd : ((xlabelsFrom 0 prog).map (·.1) ++ (xequs prog).map (·.1) ++ constNames).Nodup)
    (hsmall : xinstrCount prog < 2 ^ 63)
    (hrk : ERanked (xequs prog ++ Spec.predefined sc) d) (hlt : ∀ s, d s < 63)
    (hw : XProgWF lexTokens sc (xtables sc prog) 0 prog) :
    ((∀ cm e, XItem.assert cm e ∈ prog →
        ∃ v, Spec.evalAt sc (xtables sc prog) 0 e = some v ∧ v ≠ 0) →
      evaluateAssertions lexTokens (symC cfg (xrender 0 prog)) (xrender 0 prog) = .ok ()) ∧
    ((∃ cm e, XItem.assert cm e ∈ prog ∧
        (Spec.evalAt sc (xtables sc prog) 0 e = none ∨ Spec.evalAt sc (xtables sc prog) 0 e = some 0)) →
      evaluateAssertions lexTokens (symC cfg (xrender 0 prog)) (xrender 0 prog) = .error .goErr ∧
      compile lexTokens cfg (xrender 0 prog) ameta = .ok none) := by
  obtain ⟨hnl, hnq⟩ := nodup_parts hnd
  have hctx := xequCtx hr prog hnq hrk hlt
  have hsym := symC_xrender cfg prog hnl hnq hw.kw
  have hrelS : XRel (symCX cfg prog) sc (xtables sc prog) :=
    xrel_ofS _ prog hv h63 hr (fun p hp => by have := xlabelsFrom_lt prog 0 p hp; omega) _ rfl rfl
  rw [hsym, evaluateAssertions_xrender lexTokens hrelS hctx prog 0 hw]
  constructor
  · intro h
    rw [if_pos ((assertsOk_iff sc _ prog).2 h)]
  · rintro ⟨cm, e, hm, hbad⟩
    have hno : assertsOk sc (xtables sc prog) (prog.map XItem.toItem) = false := by
      rw [← Bool.not_eq_true, assertsOk_iff]
      intro h
      obtain ⟨v, h1, h2⟩ := h cm e hm
      rcases hbad with hb | hb
      · rw [hb] at h1; cases h1
      · rw [hb] at h1; cases h1; exact h2 rfl
    refine ⟨by rw [hno]; rfl, ?_⟩
    rw [compile_meaning_equ lexTokens cfg sc prog ameta d hv h63 hr hnd hsmall hrk hlt hw,
      meaningFlat_eq, xlabelFold_items,
      flatTail_assert_false sc _ _ prog hno]
    rfl

/-- A cyclic EQU table is rejected by both.  "Cyclic" = no rank function exists. -/
theorem compile_equ_cyclic (lexTokens : String → List Token) (cfg : Config) (sc : Spec.Cfg)
    (prog : List XItem) (ameta : AsmMeta) (hr : CfgRel cfg sc)
    (hnd : ((xlabelsFrom 0 prog).map (·.1) ++ (xequs prog).map (·.1) ++ constNames).Nodup)
    (hkw : ∀ it ∈ prog, it.KW)
    (hcyc : ¬ ∃ d, ERanked (xequs prog ++ Spec.predefined sc) d) :
    compile lexTokens cfg (xrender 0 prog) ameta = .ok none ∧
      Spec.meaningFlat sc (prog.map XItem.toItem) = none := by
  obtain ⟨hnl, hnq⟩ := nodup_parts hnd
  constructor
  · have hrel : TabRel (symCX cfg prog).values (xequs prog ++ Spec.predefined sc) :=
      tabRel_xequs hr (xequs prog) hnq
    have hc : graphContainsCycle (buildReferenceGraph (symCX cfg prog).values) = true :=
      (Bool.eq_false_or_eq_true _).resolve_right fun hc =>
        hcyc ⟨_, TRanked.eranked hrel (Ranked.tranked (ranked_of_acyclic hc).1)⟩
    unfold compile
    rw [compileX_eq, symC_xrender cfg prog hnl hnq hkw, hc]
    cases cfg.validate <;> rfl
  · have hall : ((xtables sc prog).equs.all
        fun (_, e) => (Spec.expandEqus 64 (xtables sc prog).equs e).isSome) = false :=
      (Bool.eq_false_or_eq_true _).resolve_left fun hall =>
        hcyc ⟨_, ranked_of_expandEqus fun k v hkv => by
          obtain ⟨p, hf, rfl⟩ := Option.map_eq_some_iff.1 hkv
          exact List.all_eq_true.1 hall p (List.mem_of_find?_eq_some hf)⟩
    rw [meaningFlat_eq, xlabelFold_items]
    unfold flatTail
    simp only [tablesOf_xitems, hall, Bool.not_false, if_true, ite_self]

end Gmars.AsmLine
