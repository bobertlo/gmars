/-
  Two transformations of the state that a task of warrior `wi` cannot see: `Sim.mapLog` (any
  function applied to the log) and `Sim.relabel` (the label of the running warrior and the living
  counter), each with the equations saying that what `exec` reads of the state is untouched.
-/
import Gmars.Model.Sim

namespace Gmars

private theorem map_ok {α β : Type} (f : α → β) (a : α) :
    f <$> (Except.ok a : Except Panic α) = Except.ok (f a) := rfl

def Sim.mapLog (g : Array Report → Array Report) (s : Sim) : Sim := { s with log := g s.log }

section
variable {g : Array Report → Array Report}

local notation "ML" => Sim.mapLog g

@[simp] theorem Sim.mapLog_m (s : Sim) : (ML s).m = s.m := rfl
@[simp] theorem Sim.mapLog_readLimit (s : Sim) : (ML s).readLimit = s.readLimit := rfl
@[simp] theorem Sim.mapLog_writeLimit (s : Sim) : (ML s).writeLimit = s.writeLimit := rfl
@[simp] theorem Sim.mapLog_readFold (s : Sim) (p : UInt64) : (ML s).readFold p = s.readFold p := rfl
@[simp] theorem Sim.mapLog_writeFold (s : Sim) (p : UInt64) : (ML s).writeFold p = s.writeFold p := rfl
@[simp] theorem Sim.mapLog_rd (s : Sim) (i : UInt64) : (ML s).rd i = s.rd i := rfl
@[simp] theorem Sim.mapLog_addF (s : Sim) : (ML s).addF = s.addF := rfl
@[simp] theorem Sim.mapLog_subF (s : Sim) : (ML s).subF = s.subF := rfl
@[simp] theorem Sim.mapLog_mulF (s : Sim) : (ML s).mulF = s.mulF := rfl

end

def Sim.relabel (wi : Nat) (st : WState) (d : Int) (s : Sim) : Sim :=
  { s with warriors := s.warriors.modify wi (fun w => { w with state := st }),
           living := s.living + d }

section
variable (wi : Nat) (st : WState) (d : Int)

local notation "RL" => Sim.relabel wi st d

@[simp] theorem Sim.relabel_m (s : Sim) : (RL s).m = s.m := rfl
@[simp] theorem Sim.relabel_readLimit (s : Sim) : (RL s).readLimit = s.readLimit := rfl
@[simp] theorem Sim.relabel_writeLimit (s : Sim) : (RL s).writeLimit = s.writeLimit := rfl
@[simp] theorem Sim.relabel_mem (s : Sim) : (RL s).mem = s.mem := rfl
@[simp] theorem Sim.relabel_readFold (s : Sim) (p : UInt64) : (RL s).readFold p = s.readFold p := rfl
@[simp] theorem Sim.relabel_writeFold (s : Sim) (p : UInt64) : (RL s).writeFold p = s.writeFold p := rfl
@[simp] theorem Sim.relabel_rd (s : Sim) (i : UInt64) : (RL s).rd i = s.rd i := rfl
@[simp] theorem Sim.relabel_report (s : Sim) (r : Report) : (RL s).report r = RL (s.report r) := rfl
@[simp] theorem Sim.relabel_addF (s : Sim) : (RL s).addF = s.addF := rfl
@[simp] theorem Sim.relabel_subF (s : Sim) : (RL s).subF = s.subF := rfl
@[simp] theorem Sim.relabel_mulF (s : Sim) : (RL s).mulF = s.mulF := rfl

@[simp] theorem Sim.relabel_terminate (s : Sim) (pc : UInt64) :
    (RL s).terminate wi pc = RL (s.terminate wi pc) := rfl
@[simp] theorem Sim.relabel_reads (s : Sim) (pc rpa rpb : UInt64) :
    (RL s).reads pc rpa rpb wi = RL (s.reads pc rpa rpb wi) := rfl

end

end Gmars
