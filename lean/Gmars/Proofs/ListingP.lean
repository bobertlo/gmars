/-
  C16, the pMARS-style printers: `signedAddress` with Go's wrapping arithmetic agrees with the
  exact formula inside the core, and `LoadCodePMARS()` without its header line reads back to the
  warrior.
-/
import Gmars.Model.ListingP
import Gmars.Proofs.RoundTripB

namespace Gmars.ListingP
open Gmars.GoStr

theorem toInt_toInt64 (a : UInt64) : a.toInt64.toInt = (a.toNat : Int).bmod (2 ^ 64) := by
  show a.toBitVec.toInt = _
  rw [BitVec.toInt_eq_toNat_bmod]; rfl

theorem signedAddressGo_eq (m a : UInt64) (ha : a < m) : signedAddressGo a m = addressSigned m a := by
  unfold signedAddressGo addressSigned
  have ha' := UInt64.lt_iff_toNat_lt.1 ha
  have hm := m.toNat_lt
  have hd : (m / 2).toNat = m.toNat / 2 := UInt64.toNat_div ..
  have hc : (a > m / 2) ↔ m.toNat / 2 < a.toNat := by rw [gt_iff_lt, UInt64.lt_iff_toNat_lt, hd]
  split
  · rename_i hgt
    rw [hc] at hgt
    -- the three roundings to 64 bits collapse into one before `omega` sees them
    rw [Int64.toInt_neg, Int64.toInt_sub, toInt_toInt64, toInt_toInt64, Int.bmod_sub_bmod,
      Int.sub_bmod_bmod, Int.bmod_neg_bmod, Int.bmod_def]
    omega
  · rename_i hgt
    rw [hc] at hgt
    rw [toInt_toInt64, Int.bmod_def]
    omega

theorem pmars_body (m : UInt64) (legacy : Bool) (name author : Str) (w : WarriorData)
    (h : 0 < w.code.size) :
    (loadCodePMARS m legacy name author w).drop (pmarsHeader name author w.code.size).length =
      loadCode m legacy w ++ ['\n'] := by
  unfold loadCodePMARS
  rw [if_pos h, List.append_assoc, List.drop_left]
  rfl

theorem pmars_empty (m : UInt64) (legacy : Bool) (name author : Str) (w : WarriorData)
    (h : w.code.size = 0) :
    loadCodePMARS m legacy name author w = pmarsHeader name author w.code.size := by
  unfold loadCodePMARS
  rw [if_neg (by omega)]

/-- the newline behind the listing is one more line, an empty one, and `Spec.readText` drops
    empty lines -/
theorem readText_lines_nl (L : List Str) (hnl : ∀ l ∈ L, ∀ c ∈ l, c ≠ '\n') :
    Spec.readText ((L.map (· ++ ['\n'])).flatten ++ ['\n']) =
      Spec.readText ((L.map (· ++ ['\n'])).flatten) := by
  have hnl' : ∀ l ∈ L ++ [[]], ∀ c ∈ l, c ≠ '\n' := by
    intro l hl
    rcases List.mem_append.1 hl with hl | hl
    · exact hnl l hl
    · simp only [List.mem_singleton] at hl; subst hl; intro c hc; cases hc
  have e : (L.map (· ++ ['\n'])).flatten ++ ['\n'] = ((L ++ [[]]).map (· ++ ['\n'])).flatten := by
    simp
  have t0 : trimSpace (Spec.stripComment ([] ++ ['\n'])) = [] := by decide
  unfold Spec.readText
  rw [e, readLines_lines _ hnl', readLines_lines _ hnl]
  simp only [List.map_append, List.filter_append, List.map_cons, List.map_nil, t0, List.filter_cons,
    List.isEmpty_nil, Bool.not_true, Bool.false_eq_true, if_false, List.filter_nil, List.append_nil]

theorem pmars_listing_roundtrip (m : UInt64) (legacy : Bool) (name author : Str) (w : WarriorData)
    (hs : 0 ≤ w.start) (hlt : w.start < w.code.size)
    (hl : legacy = true → ∀ i ∈ w.code.toList, Spec.Legal88 i = true) :
    ∃ t, Spec.readText ((loadCodePMARS m legacy name author w).drop
        (pmarsHeader name author w.code.size).length) = some t ∧
      Spec.denotes m.toNat t w.code.toList w.start = true := by
  have h0 : 0 < w.code.size := by omega
  have hlines := RoundTrip.loadCode_lines m legacy w (by omega) hs
  rw [pmars_body m legacy name author w h0, hlines,
    readText_lines_nl _ (RoundTrip.listingLines_no_nl m legacy w), ← hlines]
  exact RoundTrip.listing_roundtrip_gen m legacy w hs hlt hl

end Gmars.ListingP
