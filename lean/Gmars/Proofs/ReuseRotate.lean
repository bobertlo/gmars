/-
  C12 + C13: the rotated battle may be played in a REUSED simulator.  After `Reset`, a simulator
  with any history is related to `rotApi k` of the fresh reference state, for every shift `k`
  (rotating an empty core with no spawned warriors changes nothing), so it can serve as the
  `s₂` of `model_spawn_rotate` / `model_run_rotate`.
-/
import Gmars.Proofs.ApiRel
import Gmars.Proofs.SpecRotate

namespace Gmars
open Spec

theorem reset_related_to_rotated_fresh {s : Sim} {a : Spec.Api} (k : Nat) (h : Rel s a)
    (hd : DataRel s a) :
    Rel s.reset (rotApi k (Spec.Api.freshWith a.M a.R a.W a.P a.C a.sig)) ∧
      DataRel s.reset (rotApi k (Spec.Api.freshWith a.M a.R a.W a.P a.C a.sig)) := by
  rw [rotApi_fresh]
  obtain ⟨a0, rfl, h1, h2, _⟩ := reset_fresh h hd
  exact ⟨h1, h2⟩

theorem reset_pre {s : Sim} (p : Pre s) : Pre s.reset :=
  ⟨p.wf.reset, p.m32, p.rl, p.wl⟩

theorem reset_startsOK' {s : Sim} (h : StartsOK s) : StartsOK s.reset := reset_startsOK h

/-- everything `model_spawn_rotate` / `model_run_rotate` ask of their `s₂`, for a reused simulator -/
theorem reset_serves_as_rotated {s : Sim} {a : Spec.Api} (k : Nat) (p : Pre s) (hs : StartsOK s)
    (h : Rel s a) (hd : DataRel s a) :
    Pre s.reset ∧ StartsOK s.reset ∧
      Rel s.reset (rotApi k (Spec.Api.freshWith a.M a.R a.W a.P a.C a.sig)) ∧
      DataRel s.reset (rotApi k (Spec.Api.freshWith a.M a.R a.W a.P a.C a.sig)) :=
  ⟨reset_pre p, reset_startsOK hs, reset_related_to_rotated_fresh k h hd⟩

end Gmars
