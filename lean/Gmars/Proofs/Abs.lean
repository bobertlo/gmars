/-
  Shared vocabulary of the VM proofs: abstraction functions from the model
  (`Model/Sim.lean`) to the reference (`Spec`), and the simulator invariant.
-/
import Gmars.Model.Sim
import Gmars.Spec.Api

namespace Gmars

/-- the core as the reference sees it -/
def Sim.absCore (s : Sim) : Spec.Core := s.mem.toList.map Instr.abs

/-- ring-buffer invariant of `processQueue` -/
structure PQ.Inv (q : PQ) : Prop where
  qsize : q.queue.size = q.size.toNat
  pos   : 0 < q.size.toNat
  len   : q.length.toNat ≤ q.size.toNat
  start : q.start.toNat < q.size.toNat
  end_  : q.end_.toNat = (q.start.toNat + q.length.toNat) % q.size.toNat

/-- the queued program counters, oldest first -/
def PQ.toList (q : PQ) : List UInt64 :=
  (List.range q.length.toNat).map (fun i => q.queue.getD ((q.start.toNat + i) % q.size.toNat) 0)

/-- every instruction field is below the core size -/
def Sim.FieldsOK (s : Sim) : Prop :=
  ∀ i (h : i < s.mem.size), s.mem[i].a < s.m ∧ s.mem[i].b < s.m

/-- per-warrior part of the invariant -/
def Sim.WarriorOK (s : Sim) (i : Nat) (w : Warrior) : Prop :=
  w.index = i ∧
  match w.pq with
  | none => w.state = .added
  | some q => q.Inv ∧ q.size = s.maxProcs ∧ (∀ a ∈ q.toList, a < s.m) ∧
              (w.state = .alive → q.length ≠ 0) ∧ (w.state = .dead → q.length = 0)

def Sim.aliveCount (s : Sim) : Nat := (s.warriors.toList.filter (fun w => w.state == .alive)).length

/-- The simulator invariant (C04): what holds between any two API calls. -/
structure Sim.WF (s : Sim) : Prop where
  size    : s.mem.size = s.m.toNat
  m3      : 3 ≤ s.m.toNat
  rl      : 1 ≤ s.readLimit.toNat
  wl      : 1 ≤ s.writeLimit.toNat
  procs   : 1 ≤ s.maxProcs.toNat
  cycles  : 1 ≤ s.maxCycles.toNat
  fields  : s.FieldsOK
  count   : s.warriorCount = Int.ofNat s.warriors.size
  widx    : s.warriorIndex = 0
  warriors : ∀ i (h : i < s.warriors.size), s.WarriorOK i s.warriors[i]
  living  : s.living = Int.ofNat s.aliveCount
  cycle   : s.cycleCount ≤ s.maxCycles

/-- abstraction of a warrior's queue (empty when never spawned) -/
def Warrior.absQueue (w : Warrior) : List Nat :=
  match w.pq with
  | none => []
  | some q => q.toList.map (·.toNat)

end Gmars

namespace Gmars

/-- every instruction of every added warrior has its fields below the core size
    (what assembler and loader guarantee for the configured core size) -/
def Sim.CodeOK (s : Sim) : Prop :=
  ∀ i (h : i < s.warriors.size), ∀ c ∈ s.warriors[i].data.code.toList, c.a < s.m ∧ c.b < s.m

/-- operations of the public simulator API that change state -/
inductive ApiOp
  | add (d : WarriorData)
  | spawn (wi : Int) (off : UInt64)
  | runCycle
  | run
  | reset
  deriving Repr

/-- apply one API operation (the value results are dropped; `Run` uses the fuel that
    `run_terminates_wf` shows sufficient) -/
def Sim.applyOp (s : Sim) : ApiOp → Except Panic Sim
  | .add d => .ok (s.addWarrior d)
  | .spawn wi off => (s.spawn wi off).map (·.1)
  | .runCycle => s.runCycle.map (·.1)
  | .run => (s.runLoop (s.maxCycles.toNat + 2)).map (·.1)
  | .reset => .ok s.reset

def Sim.applyOps (s : Sim) : List ApiOp → Except Panic Sim
  | [] => .ok s
  | op :: ops => do let s' ← s.applyOp op; s'.applyOps ops

end Gmars
