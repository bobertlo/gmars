/-
  The reference step taken apart (`step_eq`: the operands `opA`, `opB`, then `opStep`), and what
  follows from that on `Gmars/Spec/ICWS94.lean` alone: what one step may change and where its
  successors lie (C11), that every number stays below the core size (C04), when it has no
  successor, and `enqueue` as an append of a `take`.
-/
import Gmars.Proofs.SpecFold

namespace Gmars.Spec

theorem Core.at_set_ne (c : Core) (i j : Nat) (v : SInstr) (h : i ≠ j) :
    Core.at (c.set i v) j = c.at j := by
  simp only [Core.at, List.getD_eq_getElem?_getD, List.getElem?_set_ne h]

theorem Core.at_set_self (c : Core) (w : Nat) (x : SInstr) (hw : w < c.length) :
    Core.at (c.set w x) w = x := by
  simp only [Core.at, List.getD_eq_getElem?_getD, List.getElem?_set_self hw, Option.getD_some]

theorem Core.modF_comm (c : Core) (w : Nat) (hw : w < c.length) (g1 g2 : Nat → Nat) :
    (c.modF w .A g1).modF w .B g2 = (c.modF w .B g2).modF w .A g1 := by
  simp [Core.modF, Core.at_set_self _ _ _ hw, List.set_set, setF, getF]

theorem Core.at_set_cases (c : Core) (i j : Nat) (v : SInstr) :
    Core.at (c.set i v) j = v ∨ Core.at (c.set i v) j = c.at j := by
  by_cases h : i = j
  · subst h
    by_cases hl : i < c.length
    · exact Or.inl (Core.at_set_self c i v hl)
    · right
      rw [List.set_eq_of_length_le (by omega)]
  · right; exact Core.at_set_ne c i j v h

theorem Core.modF_length (c : Core) (i : Nat) (f : Field) (g : Nat → Nat) :
    (c.modF i f g).length = c.length := by
  simp only [Core.modF, List.length_set]

theorem Core.modF_at_ne (c : Core) (i j : Nat) (f : Field) (g : Nat → Nat) (h : i ≠ j) :
    (c.modF i f g).at j = c.at j := Core.at_set_ne c i j _ h

def EqOff (S : List Nat) (c c' : Core) : Prop :=
  c'.length = c.length ∧ ∀ a, a ∉ S → c'.at a = c.at a

theorem EqOff.refl {S : List Nat} {c : Core} : EqOff S c c := ⟨rfl, fun _ _ => rfl⟩

theorem EqOff.mono {S T : List Nat} {c c' : Core} (h : EqOff S c c') (hST : ∀ a ∈ S, a ∈ T) :
    EqOff T c c' :=
  ⟨h.1, fun a ha => h.2 a (fun hs => ha (hST a hs))⟩

theorem EqOff.trans {S T : List Nat} {c c' c'' : Core} (h : EqOff S c c') (h' : EqOff T c' c'') :
    EqOff (S ++ T) c c'' := by
  refine ⟨h'.1.trans h.1, fun a ha => ?_⟩
  rw [List.mem_append, not_or] at ha
  rw [h'.2 a ha.2, h.2 a ha.1]

theorem EqOff.set (c : Core) (i : Nat) (v : SInstr) : EqOff [i] c (c.set i v) := by
  refine ⟨List.length_set, fun a ha => ?_⟩
  rw [List.mem_singleton] at ha
  exact Core.at_set_ne c i a v (fun h => ha h.symm)

theorem EqOff.modF (c : Core) (i : Nat) (f : Field) (g : Nat → Nat) : EqOff [i] c (c.modF i f g) :=
  EqOff.set c i _

theorem EqOff.trans_same {S : List Nat} {c c' c'' : Core} (h : EqOff S c c') (h' : EqOff S c' c'') :
    EqOff S c c'' :=
  (h.trans h').mono (fun a ha => by rw [List.mem_append] at ha; exact ha.elim id id)

/-- `a` ranges beyond the end too, where `c.at` is the default: that gives `FieldsLt.pos` -/
def FieldsLt (M : Nat) (c : Core) : Prop := ∀ a, (c.at a).a < M ∧ (c.at a).b < M

theorem FieldsLt.pos {M : Nat} {c : Core} (h : FieldsLt M c) : 0 < M := by
  have := (h c.length).1
  omega

theorem FieldsLt.set {M : Nat} {c : Core} (h : FieldsLt M c) (i : Nat) (v : SInstr)
    (hv : v.a < M ∧ v.b < M) : FieldsLt M (c.set i v) := by
  intro a
  rcases Core.at_set_cases c i a v with e | e <;> rw [e]
  · exact hv
  · exact h a

theorem FieldsLt.modF {M : Nat} {c : Core} (h : FieldsLt M c) (i : Nat) (f : Field) (g : Nat → Nat)
    (hg : g (getF f (c.at i)) < M) : FieldsLt M (c.modF i f g) := by
  apply FieldsLt.set h
  have := h i
  cases f
  · exact ⟨hg, this.2⟩
  · exact ⟨this.1, hg⟩

theorem FieldsLt.getF {M : Nat} {c : Core} (h : FieldsLt M c) (f : Field) (a : Nat) :
    getF f (c.at a) < M := by
  cases f
  · exact (h a).1
  · exact (h a).2

theorem fold_zero (L M : Nat) : fold 0 L M = 0 := by
  simp only [fold, Nat.zero_mod, gt_iff_lt, Nat.not_lt_zero, ↓reduceIte]

theorem evalOperand_eqOff (M R W pc : Nat) (c : Core) (mode : Mode) (num : Nat) :
    EqOff (evalOperand M R W pc c mode num).dec.toList c (evalOperand M R W pc c mode num).core := by
  unfold evalOperand
  cases kind mode <;> dsimp only
  case pre => exact EqOff.modF _ _ _ _
  all_goals exact EqOff.refl

theorem evalOperand_rp (M R W pc : Nat) (c : Core) (mode : Mode) (num : Nat) :
    ∃ x, (evalOperand M R W pc c mode num).rp = fold x R M := by
  unfold evalOperand
  cases kind mode <;> dsimp only
  case imm => exact ⟨0, (fold_zero R M).symm⟩
  all_goals exact ⟨_, rfl⟩

theorem evalOperand_wp (M R W pc : Nat) (c : Core) (mode : Mode) (num : Nat) :
    ∃ x, (evalOperand M R W pc c mode num).wp = fold x W M := by
  unfold evalOperand
  cases kind mode <;> dsimp only
  case imm => exact ⟨0, (fold_zero W M).symm⟩
  all_goals exact ⟨_, rfl⟩

theorem evalOperand_rp_lt {M R W pc : Nat} {c : Core} {mode : Mode} {num : Nat} (h1 : 1 ≤ R)
    (hM : R ≤ M) : (evalOperand M R W pc c mode num).rp < M := by
  obtain ⟨x, hx⟩ := evalOperand_rp M R W pc c mode num
  rw [hx]
  exact fold_lt x R M h1 hM

theorem evalOperand_wp_lt {M R W pc : Nat} {c : Core} {mode : Mode} {num : Nat} (h1 : 1 ≤ W)
    (hM : W ≤ M) : (evalOperand M R W pc c mode num).wp < M := by
  obtain ⟨x, hx⟩ := evalOperand_wp M R W pc c mode num
  rw [hx]
  exact fold_lt x W M h1 hM

theorem evalOperand_dec {M R W pc : Nat} {c : Core} {mode : Mode} {num : Nat} :
    ∀ d ∈ (evalOperand M R W pc c mode num).dec.toList, ∃ x, d = (pc + fold x W M) % M := by
  unfold evalOperand
  cases kind mode
  case pre => exact fun d hd => ⟨_, List.mem_singleton.mp hd⟩
  all_goals exact fun d hd => absurd hd List.not_mem_nil

theorem evalOperand_pip {M R W pc : Nat} {c : Core} {mode : Mode} {num : Nat} :
    ∀ d ∈ ((evalOperand M R W pc c mode num).pip.map (·.1)).toList, ∃ x, d = (pc + fold x W M) % M := by
  unfold evalOperand
  cases kind mode
  case post => exact fun d hd => ⟨_, List.mem_singleton.mp hd⟩
  all_goals exact fun d hd => absurd hd List.not_mem_nil

theorem evalOperand_fieldsLt {M R W pc : Nat} {c : Core} {mode : Mode} {num : Nat}
    (h : FieldsLt M c) : FieldsLt M (evalOperand M R W pc c mode num).core := by
  unfold evalOperand
  cases kind mode <;> dsimp only
  case pre => exact h.modF _ _ _ (Nat.mod_lt _ h.pos)
  all_goals exact h

theorem postInc_eqOff (M : Nat) (c : Core) (p : Option (Nat × Field)) :
    EqOff (p.map (·.1)).toList c (postInc M c p) :=
  match p with
  | none => EqOff.refl
  | some (i, f) => EqOff.modF c i f (fun v => (v + 1) % M)

theorem postInc_fieldsLt {M : Nat} {c : Core} {p : Option (Nat × Field)} (h : FieldsLt M c) :
    FieldsLt M (postInc M c p) :=
  match p with
  | none => h
  | some (i, f) => h.modF i f (fun v => (v + 1) % M) (Nat.mod_lt _ h.pos)

theorem applyPairs_eqOff {c : Core} {w : Nat} {ps : List (Field × Nat × Nat)}
    {ok : Nat → Bool} {g : Nat → Nat → Nat} : EqOff [w] c (applyPairs c w ps ok g) := by
  refine List.foldlRecOn (motive := EqOff [w] c) ps _ (EqOff.refl) fun b hb (f, x, y) _ => ?_
  dsimp only
  split
  · exact hb.trans_same (EqOff.modF _ _ _ _)
  · exact hb

theorem applyPairs_fieldsLt {M : Nat} {c : Core} {w : Nat} {ps : List (Field × Nat × Nat)}
    {ok : Nat → Bool} {g : Nat → Nat → Nat} (h : FieldsLt M c)
    (hg : ∀ p ∈ ps, ok p.2.2 = true → g p.2.1 p.2.2 < M) :
    FieldsLt M (applyPairs c w ps ok g) := by
  refine List.foldlRecOn (motive := FieldsLt M) ps _ h fun b hb (f, x, y) hp => ?_
  dsimp only
  split
  · exact hb.modF _ _ _ (hg _ hp ‹_›)
  · exact hb

theorem arithPairs_lt (M : Nat) (md : Modifier) (ira irb : SInstr)
    (ha : ira.a < M ∧ ira.b < M) (hb : irb.a < M ∧ irb.b < M) :
    ∀ p ∈ arithPairs md ira irb, p.2.1 < M ∧ p.2.2 < M := by
  cases md <;> simp only [arithPairs, List.forall_mem_cons, List.not_mem_nil, false_imp_iff,
    implies_true, ha, hb, and_self]

def eqTest (md : Modifier) (ira irb : SInstr) : Bool :=
  if md = .i then ira == irb else (cmpPairs md ira irb).all (fun (x, y) => x == y)

/-- the result part of `step`, given the evaluated operands: a copy of the `match` that ends
    `Spec.step` (Spec/ICWS94.lean), tied to it by `step_eq : … := rfl`; edit both together -/
def opStep (M : Nat) (op : Op) (md : Modifier) (ira irb : SInstr) (c2 : Core)
    (wt jt nxt skp : Nat) : StepResult :=
  match op with
  | .dat => ⟨c2, []⟩
  | .mov =>
    if md = .i then ⟨c2.set wt ira, [nxt]⟩
    else ⟨applyPairs c2 wt (arithPairs md ira irb) (fun _ => true) (fun _ y => y), [nxt]⟩
  | .add => ⟨applyPairs c2 wt (arithPairs md ira irb) (fun _ => true) (fun x y => (x + y) % M), [nxt]⟩
  | .sub => ⟨applyPairs c2 wt (arithPairs md ira irb) (fun _ => true) (fun x y => (x + M - y) % M), [nxt]⟩
  | .mul => ⟨applyPairs c2 wt (arithPairs md ira irb) (fun _ => true) (fun x y => (x * y) % M), [nxt]⟩
  | .div =>
    let ps := arithPairs md ira irb
    ⟨applyPairs c2 wt ps (· != 0) (fun x y => x / y),
     if ps.all (fun (_, _, y) => y != 0) then [nxt] else []⟩
  | .mod =>
    let ps := arithPairs md ira irb
    ⟨applyPairs c2 wt ps (· != 0) (fun x y => x % y),
     if ps.all (fun (_, _, y) => y != 0) then [nxt] else []⟩
  | .jmp => ⟨c2, [jt]⟩
  | .jmz => ⟨c2, [if (testFields md).all (fun f => getF f irb == 0) then jt else nxt]⟩
  | .jmn => ⟨c2, [if (testFields md).any (fun f => getF f irb != 0) then jt else nxt]⟩
  | .djn =>
    let fs := testFields md
    let c3 := fs.foldl (fun c f => c.modF wt f (fun v => (v + M - 1) % M)) c2
    ⟨c3, [if fs.any (fun f => (getF f irb + M - 1) % M != 0) then jt else nxt]⟩
  | .cmp | .seq => ⟨c2, [if eqTest md ira irb then skp else nxt]⟩
  | .sne => ⟨c2, [if eqTest md ira irb then nxt else skp]⟩
  | .slt => ⟨c2, [if (cmpPairs md ira irb).all (fun (x, y) => x < y) then skp else nxt]⟩
  | .spl => ⟨c2, [nxt, jt]⟩
  | .nop => ⟨c2, [nxt]⟩

theorem step_eq (M R W : Nat) (c : Core) (pc : Nat) :
    step M R W c pc =
      (let ir := c.at pc
       let oa := evalOperand M R W pc c ir.am ir.a
       let ira := oa.core.at ((pc + oa.rp) % M)
       let c1 := postInc M oa.core oa.pip
       let ob := evalOperand M R W pc c1 ir.bm ir.b
       let irb := ob.core.at ((pc + ob.rp) % M)
       let c2 := postInc M ob.core ob.pip
       opStep M ir.op ir.md ira irb c2 ((pc + ob.wp) % M) ((pc + oa.rp) % M) ((pc + 1) % M)
         ((pc + 2) % M)) := rfl

def opA (M R W : Nat) (c : Core) (pc : Nat) : Operand :=
  evalOperand M R W pc c (c.at pc).am (c.at pc).a
def core1 (M R W : Nat) (c : Core) (pc : Nat) : Core :=
  postInc M (opA M R W c pc).core (opA M R W c pc).pip
def opB (M R W : Nat) (c : Core) (pc : Nat) : Operand :=
  evalOperand M R W pc (core1 M R W c pc) (c.at pc).bm (c.at pc).b

section opStep
variable {M : Nat} {op : Op} {md : Modifier} {ira irb : SInstr} {c2 : Core} {wt jt nxt skp : Nat}

theorem opStep_eqOff :
    EqOff (if writesTarget op then [wt] else []) c2
      (opStep M op md ira irb c2 wt jt nxt skp).core := by
  cases op <;> simp only [opStep, writesTarget, ↓reduceIte, Bool.false_eq_true]
  case mov =>
    split
    · exact EqOff.set _ _ _
    · dsimp only
      exact applyPairs_eqOff
  case djn =>
    exact List.foldlRecOn (motive := EqOff [wt] c2) _ _ (EqOff.refl)
      fun _ hb _ _ => hb.trans_same (EqOff.modF _ _ _ _)
  case add | sub | mul | div | mod => exact applyPairs_eqOff
  all_goals exact EqOff.refl

theorem opStep_succ :
    (opStep M op md ira irb c2 wt jt nxt skp).succ.length ≤ 2 ∧
    ∀ q ∈ (opStep M op md ira irb c2 wt jt nxt skp).succ, q = nxt ∨ q = skp ∨ q = jt := by
  cases op <;> dsimp only [opStep] <;> (try split) <;>
    simp only [List.length_cons, List.length_nil, Nat.zero_add, Nat.reduceLeDiff, Nat.reduceAdd,
      Nat.zero_le, Std.le_refl, List.mem_cons, List.not_mem_nil, or_false, forall_eq_or_imp, forall_eq,
      false_implies, implies_true, true_or, or_true, and_self]

theorem opStep_fieldsLt (hc2 : FieldsLt M c2) (ha : ira.a < M ∧ ira.b < M)
    (hb : irb.a < M ∧ irb.b < M) : FieldsLt M (opStep M op md ira irb c2 wt jt nxt skp).core := by
  have hM := hc2.pos
  have hp := arithPairs_lt M md ira irb ha hb
  cases op <;> dsimp only [opStep]
  case mov =>
    split
    · exact hc2.set _ _ ha
    · dsimp only
      refine applyPairs_fieldsLt hc2 ?_
      exact fun p hp' _ => (hp p hp').2
  case add | sub | mul =>
    refine applyPairs_fieldsLt hc2 ?_
    exact fun _ _ _ => Nat.mod_lt _ hM
  case div =>
    refine applyPairs_fieldsLt hc2 ?_
    exact fun p hp' _ => Nat.lt_of_le_of_lt (Nat.div_le_self _ _) (hp p hp').1
  case mod =>
    refine applyPairs_fieldsLt hc2 ?_
    exact fun p hp' _ => Nat.lt_of_le_of_lt (Nat.mod_le _ _) (hp p hp').1
  case djn =>
    exact List.foldlRecOn (motive := FieldsLt M) _ _ hc2 fun _ hb _ _ => hb.modF _ _ _ (Nat.mod_lt _ hM)
  all_goals exact hc2

end opStep

theorem mayTouch_eq (M R W : Nat) (c : Core) (pc : Nat) :
    mayTouch M R W c pc =
      (opA M R W c pc).dec.toList ++ ((opA M R W c pc).pip.map (·.1)).toList ++
      (opB M R W c pc).dec.toList ++ ((opB M R W c pc).pip.map (·.1)).toList ++
      (if writesTarget (c.at pc).op then [(pc + (opB M R W c pc).wp) % M] else []) := rfl

theorem step_eqOff (M R W : Nat) (c : Core) (pc : Nat) :
    EqOff (mayTouch M R W c pc) c (step M R W c pc).core := by
  rw [mayTouch_eq, step_eq]
  exact ((((evalOperand_eqOff M R W pc c _ _).trans (postInc_eqOff M _ _)).trans
    (evalOperand_eqOff M R W pc (core1 M R W c pc) _ _)).trans (postInc_eqOff M _ _)).trans
    opStep_eqOff

theorem step_changed_subset (M R W : Nat) (c : Core) (pc : Nat) :
    ∀ a, (step M R W c pc).core.at a ≠ c.at a → a ∈ mayTouch M R W c pc :=
  fun a h => Decidable.by_contra (fun hn => h ((step_eqOff M R W c pc).2 a hn))

theorem step_length (M R W : Nat) (c : Core) (pc : Nat) :
    (step M R W c pc).core.length = c.length := (step_eqOff M R W c pc).1

theorem mayTouch_fold (M R W : Nat) (c : Core) (pc : Nat) :
    ∀ a ∈ mayTouch M R W c pc, ∃ x, a = (pc + fold x W M) % M := by
  intro a ha
  rw [mayTouch_eq] at ha
  simp only [List.mem_append] at ha
  rcases ha with (((ha | ha) | ha) | ha) | ha
  · exact evalOperand_dec a ha
  · exact evalOperand_pip a ha
  · exact evalOperand_dec a ha
  · exact evalOperand_pip a ha
  · split at ha
    · rw [List.mem_singleton] at ha
      obtain ⟨x, hx⟩ := evalOperand_wp M R W pc (core1 M R W c pc) (c.at pc).bm (c.at pc).b
      exact ⟨x, by rw [ha, ← hx]; rfl⟩
    · exact absurd ha List.not_mem_nil

/-- C11 for writes: a cell that one step changes lies within `W / 2` of the executing cell -/
theorem write_locality (M R W : Nat) (c : Core) (pc : Nat) (hW : 0 < W) (hWM : W ≤ M) (hpc : pc < M) :
    ∀ a, (step M R W c pc).core.at a ≠ c.at a → circDist M a pc ≤ W / 2 := by
  intro a h
  obtain ⟨x, rfl⟩ := mayTouch_fold M R W c pc a (step_changed_subset M R W c pc a h)
  exact fold_near x W M pc hW hWM hpc

theorem step_succ (M R W : Nat) (c : Core) (pc : Nat) :
    (step M R W c pc).succ.length ≤ 2 ∧
    ∀ q ∈ (step M R W c pc).succ,
      q = (pc + 1) % M ∨ q = (pc + 2) % M ∨ q = (pc + (opA M R W c pc).rp) % M := by
  rw [step_eq]
  exact opStep_succ

def dmZeroS (md : Modifier) (ira : SInstr) : Bool :=
  match md with
  | .a | .ab => ira.a == 0
  | .b | .ba => ira.b == 0
  | .f | .i | .x => ira.a == 0 || ira.b == 0

def noSucc (op : Op) (md : Modifier) (ira : SInstr) : Bool :=
  match op with
  | .dat => true
  | .div | .mod => dmZeroS md ira
  | _ => false

theorem dmZeroS_eq (md : Modifier) (ira irb : SInstr) :
    (arithPairs md ira irb).all (fun (_, _, y) => y != 0) = !dmZeroS md ira := by
  cases md <;> simp only [arithPairs, dmZeroS, List.all_cons, List.all_nil, Bool.and_true, bne,
    Bool.not_or]

theorem opStep_succ_nil {M : Nat} {op : Op} {md : Modifier} {ira irb : SInstr} {c2 : Core}
    {wt jt nxt skp : Nat} :
    (opStep M op md ira irb c2 wt jt nxt skp).succ = [] ↔ noSucc op md ira = true := by
  cases op <;> dsimp only [opStep, noSucc]
  case dat => exact iff_of_true rfl rfl
  case div | mod =>
    rw [dmZeroS_eq]
    cases dmZeroS md ira
    · exact iff_of_false (List.cons_ne_nil _ _) Bool.false_ne_true
    · exact iff_of_true rfl rfl
  case mov => split <;> exact iff_of_false (List.cons_ne_nil _ _) Bool.false_ne_true
  all_goals exact iff_of_false (List.cons_ne_nil _ _) Bool.false_ne_true

theorem step_succ_nil (M R W : Nat) (c : Core) (pc : Nat) :
    (step M R W c pc).succ = [] ↔
      noSucc (c.at pc).op (c.at pc).md
        ((opA M R W c pc).core.at ((pc + (opA M R W c pc).rp) % M)) = true := by
  rw [step_eq]
  exact opStep_succ_nil

theorem succ_length (M R W : Nat) (c : Core) (pc : Nat) : (step M R W c pc).succ.length ≤ 2 :=
  (step_succ M R W c pc).1

/-- C11 for control flow: a successor is the next cell, the skipped cell, or a jump target within
    `R / 2` of the executing cell -/
theorem succ_near (M R W : Nat) (c : Core) (pc : Nat) (hR : 0 < R) (hRM : R ≤ M) (hpc : pc < M) :
    ∀ q ∈ (step M R W c pc).succ,
      q = (pc + 1) % M ∨ q = (pc + 2) % M ∨ circDist M q pc ≤ R / 2 := by
  intro q hq
  rcases (step_succ M R W c pc).2 q hq with h | h | h
  · exact Or.inl h
  · exact Or.inr (Or.inl h)
  · obtain ⟨x, hx⟩ := evalOperand_rp M R W pc c (c.at pc).am (c.at pc).a
    refine Or.inr (Or.inr ?_)
    rw [h, show (opA M R W c pc).rp = fold x R M from hx]
    exact fold_near x R M pc hR hRM hpc

theorem succ_lt (M R W : Nat) (c : Core) (pc : Nat) (hM : 0 < M) :
    ∀ q ∈ (step M R W c pc).succ, q < M := by
  intro q hq
  rcases (step_succ M R W c pc).2 q hq with h | h | h <;> rw [h] <;> exact Nat.mod_lt _ hM

/-- C04 `reference_fields_bounded`: no hypothesis on `R`, `W`, `pc`; `0 < M` follows from the
    premise at a cell beyond the end -/
theorem step_fields (M R W : Nat) (c : Core) (pc : Nat)
    (h : ∀ a, (c.at a).a < M ∧ (c.at a).b < M) :
    ∀ a, ((step M R W c pc).core.at a).a < M ∧ ((step M R W c pc).core.at a).b < M := by
  have hoa : FieldsLt M (opA M R W c pc).core := evalOperand_fieldsLt h
  have hob : FieldsLt M (opB M R W c pc).core :=
    evalOperand_fieldsLt (postInc_fieldsLt hoa)
  rw [step_eq]
  exact opStep_fieldsLt (postInc_fieldsLt hob) (hoa _) (hob _)

theorem enqueue_nil (P : Nat) (q : List Nat) : enqueue P q [] = q := rfl

theorem enqueue_cons (P : Nat) (q : List Nat) (a : Nat) (succ : List Nat) :
    enqueue P q (a :: succ) = enqueue P (if q.length < P then q ++ [a] else q) succ := rfl

theorem enqueue_eq_take (P : Nat) (q succ : List Nat) :
    enqueue P q succ = q ++ succ.take (P - q.length) := by
  induction succ generalizing q with
  | nil => rw [enqueue_nil, List.take_nil, List.append_nil]
  | cons a succ ih =>
    rw [enqueue_cons, ih]
    split
    · rw [List.length_append, List.length_singleton,
        show P - q.length = (P - (q.length + 1)) + 1 by omega, List.take_succ_cons,
        List.append_assoc, List.singleton_append]
    · rw [show P - q.length = 0 by omega, List.take_zero, List.take_zero]

theorem enqueue_length (P : Nat) (q succ : List Nat) :
    (enqueue P q succ).length ≤ max q.length P := by
  rw [enqueue_eq_take, List.length_append, List.length_take]
  omega

theorem enqueue_mem (P : Nat) (q succ : List Nat) :
    ∀ x ∈ enqueue P q succ, x ∈ q ∨ x ∈ succ := by
  intro x hx
  rw [enqueue_eq_take, List.mem_append] at hx
  exact hx.imp id List.mem_of_mem_take

theorem enqueue_prefix (P : Nat) (q succ : List Nat) : q <+: enqueue P q succ := by
  rw [enqueue_eq_take]
  exact List.prefix_append _ _

theorem enqueue_length_le (P : Nat) (q succ : List Nat) (h : q.length ≤ P) :
    (enqueue P q succ).length ≤ P :=
  Nat.le_trans (enqueue_length P q succ) (Nat.max_le.mpr ⟨h, Nat.le_refl P⟩)

theorem enqueue_append (P : Nat) (l xs ys : List Nat) :
    Spec.enqueue P (Spec.enqueue P l xs) ys = Spec.enqueue P l (xs ++ ys) := by
  simp [Spec.enqueue, List.foldl_append]

theorem enqueue_single (P v : Nat) (hP : 1 ≤ P) : enqueue P [] [v] = [v] := by
  simp only [enqueue, List.foldl_cons, List.foldl_nil, List.length_nil, List.nil_append]
  rw [if_pos (by omega)]

theorem enqueue_map (f : Nat → Nat) (P : Nat) (q succ : List Nat) :
    enqueue P (q.map f) (succ.map f) = (enqueue P q succ).map f := by
  rw [enqueue_eq_take, enqueue_eq_take, List.length_map, List.map_append, List.map_take]

-- a `MOV.I $0, >1` style cell on a tiny core: the step changes cells, all inside `mayTouch`
example :
    let c : Core := [{ op := .mov, md := .i, a := 0, am := .direct, b := 1, bm := .bInc }, default, default, default]
    (step 4 4 4 c 0).core ≠ c ∧ mayTouch 4 4 4 c 0 = [1, 1] ∧ (step 4 4 4 c 0).succ = [1] := by
  decide

end Gmars.Spec
