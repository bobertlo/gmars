/-
  C09, loader half: layout-only variations of a load file do not change what is read.

  `Layout` describes a perturbation of the canonical load-file text `Spec.printLoad`: per line a
  letter-case mask for the mnemonic(.modifier) / `ORG` / `END` word, blanks (tabs, VT, FF, CR)
  between the fields, an optional trailing comment `;…`, LF or CR-LF as line end; between the
  lines any number of blank, white-space-only and comment lines (`Filler`); at the end the final
  newline may be missing. Only full-line comments that begin with `;name`, `;author`, `;strategy`
  (any letter case) change name / author / strategy (`Meta.step`).
-/
import Gmars.Proofs.LoadLayoutLoop

namespace Gmars.LoadLayout
open Gmars.GoStr Gmars.RoundTrip

structure Trail where
  comment : Option Str := none
  cr : Bool := false

def Trail.render (t : Trail) : Str :=
  (match t.comment with
   | none => []
   | some c => ';' :: c) ++ (if t.cr then ['\r'] else [])

def Trail.ok (t : Trail) : Prop := ∀ c, t.comment = some c → ∀ x ∈ c, x ≠ '\n'

/-- `blank []` is the empty line, `blank ['\r']` an empty CR-LF line; `comment [] text` is a
    full-line comment, the only kind that can be a metadata line -/
inductive Filler
  | blank (ws : Str)
  | comment (ws : Str) (text : Str)

def Filler.content : Filler → Str
  | .blank ws => ws
  | .comment ws text => ws ++ ';' :: text

def Filler.ok : Filler → Prop
  | .blank ws => Blanks ws
  | .comment ws text => Blanks ws ∧ ∀ c ∈ text, c ≠ '\n'

def Filler.plain (f : Filler) : Prop := PlainLine f.content

structure InstrLay where
  pre : List Filler := []
  mask : List Bool := []
  gaps : Gaps := {}
  trail : Trail := {}
  instr : Instr

structure DirLay where
  pre : List Filler := []
  mask : List Bool := []
  gaps : DirGaps := {}
  trail : Trail := {}

structure Layout where
  dir : DirLay := {}
  lines : List InstrLay
  post : List Filler := []
  finalNewline : Bool := true

def instrBodyM (legacy : Bool) (mask : List Bool) (g : Gaps) (i : Instr) : Str :=
  g.g0 ++ recase mask (opWord legacy i) ++ g.g1 ++ [i.am.sym] ++ g.g2 ++ Nat.toDigits 10 i.a.toNat ++
    g.g3 ++ [','] ++ g.g4 ++ [i.bm.sym] ++ g.g5 ++ Nat.toDigits 10 i.b.toNat ++ g.g6

def dirBodyM (mask : List Bool) (d : DirGaps) (kw : Str) (n : Nat) : Str :=
  d.d0 ++ recase mask kw ++ d.d1 ++ Nat.toDigits 10 n ++ d.d2

def InstrLay.content (legacy : Bool) (p : InstrLay) : Str :=
  instrBodyM legacy p.mask p.gaps p.instr ++ p.trail.render

def DirLay.content (d : DirLay) (kw : Str) (n : Nat) : Str :=
  dirBodyM d.mask d.gaps kw n ++ d.trail.render

def fillerItems (fs : List Filler) : List (Str × Eff) := fs.map (fun f => (f.content, Eff.filler))

def instrItems (legacy : Bool) (p : InstrLay) : List (Str × Eff) :=
  fillerItems p.pre ++ [(p.content legacy, Eff.push p.instr)]

def Layout.items94 (L : Layout) (start : Nat) : List (Str × Eff) :=
  fillerItems L.dir.pre ++ (L.dir.content "ORG".toList start, Eff.setStart start) ::
    (L.lines.flatMap (instrItems false) ++ fillerItems L.post)

def Layout.body88 (L : Layout) : List (Str × Eff) :=
  L.lines.flatMap (instrItems true) ++ fillerItems L.dir.pre

def Layout.items88 (L : Layout) (start : Nat) : List (Str × Eff) :=
  L.body88 ++ (L.dir.content "END".toList start, Eff.setStart start) :: fillerItems L.post

def Layout.render (L : Layout) (legacy : Bool) (start : Nat) : Str :=
  joinLines ((if legacy then L.items88 start else L.items94 start).map (·.1)) L.finalNewline

/-- the raw lines the reader consumes: all of them in '94, those in front of `END` in '88 -/
def Layout.linesRead (L : Layout) (legacy : Bool) (start : Nat) : List Str :=
  if legacy then L.body88.map (fun p => p.1 ++ ['\n'])
  else (rawLines (L.items94 start) L.finalNewline).map (·.1)

def Layout.metaRead (L : Layout) (legacy : Bool) (start : Nat) : Meta :=
  (L.linesRead legacy start).foldl Meta.step {}

structure Layout.ok (L : Layout) (M : UInt64) (legacy : Bool) : Prop where
  dirPre : ∀ f ∈ L.dir.pre, f.ok
  dirGaps : L.dir.gaps.ok
  dirTrail : L.dir.trail.ok
  lines : ∀ p ∈ L.lines, (∀ f ∈ p.pre, f.ok) ∧ p.trail.ok ∧ LineOK M legacy (p.gaps, p.instr)
  post : ∀ f ∈ L.post, f.ok

def Layout.plain (L : Layout) : Prop :=
  (∀ f ∈ L.dir.pre, f.plain) ∧ (∀ p ∈ L.lines, ∀ f ∈ p.pre, f.plain) ∧ (∀ f ∈ L.post, f.plain)

theorem linesRead_94 (L : Layout) (start : Nat)
    (h : ∀ p ∈ L.items94 start, ∀ c ∈ p.1, c ≠ '\n') :
    L.linesRead false start = readLines (L.render false start) := by
  simp only [Layout.linesRead, Layout.render, Bool.false_eq_true, if_false]
  rw [readLines_joinLines _ _ h]

theorem trail_tailOK (t : Trail) (e : Str) (he : e = [] ∨ e = ['\n']) : TailOK (t.render ++ e) := by
  have hE : AllSpace e := by rcases he with rfl | rfl; exact allSpace_nil; exact allSpace_nl
  unfold Trail.render
  cases t.comment with
  | some c => exact .inr ⟨_, rfl⟩
  | none =>
    left
    cases t.cr
    · simpa using hE
    · simpa using allSpace_cr.append hE

theorem trail_no_nl (t : Trail) (ht : t.ok) : ∀ c ∈ t.render, c ≠ '\n' := by
  intro c hc
  unfold Trail.render at hc
  rcases List.mem_append.1 hc with hc | hc
  · cases h : t.comment with
    | none => rw [h] at hc; cases hc
    | some x =>
      rw [h] at hc
      rcases List.mem_cons.1 hc with rfl | hc
      · decide
      · exact ht x h c hc
  · by_cases hcr : t.cr = true
    · rw [if_pos hcr] at hc; simp only [List.mem_singleton] at hc; subst hc; decide
    · rw [if_neg hcr] at hc; cases hc

theorem filler_spec (legacy : Bool) (M : UInt64) (x : Filler) (hx : x.ok) :
    LineSpec (lineOf legacy M) x.content .filler := by
  intro e he st
  have hE : AllSpace e := by rcases he with rfl | rfl; exact allSpace_nil; exact allSpace_nl
  cases x with
  | blank ws => exact lineOf_filler legacy M st (blanks_allSpace hx) (.inl hE)
  | comment ws text =>
    simp only [Filler.content, List.append_assoc, List.cons_append]
    exact lineOf_filler legacy M st (blanks_allSpace hx.1) (.inr ⟨_, rfl⟩)

theorem filler_no_nl (f : Filler) (hf : f.ok) : ∀ c ∈ f.content, c ≠ '\n' := by
  cases f with
  | blank ws => exact fun c hc => (hf c hc).2
  | comment ws text =>
    intro c hc
    simp only [Filler.content, List.mem_append, List.mem_cons] at hc
    rcases hc with hc | rfl | hc
    · exact (hf.1 c hc).2
    · decide
    · exact hf.2 c hc

theorem instr_spelt (legacy : Bool) (mask : List Bool) {g : Gaps} (hg : g.ok) (i : Instr) :
    Spelt g (recase mask (opWord legacy i)) (Nat.toDigits 10 i.a.toNat) (Nat.toDigits 10 i.b.toNat) :=
  ⟨hg, (word_opWord legacy i).recase mask, word_digits _, word_digits _⟩

theorem instr_line (legacy : Bool) (M : UInt64) (st : LoadState) (p : InstrLay) (hM : M.toNat < 2 ^ 63)
    (h : LineOK M legacy (p.gaps, p.instr)) {T : Str} (hT : TailOK T) :
    lineOf legacy M st (instrBodyM legacy p.mask p.gaps p.instr ++ T) =
      .ok (.cont { st with code := st.code.push p.instr }) := by
  rw [show instrBodyM legacy p.mask p.gaps p.instr = itext p.gaps _ _ _ _ _ from rfl,
    lineOf_itext _ _ legacy M st (instr_spelt legacy p.mask h.gaps p.instr) hT, toLower_recase,
    toLower_digits, toLower_digits, readAct_instr legacy M _ _ hM h.a_lt h.b_lt h.legal]
  rfl

theorem kw_word : Word "ORG".toList ∧ Word "END".toList := by
  unfold Word TokChar; decide

theorem dir_line (legacy : Bool) (M : UInt64) (st : LoadState) (d : DirLay) {kw : Str} (hk : Word kw)
    (n : Nat) (hd : d.gaps.ok) {T : Str} (hT : TailOK T) :
    lineOf legacy M st (dirBodyM d.mask d.gaps kw n ++ T) =
      (readAct legacy M st.code.size [toLower kw, Nat.toDigits 10 n]
        (containsChar (toLower (dirBodyM d.mask d.gaps kw n)) ',')).map st.act := by
  rw [show dirBodyM d.mask d.gaps kw n = dtext d.gaps _ _ from rfl,
    lineOf_dtext legacy M st hd (hk.recase d.mask) (word_digits n) hT, toLower_recase, toLower_digits]

theorem instr_spec (legacy : Bool) (M : UInt64) (p : InstrLay) (hM : M.toNat < 2 ^ 63)
    (h : LineOK M legacy (p.gaps, p.instr)) :
    LineSpec (lineOf legacy M) (p.content legacy) (.push p.instr) := by
  intro e he st
  have hh : ((instrBodyM legacy p.mask p.gaps p.instr ++ (p.trail.render ++ e)).head? == some ';') =
      false := head_itext _ _ (instr_spelt legacy p.mask h.gaps p.instr) _
  rw [Eff.apply, InstrLay.content, List.append_assoc, stepMeta_of_head hh]
  exact instr_line legacy M st p hM h (trail_tailOK p.trail e he)

theorem org_spec94 (M : UInt64) (d : DirLay) (n : Nat) (hd : d.gaps.ok) (hn : n < 2 ^ 31) :
    LineSpec (line94 M) (d.content "ORG".toList n) (.setStart n) := by
  intro e he st
  have hh : ((dirBodyM d.mask d.gaps "ORG".toList n ++ (d.trail.render ++ e)).head? == some ';') =
      false := head_dtext hd (kw_word.1.recase d.mask) (word_digits n) _
  -- `line94 M` is first put in the form `lineOf false M`: left to unification the reader is unfolded
  rw [Eff.apply, DirLay.content, List.append_assoc, stepMeta_of_head hh,
    show line94 M = lineOf false M from rfl, dir_line false M st d kw_word.1 n hd (trail_tailOK d.trail e he),
    show toLower "ORG".toList = "org".toList by decide, readAct_org, if_pos hn]
  rfl

theorem end_line88 (M : UInt64) (st : LoadState) (d : DirLay) (n : Nat) (hd : d.gaps.ok)
    (hn : n < 2 ^ 31) (hle : n ≤ st.code.size) (e : Str) (he : e = [] ∨ e = ['\n']) :
    line88 M st (d.content "END".toList n ++ e) = .ok (.stop { st with start := (n : Int) }) := by
  rw [DirLay.content, List.append_assoc, show line88 M = lineOf true M from rfl,
    dir_line true M st d kw_word.2 n hd (trail_tailOK d.trail e he),
    show toLower "END".toList = "end".toList by decide, readAct_end M _ n _ hn hle]
  rfl

theorem instr_content (legacy : Bool) (p : InstrLay) (hg : p.gaps.ok) (ht : p.trail.ok) :
    (∀ c ∈ p.content legacy, c ≠ '\n') ∧ PlainLine (p.content legacy) ∧ p.content legacy ≠ [] :=
  have hs := instr_spelt legacy p.mask hg p.instr
  ⟨List.forall_mem_append.2 ⟨fun c hc => (itext_plain _ _ hs comma_one c hc).2, trail_no_nl _ ht⟩,
    plain_of_head (head_itext _ _ hs _), List.append_ne_nil_of_left_ne_nil (itext_ne_nil _ _ hs.B) _⟩

theorem dir_content (d : DirLay) {kw : Str} (hk : Word kw) (n : Nat) (hg : d.gaps.ok) (ht : d.trail.ok) :
    (∀ c ∈ d.content kw n, c ≠ '\n') ∧ PlainLine (d.content kw n) ∧ d.content kw n ≠ [] :=
  have h1 := hk.recase d.mask
  have h2 := word_digits n
  ⟨List.forall_mem_append.2 ⟨fun c hc => (dtext_plain hg h1 h2 c hc).2, trail_no_nl _ ht⟩,
    plain_of_head (head_dtext hg h1 h2 _), List.append_ne_nil_of_left_ne_nil (dtext_ne_nil h2) _⟩

theorem forall_items94 {P : Str × Eff → Prop} (L : Layout) (start : Nat)
    (h1 : ∀ f ∈ L.dir.pre, P (f.content, .filler))
    (h2 : P (L.dir.content "ORG".toList start, .setStart start))
    (h3 : ∀ p ∈ L.lines, (∀ f ∈ p.pre, P (f.content, .filler)) ∧ P (p.content false, .push p.instr))
    (h4 : ∀ f ∈ L.post, P (f.content, .filler)) : ∀ q ∈ L.items94 start, P q := by
  simp only [Layout.items94, instrItems, fillerItems, List.forall_mem_append, List.forall_mem_cons,
    List.forall_mem_map, List.forall_mem_flatMap, List.not_mem_nil, false_imp_iff, implies_true,
    and_true]
  exact ⟨h1, h2, h3, h4⟩

theorem forall_body88 {P : Str × Eff → Prop} (L : Layout)
    (h1 : ∀ f ∈ L.dir.pre, P (f.content, .filler))
    (h3 : ∀ p ∈ L.lines, (∀ f ∈ p.pre, P (f.content, .filler)) ∧ P (p.content true, .push p.instr)) :
    ∀ q ∈ L.body88, P q := by
  simp only [Layout.body88, instrItems, fillerItems, List.forall_mem_append, List.forall_mem_map,
    List.forall_mem_flatMap, List.forall_mem_singleton]
  exact ⟨h3, h1⟩

theorem filterMap_fillerItems {β : Type} (g : Eff → Option β) (hg : g .filler = none) (fs : List Filler) :
    (fillerItems fs).filterMap (fun p => g p.2) = [] := by
  rw [fillerItems, List.filterMap_map]
  exact List.filterMap_eq_nil_iff.2 fun _ _ => hg

theorem filterMap_instrItems {β : Type} (g : Eff → Option β) (hg : g .filler = none) (legacy : Bool)
    (ps : List InstrLay) :
    (ps.flatMap (instrItems legacy)).filterMap (fun p => g p.2) =
      ps.filterMap (fun p => g (.push p.instr)) := by
  simp only [List.filterMap_flatMap, instrItems, List.filterMap_append, filterMap_fillerItems g hg,
    List.nil_append, List.filterMap_cons, List.filterMap_nil]
  induction ps with
  | nil => rfl
  | cons p r ih => rw [List.flatMap_cons, List.filterMap_cons, ih]; cases g (.push p.instr) <;> rfl

theorem filterMap_items94 {β : Type} (g : Eff → Option β) (hg : g .filler = none) (L : Layout)
    (start : Nat) :
    (L.items94 start).filterMap (fun p => g p.2) =
      (g (.setStart start)).toList ++ L.lines.filterMap (fun p => g (.push p.instr)) := by
  unfold Layout.items94
  rw [List.filterMap_append, List.filterMap_cons, List.filterMap_append, filterMap_instrItems g hg,
    filterMap_fillerItems g hg, filterMap_fillerItems g hg, List.append_nil]
  cases g (.setStart start) <;> rfl

theorem instrs_body88 (L : Layout) :
    L.body88.filterMap (fun p => p.2.instr?) = L.lines.map (·.instr) := by
  rw [Layout.body88, List.filterMap_append, filterMap_instrItems Eff.instr? rfl,
    filterMap_fillerItems Eff.instr? rfl, List.append_nil]
  simp [Eff.instr?]

theorem filler_item (legacy : Bool) (M : UInt64) (x : Filler) (hx : x.ok) :
    ItemOK (lineOf legacy M) (x.content, .filler) :=
  ⟨filler_spec legacy M x hx, filler_no_nl x hx, fun _ => rfl⟩

theorem instr_item (legacy : Bool) (M : UInt64) (p : InstrLay) (hM : M.toNat < 2 ^ 63)
    (ht : p.trail.ok) (h : LineOK M legacy (p.gaps, p.instr)) :
    ItemOK (lineOf legacy M) (p.content legacy, .push p.instr) :=
  have hc := instr_content legacy p h.gaps ht
  ⟨instr_spec legacy M p hM h, hc.1, fun e => absurd e hc.2.2⟩

theorem items94_ok (L : Layout) (start : Nat) {M : UInt64} (hok : L.ok M false)
    (hM : M.toNat < 2 ^ 63) (hs : start < 2 ^ 31) : ∀ q ∈ L.items94 start, ItemOK (line94 M) q :=
  have hc := dir_content L.dir kw_word.1 start hok.dirGaps hok.dirTrail
  forall_items94 L start (fun f hf => filler_item false M f (hok.dirPre f hf))
    ⟨org_spec94 M L.dir start hok.dirGaps hs, hc.1, fun e => absurd e hc.2.2⟩
    (fun p hp => ⟨fun f hf => filler_item false M f ((hok.lines p hp).1 f hf),
      instr_item false M p hM (hok.lines p hp).2.1 (hok.lines p hp).2.2⟩)
    (fun f hf => filler_item false M f (hok.post f hf))

theorem body88_ok (L : Layout) {M : UInt64} (hok : L.ok M true) (hM : M.toNat < 2 ^ 63) :
    ∀ q ∈ L.body88, ItemOK (line88 M) q :=
  forall_body88 L (fun f hf => filler_item true M f (hok.dirPre f hf))
    (fun p hp => ⟨fun f hf => filler_item true M f ((hok.lines p hp).1 f hf),
      instr_item true M p hM (hok.lines p hp).2.1 (hok.lines p hp).2.2⟩)

theorem loadLoop_layout (M : UInt64) (legacy : Bool) (L : Layout) (start : Nat) (hok : L.ok M legacy)
    (hM : M.toNat < 2 ^ 63) (hs : start < 2 ^ 31) (hle : start ≤ L.lines.length) :
    ∃ st, loadLoop (lineOf legacy M) {} (readLines (L.render legacy start)) = .ok (some st) ∧
      st.code = (L.lines.map (·.instr)).toArray ∧ st.start = (start : Int) ∧
      metaOf st = L.metaRead legacy start := by
  cases legacy with
  | false =>
    have hA := items94_ok L start hok hM hs
    obtain ⟨hm, hc, hst⟩ := run_rawLines hA L.finalNewline {}
    refine ⟨_, loadLoop_items hA L.finalNewline {}, ?_, ?_, hm⟩
    · rw [hc, filterMap_items94 Eff.instr? rfl]
      simp [Eff.instr?]
    · rw [hst, filterMap_items94 Eff.start? rfl,
        show L.lines.filterMap (fun p => Eff.start? (.push p.instr)) = [] from
          List.filterMap_eq_nil_iff.2 fun _ _ => rfl]
      rfl
  | true =>
    -- `END` stops the loop: only the lines in front of it are read, each with its LF because a
    -- line follows; what comes after `END` is never read
    have hA := body88_ok L hok hM
    have hc := dir_content L.dir kw_word.2 start hok.dirGaps hok.dirTrail
    obtain ⟨e, rest, he, h⟩ := loadLoop_items_then hA
      (L.dir.content "END".toList start, Eff.setStart start) (fillerItems L.post)
      (List.forall_mem_cons.2 ⟨hc.1, List.forall_mem_map.2 fun f hf => filler_no_nl f (hok.post f hf)⟩)
      hc.2.2 L.finalNewline {}
    obtain ⟨hm, hcode, _⟩ := run_rawLines hA true {}
    rw [instrs_body88] at hcode
    refine ⟨{ run (rawLines L.body88 true) {} with start := (start : Int) }, ?_, by simpa using hcode,
      rfl, ?_⟩
    · rw [Layout.render, if_pos rfl, Layout.items88, show lineOf true M = line88 M from rfl, h]
      exact loadLoop_stop (end_line88 M _ L.dir start hok.dirGaps hs
        (by rw [hcode]; simpa using hle) e he)
    · exact hm.trans (by rw [rawLines_true, List.map_map]; rfl)

/-- C09 (loader half), any layout. Letter case of the mnemonics and of `ORG` / `END`, any
    blanks between the fields, trailing comments, LF or CR-LF line ends, blank lines,
    white-space-only lines and comment lines anywhere, a missing final newline: the reader
    returns the same instructions and the same entry point. The three text fields are
    `Meta.step` folded over the raw lines read. -/
theorem load_print_any_layout_meta (cfg : Config) (L : Layout) (start : Nat)
    (hok : L.ok cfg.coreSize (cfg.mode == .icws88)) (hM : cfg.coreSize.toNat < 2 ^ 63)
    (hstart : start < L.lines.length) (hs : start < 2 ^ 31) :
    parseLoadFile cfg (L.render (cfg.mode == .icws88) start) =
      .ok (some { name := String.ofList (L.metaRead (cfg.mode == .icws88) start).name,
                  author := String.ofList (L.metaRead (cfg.mode == .icws88) start).author,
                  strategy := String.ofList (L.metaRead (cfg.mode == .icws88) start).strategy,
                  code := (L.lines.map (·.instr)).toArray, start := (start : Int) }) := by
  obtain ⟨st, hloop, hc, hst, hm⟩ :=
    loadLoop_layout cfg.coreSize (cfg.mode == .icws88) L start hok hM hs (by omega)
  unfold parseLoadFile
  simp only [bind, Except.bind]
  rw [hloop]
  have : ¬ ((L.lines.length : Int) ≤ (start : Int)) := by omega
  rw [← hm]
  simp [finish, hc, hst, this, metaOf]

theorem foldl_step_plain (raws : List Str) (m : Meta) (h : ∀ r ∈ raws, ∀ m : Meta, m.step r = m) :
    raws.foldl Meta.step m = m := by
  induction raws with
  | nil => rfl
  | cons r rs ih => rw [List.foldl_cons, h r (by simp), ih (fun x hx => h x (by simp [hx]))]

theorem metaRead_plain (L : Layout) (M : UInt64) (legacy : Bool) (start : Nat) (hok : L.ok M legacy)
    (hp : L.plain) : L.metaRead legacy start = {} := by
  unfold Layout.metaRead
  apply foldl_step_plain
  intro r hr m
  cases legacy with
  | false =>
    simp only [Layout.linesRead, Bool.false_eq_true, if_false] at hr
    obtain ⟨p, hp', rfl⟩ := List.mem_map.1 hr
    obtain ⟨q, hq, _, e, he, h1⟩ := mem_rawLines hp'
    rw [h1]
    refine meta_step_plain ?_ he
    exact forall_items94 (P := fun q => PlainLine q.1) L start hp.1
      (dir_content L.dir kw_word.1 start hok.dirGaps hok.dirTrail).2.1
      (fun p hpl => ⟨hp.2.1 p hpl, (instr_content false p (hok.lines p hpl).2.2.gaps (hok.lines p hpl).2.1).2.1⟩)
      hp.2.2 q hq
  | true =>
    simp only [Layout.linesRead, if_true] at hr
    obtain ⟨q, hq, rfl⟩ := List.mem_map.1 hr
    refine meta_step_plain ?_ (.inr rfl)
    exact forall_body88 (P := fun q => PlainLine q.1) L hp.1
      (fun p hpl => ⟨hp.2.1 p hpl, (instr_content true p (hok.lines p hpl).2.2.gaps (hok.lines p hpl).2.1).2.1⟩) q hq

/-- For every layout perturbation without metadata lines the reader
    returns exactly what it returns for the unperturbed text `Spec.printLoad`. -/
theorem load_print_any_layout (cfg : Config) (L : Layout) (start : Nat)
    (hok : L.ok cfg.coreSize (cfg.mode == .icws88)) (hplain : L.plain)
    (hM : cfg.coreSize.toNat < 2 ^ 63) (hstart : start < L.lines.length) (hs : start < 2 ^ 31) :
    parseLoadFile cfg (L.render (cfg.mode == .icws88) start) =
      .ok (some { name := "Unknown", author := "Anonymous", strategy := "",
                  code := (L.lines.map (·.instr)).toArray, start := (start : Int) }) := by
  rw [load_print_any_layout_meta cfg L start hok hM hstart hs,
    metaRead_plain L cfg.coreSize _ start hok hplain]
  simp only [String.ofList_toList, String.ofList_nil]

def Layout.canon (code : List Instr) : Layout := { lines := code.map (fun i => { instr := i }) }

def Layout.ofGaps (d : DirGaps) (lines : List (Gaps × Instr)) : Layout :=
  { dir := { gaps := d }, lines := lines.map (fun p => { gaps := p.1, instr := p.2 }) }

theorem canon_eq (code : List Instr) :
    Layout.canon code = Layout.ofGaps {} (code.map (fun i => ({}, i))) := by
  simp [Layout.canon, Layout.ofGaps]

theorem instrItems_gaps (legacy : Bool) (g : Gaps) (i : Instr) :
    instrItems legacy { gaps := g, instr := i } = [(instrBody legacy g i, .push i)] := by
  simp only [instrItems, fillerItems, InstrLay.content, instrBodyM, instrBody, recase_nil,
    Trail.render, List.map_nil, List.nil_append, Bool.false_eq_true, if_false, List.append_nil]

theorem ofGaps_items (legacy : Bool) (lines : List (Gaps × Instr)) :
    ((lines.map (fun p => ({ gaps := p.1, instr := p.2 } : InstrLay))).flatMap
      (instrItems legacy)).map (·.1) = lines.map (fun p => instrBody legacy p.1 p.2) := by
  induction lines with
  | nil => rfl
  | cons p r ih =>
    rw [List.map_cons, List.flatMap_cons, List.map_append, ih, instrItems_gaps]
    rfl

theorem render_ofGaps (legacy : Bool) (d : DirGaps) (lines : List (Gaps × Instr)) (start : Nat) :
    (Layout.ofGaps d lines).render legacy start = printLoadG legacy d lines start := by
  have hd : ∀ kw, ({ gaps := d } : DirLay).content kw start = dirBody d kw start := by
    intro kw; simp [DirLay.content, dirBodyM, dirBody, recase_nil, Trail.render]
  cases legacy
  · rw [printLoadG_94]
    simp only [Layout.render, Bool.false_eq_true, if_false, Layout.ofGaps, joinLines_true,
      Layout.items94, fillerItems, List.map_nil, List.nil_append, List.append_nil, List.map_cons,
      ofGaps_items, hd]
  · rw [printLoadG_88]
    simp only [Layout.render, if_true, Layout.ofGaps, joinLines_true, Layout.items88, Layout.body88,
      fillerItems, List.map_nil, List.append_nil, List.map_append, List.map_cons,
      ofGaps_items, hd]

theorem ofGaps_ok (M : UInt64) (legacy : Bool) (d : DirGaps) (lines : List (Gaps × Instr))
    (hd : d.ok) (hl : ∀ p ∈ lines, LineOK M legacy p) :
    (Layout.ofGaps d lines).ok M legacy ∧ (Layout.ofGaps d lines).plain := by
  have hno : ∀ {P : Filler → Prop}, ∀ f ∈ ([] : List Filler), P f := fun _ h => by cases h
  have hnc : ({} : Trail).ok := fun c hc => by cases hc
  refine ⟨⟨hno, hd, hnc, ?_, hno⟩, hno, ?_, hno⟩
  · intro q hq
    obtain ⟨p, hp, rfl⟩ := List.mem_map.1 hq
    exact ⟨hno, hnc, hl p hp⟩
  · intro q hq
    obtain ⟨p, hp, rfl⟩ := List.mem_map.1 hq
    exact hno

theorem render_canonical (legacy : Bool) (code : List Instr) (start : Nat) :
    (Layout.canon code).render legacy start = Spec.printLoad legacy code start := by
  rw [printLoad_eq, canon_eq, render_ofGaps]

theorem canon_ok (M : UInt64) (legacy : Bool) (code : List Instr)
    (hf : ∀ i ∈ code, i.a < M ∧ i.b < M) (hl : legacy = true → ∀ i ∈ code, Spec.Legal88 i = true) :
    (Layout.canon code).ok M legacy ∧ (Layout.canon code).plain := by
  rw [canon_eq]
  refine ofGaps_ok M legacy _ _ canonDir_ok ?_
  intro p hp
  obtain ⟨i, hi, rfl⟩ := List.mem_map.1 hp
  exact ⟨canonGaps_ok, (hf i hi).1, (hf i hi).2, fun h => hl h i hi⟩

/-- metadata lines or not: code and entry point are those read from the unperturbed text -/
theorem load_layout_agrees (cfg : Config) (L : Layout) (start : Nat)
    (hok : L.ok cfg.coreSize (cfg.mode == .icws88)) (hM : cfg.coreSize.toNat < 2 ^ 63)
    (hstart : start < L.lines.length) (hs : start < 2 ^ 31) :
    ∃ w w0, parseLoadFile cfg (L.render (cfg.mode == .icws88) start) = .ok (some w) ∧
      parseLoadFile cfg (Spec.printLoad (cfg.mode == .icws88) (L.lines.map (·.instr)) start) =
        .ok (some w0) ∧ w.code = w0.code ∧ w.start = w0.start := by
  have hc := canon_ok cfg.coreSize (cfg.mode == .icws88) (L.lines.map (·.instr))
    (fun i hi => by
      obtain ⟨p, hp, rfl⟩ := List.mem_map.1 hi
      exact ⟨(hok.lines p hp).2.2.a_lt, (hok.lines p hp).2.2.b_lt⟩)
    (fun h i hi => by
      obtain ⟨p, hp, rfl⟩ := List.mem_map.1 hi
      exact (hok.lines p hp).2.2.legal h)
  have h1 := load_print_any_layout_meta cfg L start hok hM hstart hs
  have h2 := load_print_any_layout cfg (Layout.canon (L.lines.map (·.instr))) start hc.1 hc.2 hM
    (by simpa [Layout.canon] using hstart) hs
  rw [render_canonical] at h2
  exact ⟨_, _, h1, h2, by simp [Layout.canon], rfl⟩

theorem head_of_blanks {ws T : Str} (h : Blanks ws) (hne : ws ≠ []) :
    ((ws ++ T).head? == some ';') = false :=
  head_append_ne_semi hne (allSpace_ne (blanks_allSpace h) (by decide))

theorem Filler.plain_blank (ws : Str) (h : Blanks ws) : (Filler.blank ws).plain := by
  cases ws with
  | nil => exact plain_of_head rfl
  | cons c r =>
    have := head_of_blanks (T := []) h (by simp)
    rw [List.append_nil] at this
    exact plain_of_head this

theorem Filler.plain_indented (ws text : Str) (h : Blanks ws) (hne : ws ≠ []) :
    (Filler.comment ws text).plain :=
  plain_of_head (head_of_blanks h hne)

example : (Filler.comment [] "redcode-94".toList).plain ∧ (Filler.comment [] "redcode".toList).plain ∧
    (Filler.comment [] " Name: x, y".toList).plain := by
  unfold Filler.plain PlainLine; decide +kernel

end Gmars.LoadLayout
