/-
  C01, the central refinement: one executed task of the model (`Sim.exec`) is one
  step of the ICWS'94 reference (`Spec.step`) on the abstracted core, and queues
  exactly the reference's successors.
-/
import Gmars.Proofs.RefineOps

namespace Gmars

section
variable {M R W : Nat} {s0 s : Sim} {wi : Nat} {P : UInt64} {c : Spec.Core} {ql : List Nat}

theorem St.opPhase (h : St M R W s0 wi P s c ql) (ir ira irb : Instr) (hira : ira.Bd M)
    (hirb : irb.Bd M) (pc rpa rpb wpb : UInt64) (hpc : pc.toNat < M) (hrpa : rpa.toNat < M)
    (hwpb : wpb.toNat < M) (r : Spec.StepResult)
    (er : Spec.opStep M ir.op ir.md ira.abs irb.abs c ((pc.toNat + wpb.toNat) % M)
      ((pc.toNat + rpa.toNat) % M) ((pc.toNat + 1) % M) ((pc.toNat + 2) % M) = r) :
    Ok (s.opPhase ir ira irb pc rpa rpb wpb wi)
      (fun s' => St M R W s0 wi P s' r.core (Spec.enqueue P.toNat ql r.succ)) := by
  subst er
  have hc := h.ctx
  have hw : ((pc + wpb) % s.m).toNat = (pc.toNat + wpb.toNat) % M := hc.idx hpc hwpb
  have hj : ((pc + rpa) % s.m).toNat = (pc.toNat + rpa.toNat) % M := hc.idx hpc hrpa
  have hn : ((pc + 1) % s.m).toNat = (pc.toNat + 1) % M := hc.succ hpc
  have hwt : (pc.toNat + wpb.toNat) % M < M := Nat.mod_lt _ hc.pos
  have ar := fun g gN hg => h.arith g gN hg ir ira irb hira hirb pc hpc hw hwt
  have dm := fun g gN hg => h.divmod g gN hg ir ira irb hira hirb pc hpc hw hwt
  -- with the opcode a constructor, `Sim.opPhase` and `Spec.opStep` compute
  obtain ⟨op, md, a, am, b, bm⟩ := ir
  cases op
  case dat => exact Ok.intro (h.terminate pc)
  case mov =>
    refine ((h.mov _ ira irb hira hirb pc hpc hw hwt).map
      (Q := fun s' => St M R W s0 wi P s' _ _) fun _ h1 => h1.report _).mono fun _ h' => ?_
    by_cases hi : md = .i <;> simpa only [Spec.opStep, hi, ↓reduceIte] using h'
  case add =>
    exact (ar s.addF (fun x y => (x + y) % M) fun _ _ hx hy =>
      ⟨hc.idx hx hy, Nat.mod_lt _ hc.pos⟩).map fun _ h1 => h1.report _
  case sub =>
    exact (ar s.subF (fun x y => (x + M - y) % M) fun _ _ hx hy =>
      ⟨u_sub_toNat hc.hm hc.dim.m32 hx hy, Nat.mod_lt _ hc.pos⟩).map fun _ h1 => h1.report _
  case mul =>
    exact (ar s.mulF (fun x y => (x * y) % M) fun _ _ hx hy =>
      ⟨u_mul_toNat hc.hm hc.dim.m32 hx hy, Nat.mod_lt _ hc.pos⟩).map fun _ h1 => h1.report _
  case div =>
    exact (dm (· / ·) (fun x y => x / y) fun x y hx _ _ =>
      ⟨UInt64.toNat_div x y, Nat.lt_of_le_of_lt (Nat.div_le_self _ _) hx⟩).map
        fun _ h1 => h1.report _
  case mod =>
    exact (dm (· % ·) (fun x y => x % y) fun x y hx _ _ =>
      ⟨UInt64.toNat_mod x y, Nat.lt_of_le_of_lt (Nat.mod_le _ _) hx⟩).map
        fun _ h1 => h1.report _
  case jmp =>
    rw [← hj]
    exact h.push _
  case jmz => exact h.jmz _ irb hj pc hpc
  case jmn => exact h.jmn _ irb hj pc hpc
  case djn =>
    exact (h.djn _ irb hirb hj pc hpc hw hwt).map fun _ h1 => h1.report _
  case cmp | seq =>
    exact (h.skipIf (cmpCond_spec _ ira irb) pc hpc).map fun _ h1 => (h1.report _).report _
  case slt =>
    exact (h.skipIf (sltCond_spec _ ira irb) pc hpc).map fun _ h1 => (h1.report _).report _
  case sne =>
    refine ((h.skipIf (sneCond_spec _ ira irb) pc hpc).map (f := (·.reads pc rpa rpb wi))
      (Q := fun s' => St M R W s0 wi P s' _ _) fun _ h1 => (h1.report _).report _).mono
      fun _ h' => ?_
    cases ht : Spec.eqTest md ira.abs irb.abs <;> simpa [Spec.opStep, ht] using h'
  case spl =>
    refine Ok.bind (h.push ((pc + 1) % s.m)) fun _ h1 => (h1.push ((pc + rpa) % s.m)).mono fun _ h2 => ?_
    rwa [hn, hj, Spec.enqueue_append] at h2
  case nop =>
    rw [← hn]
    exact h.push _
end

section
variable {s : Sim} {pc : UInt64} {wi : Nat} {q : PQ}

theorem ExecPre.dim (h : ExecPre s wi q) (hb : s.Bounds) :
    Dim s.m.toNat s.readLimit.toNat s.writeLimit.toNat :=
  ⟨h.m3, hb.m32, h.rl, hb.rl, h.wl, hb.wl⟩

theorem ExecPre.ctx (h : ExecPre s wi q) (hb : s.Bounds) :
    Ctx s.m.toNat s.readLimit.toNat s.writeLimit.toNat s :=
  ⟨h.dim hb, rfl, rfl, rfl, h.size, fun i hi =>
    ⟨UInt64.lt_iff_toNat_lt.mp (h.fields i hi).1, UInt64.lt_iff_toNat_lt.mp (h.fields i hi).2⟩⟩

theorem ExecPre.st (h : ExecPre s wi q) (hb : s.Bounds) :
    St s.m.toNat s.readLimit.toNat s.writeLimit.toNat s wi q.size s s.absCore
      (q.toList.map (·.toNat)) :=
  ⟨h.ctx hb, rfl, ⟨q, h.pq, h.qinv, rfl, rfl⟩, Frame.refl s wi⟩

theorem ExecPre.check (h : ExecPre s wi q) :
    (s.m == 0 || s.readLimit == 0 || s.writeLimit == 0) = false := by
  have h1 := h.m3
  have h2 := h.rl
  have h3 := h.wl
  simp only [u_eq_zero_iff, Bool.or_eq_false_iff, beq_eq_false_iff_ne, ne_eq]
  omega

theorem StepPre.bounds (h : StepPre s pc wi q) : s.Bounds := ⟨h.m32, h.rl, h.wl⟩

theorem StepPre.execPre (h : StepPre s pc wi q) : ExecPre s wi q :=
  ExecPre.of_wf h.wf h.pq

theorem StepPre.ctx (h : StepPre s pc wi q) :
    Ctx s.m.toNat s.readLimit.toNat s.writeLimit.toNat s :=
  h.execPre.ctx h.bounds

end

/-- The run of `exec` from `ExecPre` within the bounds, phase by phase: every intermediate value is the one the
    reference computes (`opA`, `opB` of `SpecLocal`), the result is the reference step. `exec_refines`
    keeps only the result; the intermediate values serve `exec_reports_spec` (Reports.lean), which
    has to say which report each phase appended.
    `M R W c n` abbreviate the reference's view of `s` and `pc`. -/
theorem ExecPre.walk {s : Sim} {pc : UInt64} {wi : Nat} {q : PQ} (h : ExecPre s wi q)
    (hb : s.Bounds) (hlt : pc < s.m) {M R W : Nat} {c : Spec.Core} {n : Nat} (eM : s.m.toNat = M)
    (eR : s.readLimit.toNat = R) (eW : s.writeLimit.toNat = W) (ec : s.absCore = c) (en : pc.toNat = n) :
    Ok (s.exec pc wi) fun s' =>
      St M R W s wi q.size s' (Spec.step M R W c n).core
        (Spec.enqueue q.size.toNat (q.toList.map (·.toNat)) (Spec.step M R W c n).succ) ∧
      ∃ ir s1 rpa wpa pipa ira s2 s3 rpb wpb pipb irb s4,
        ir.abs = c.at n ∧
        s.operand pc wi false ir.am ir.a 0 = .ok (s1, rpa, wpa, pipa) ∧
        (Spec.opA M R W c n).pip = pipOf ir.am pipa ∧
        ira.abs = (Spec.opA M R W c n).core.at ((n + (Spec.opA M R W c n).rp) % M) ∧
        s1.post wi ir.am pipa = .ok s2 ∧ Ctx M R W s2 ∧
        s2.operand pc wi true ir.bm ir.b pipa = .ok (s3, rpb, wpb, pipb) ∧
        wpb.toNat = (Spec.opB M R W c n).wp ∧ wpb.toNat < M ∧
        (Spec.opB M R W c n).pip = pipOf ir.bm pipb ∧
        s3.post wi ir.bm pipb = .ok s4 ∧ Ctx M R W s4 ∧
        s4.opPhase ir ira irb pc rpa rpb wpb wi = .ok s' := by
  subst eM eR eW ec en
  have hd := h.dim hb
  have hpc : pc.toNat < s.m.toNat := UInt64.lt_iff_toNat_lt.mp hlt
  have h0 := h.st hb
  have hM := h0.ctx.pos
  obtain ⟨ir, e1, hir, _⟩ := h0.rd pc hpc
  obtain ⟨⟨s1, rpa, wpa, pipa⟩, e2, h1, hrpa, -, hpipa, hpl⟩ :=
    h0.operand pc hpc false ir.am ir.a 0 hM
  have hrpa' : rpa.toNat < s.m.toNat := hrpa ▸ Spec.evalOperand_rp_lt hd.r1 hd.rM
  obtain ⟨ira, e3, hira, hiraB⟩ := h1.rdN (h1.ctx.idx hpc hrpa') (Nat.mod_lt _ hM)
  obtain ⟨s2, e4, h2⟩ := h1.post ir.am pipa hpl
  obtain ⟨⟨s3, rpb, wpb, pipb⟩, e5, h3, hrpb, hwpb, hpipb, hplb⟩ :=
    h2.operand pc hpc true ir.bm ir.b pipa hpl
  replace hwpb := hwpb rfl
  have hrpb' : rpb.toNat < s.m.toNat := hrpb ▸ Spec.evalOperand_rp_lt hd.r1 hd.rM
  have hwpb' : wpb.toNat < s.m.toNat := hwpb ▸ Spec.evalOperand_wp_lt hd.w1 hd.wM
  obtain ⟨irb, e6, hirb, hirbB⟩ := h3.rdN (h3.ctx.idx hpc hrpb') (Nat.mod_lt _ hM)
  obtain ⟨s4, e7, h4⟩ := h3.post ir.bm pipb hplb
  obtain ⟨s', e8, h5⟩ := h4.opPhase ir ira irb hiraB hirbB pc rpa rpb wpb hpc hrpa' hwpb' _ rfl
  have hexec : s.exec pc wi = .ok s' := by
    rw [exec_eq, h.check]
    simp only [e1, e2, e3, e4, e5, e6, e7, e8, except_bind_ok]
    rfl
  -- the reference's operands and step, in the model's terms
  rw [hira, hirb, hrpa, hrpb, hwpb, ← hpipb, ← hpipa] at h5
  rw [hrpa] at hira
  rw [← hpipa] at hwpb hpipb
  rw [Spec.step_eq]
  -- `opB` and `core1` mention `opA` again, hence the second `opA`
  unfold Spec.opA Spec.opB Spec.core1 Spec.opA
  rw [← hir]
  exact ⟨s', hexec, h5, ir, s1, rpa, wpa, pipa, ira, s2, s3, rpb, wpb, pipb, irb, s4, rfl, e2, hpipa,
    hira, e4, h2.ctx, e5, hwpb, hwpb', hpipb, e7, h4.ctx, e8⟩

/-- C01: one executed task of the model is one step of the ICWS'94 reference. -/
theorem exec_refines (s : Sim) (pc : UInt64) (wi : Nat) (q : PQ) (h : StepPre s pc wi q) :
    ∃ s' q', s.exec pc wi = .ok s' ∧
      s'.absCore = (Spec.step s.m.toNat s.readLimit.toNat s.writeLimit.toNat s.absCore pc.toNat).core ∧
      s'.pqOf wi = some q' ∧ q'.Inv ∧ q'.size = q.size ∧
      q'.toList.map (·.toNat) =
        Spec.enqueue q.size.toNat (q.toList.map (·.toNat))
          (Spec.step s.m.toNat s.readLimit.toNat s.writeLimit.toNat s.absCore pc.toNat).succ ∧
      Frame s s' wi ∧ s'.FieldsOK := by
  obtain ⟨s', hexec, h5, -⟩ := h.execPre.walk h.bounds h.pc rfl rfl rfl rfl rfl
  obtain ⟨q', hq', hinv', hsz', hl'⟩ := h5.pq
  refine ⟨s', q', hexec, h5.core, hq', hinv', hsz', hl', h5.frame, fun i hi => ?_⟩
  have := h5.ctx.fields i hi
  rw [← h5.ctx.hm] at this
  exact ⟨UInt64.lt_iff_toNat_lt.mpr this.1, UInt64.lt_iff_toNat_lt.mpr this.2⟩

/-- C11 on the model: with limits not larger than the core, one executed task alters only cells
    within ⌊W/2⌋ of the executing instruction -/
theorem model_write_locality (s : Sim) (pc : UInt64) (wi : Nat) (q : PQ) (h : StepPre s pc wi q)
    (s' : Sim) (he : s.exec pc wi = .ok s') :
    ∀ a (h1 : a < s.mem.size) (h2 : a < s'.mem.size), s'.mem[a] ≠ s.mem[a] →
      Spec.circDist s.m.toNat a pc.toNat ≤ s.writeLimit.toNat / 2 := by
  obtain ⟨s'', q', he', hcore, _⟩ := exec_refines s pc wi q h
  rw [he] at he'
  cases he'
  intro a h1 h2 hne
  have hW := h.wf.wl
  have hpc : pc.toNat < s.m.toNat := UInt64.lt_iff_toNat_lt.mp h.pc
  apply Spec.write_locality s.m.toNat s.readLimit.toNat s.writeLimit.toNat s.absCore pc.toNat
    (by omega) h.wl hpc a
  rw [← hcore, absCore_at _ _ h2, absCore_at _ _ h1]
  intro hab
  exact hne (Instr.abs_inj.mp hab)

/-- C11 on the model: every program counter queued by one executed task is PC+1, PC+2, or lies
    within ⌊R/2⌋ of the executing instruction -/
theorem model_read_locality (s : Sim) (pc : UInt64) (wi : Nat) (q : PQ) (h : StepPre s pc wi q)
    (s' : Sim) (he : s.exec pc wi = .ok s') :
    ∃ q', s'.pqOf wi = some q' ∧ ∀ x ∈ q'.toList, x ∈ q.toList ∨
      (x.toNat = (pc.toNat + 1) % s.m.toNat ∨ x.toNat = (pc.toNat + 2) % s.m.toNat ∨
        Spec.circDist s.m.toNat x.toNat pc.toNat ≤ s.readLimit.toNat / 2) := by
  obtain ⟨s'', q', he', _, hq', _, _, hlist, _⟩ := exec_refines s pc wi q h
  rw [he] at he'
  cases he'
  refine ⟨q', hq', ?_⟩
  intro x hx
  have hpc : pc.toNat < s.m.toNat := UInt64.lt_iff_toNat_lt.mp h.pc
  have hmem : x.toNat ∈ q'.toList.map (·.toNat) := List.mem_map.mpr ⟨x, hx, rfl⟩
  rw [hlist] at hmem
  rcases Spec.enqueue_mem _ _ _ _ hmem with hm | hm
  · left
    obtain ⟨y, hy, hxy⟩ := List.mem_map.mp hm
    have : y = x := UInt64.toNat_inj.mp hxy
    exact this ▸ hy
  · right
    have hR := h.wf.rl
    exact Spec.succ_near s.m.toNat s.readLimit.toNat s.writeLimit.toNat s.absCore pc.toNat
      (by omega) h.rl hpc _ hm

end Gmars
