/-
  C03 / C08: a worked example of `assemble_meaning_for_tokens` (every hypothesis is discharged on a
  concrete program); the counterexample that makes "no shadowing" necessary is described in the
  comment at the end, by evaluation, not proved.  A second example goes from bytes in an odd spacing
  through `assemble_meaning_for_utf8`.

      i for 2
      j for i
      dat i, j
      rof
      rof
      jmp 0
-/
import Gmars.Proofs.AsmComposeForBytes

namespace Gmars
namespace AsmComposeFor
open Gmars.AsmCompose Gmars.Render Gmars.AsmLine Gmars.ForPass

section Example

private def opnd (e : NT) : LOperand := { mode := none, expr := e }
private def dat (a b : NT) : FInstr := { op := "dat", md := none, a := opnd a, b := some (opnd b) }
private def jmp0 : FInstr := { op := "jmp", md := none, a := opnd (.num 0), b := none }

private def inner : FProg := .block "j" (.ctr "i") (.instr (dat (.name "i") (.name "j")) .nil) .nil
private def ex : FProg := .block "i" (.lit 2) inner (.instr jmp0 .nil)

private def exU : List FInstr :=
  [dat (.num 1) (.num 1), dat (.num 2) (.num 1), dat (.num 2) (.num 2), jmp0]

private theorem ex_ok : ex.OK := by decide +kernel

private theorem inner_unroll (i : Nat) (hi : i < 2 ^ 31) :
    FUnroll (inner.subst "i" i)
      ((List.range i).flatMap (fun l => [dat (.num i) (.num (l + 1))]) ++ [])
      (1 + ((List.range i).map (fun _ => 0)).sum + 0) := by
  have e : inner.subst "i" i =
      .block "j" (.lit i) (.instr (dat (.num i) (.name "j")) .nil) .nil := by
    simp [inner, FProg.subst, Cnt.subst, FInstr.subst, LOperand.subst, dat, opnd, substCtr]
  rw [e]
  refine FUnroll.block i _ _ hi ?_ FUnroll.nil
  intro l _
  have e2 : (FProg.instr (dat (.num i) (.name "j")) .nil).subst "j" (l + 1) =
      .instr (dat (.num i) (.num (l + 1))) .nil := by
    simp [FProg.subst, FInstr.subst, LOperand.subst, dat, opnd, substCtr]
  rw [e2]
  exact FUnroll.instr FUnroll.nil

private theorem ex_unroll : FUnroll ex exU 3 := by
  have h := FUnroll.block (c := "i") (body := inner) (r := .instr jmp0 .nil) (U := [jmp0]) (k := 0)
    2 (fun j => (List.range (j + 1)).flatMap (fun l => [dat (.num (j + 1)) (.num (l + 1))]) ++ [])
    (fun j => 1 + ((List.range (j + 1)).map (fun _ => 0)).sum + 0) (by decide)
    (fun j hj => inner_unroll (j + 1) (by
      have : (2 : Nat) < 2 ^ 31 := by decide
      omega))
    (FUnroll.instr FUnroll.nil)
  exact h.cast (by simp [exU, List.range_succ]) (by decide)

private theorem ascii_dat : Ascii "dat" := by unfold Ascii; decide

private theorem ascii_jmp : Ascii "jmp" := by unfold Ascii; decide

private theorem dat_wf (M : Nat) (k a b : Nat) (ha : a < 2 ^ 31) (hb : b < 2 ^ 31) :
    (dat (.num a) (.num b)).toL.WF M [] k := by
  refine And.intro ascii_dat (And.intro ?_ (And.intro (fun s h => by cases h)
    (And.intro (goodTmpl_num _ a (by omega)) ?_)))
  · show '.' ∉ "dat".toList
    decide
  intro bo h
  cases h
  exact goodTmpl_num _ b (by omega)

private theorem jmp0_wf (M : Nat) (k : Nat) : jmp0.toL.WF M [] k := by
  refine And.intro ascii_jmp (And.intro (by decide) (And.intro (fun s h => by cases h)
    (And.intro (goodTmpl_num _ 0 (by decide)) ?_)))
  intro bo h
  cases h

private theorem exU_wf (M : Nat) : ProgWF M [] 0 (exU.map FInstr.toL) :=
  ⟨dat_wf M 0 1 1 (by decide) (by decide), dat_wf M 1 2 1 (by decide) (by decide),
    dat_wf M 2 2 2 (by decide) (by decide), jmp0_wf M 3, trivial⟩

private theorem ex_closed : ex.Closed [] := by decide +kernel

example (cfg : Config) (sc : Spec.Cfg) (hv : cfg.validate = true)
    (h63 : cfg.coreSize.toNat < 2 ^ 63) (hr : CfgRel cfg sc) :
    assembleTokens cfg (flat ex.toProg.render ++ [ForPass.eofTok]) =
      match Spec.meaning sc ex.toItems with
      | some m => .ok (toWD {} m)
      | none => .err := by
  have h := assemble_meaning_for_tokens cfg sc ex exU 3 ex_unroll (by decide) ex_ok (by decide) hv
    h63 hr ex_closed (exU_wf sc.M)
  -- the `match` here and the one of the theorem are two auxiliary definitions: they are unified
  -- on a generalised meaning, so that the meaning of `ex` is not evaluated
  generalize Spec.meaning sc ex.toItems = r at h ⊢
  exact h

example : ex.toItems =
    [.for_ [] "i" [.num 2] [.for_ [] "j" [.name "i"]
        [.instr [] "dat" none ⟨none, [.name "i"]⟩ (some ⟨none, [.name "j"]⟩)]],
     .instr [] "jmp" none ⟨none, [.num 0]⟩ none] := rfl

example : flat ex.toProg.render =
    [⟨.text, "i"⟩, ⟨.text, "for"⟩, ⟨.number, "2"⟩, ⟨.newline, ""⟩,
     ⟨.text, "j"⟩, ⟨.text, "for"⟩, ⟨.text, "i"⟩, ⟨.newline, ""⟩,
     ⟨.text, "dat"⟩, ⟨.text, "i"⟩, ⟨.comma, ","⟩, ⟨.text, "j"⟩, ⟨.newline, ""⟩,
     ⟨.text, "rof"⟩, ⟨.newline, ""⟩, ⟨.text, "rof"⟩, ⟨.newline, ""⟩,
     ⟨.text, "jmp"⟩, ⟨.number, "0"⟩, ⟨.newline, ""⟩] := by decide

private def exText : String := "i for 2\n  j  for i\n\tdat i,j\n  rof\nrof\njmp 0\n"

private def exLines : List SrcLine :=
  [{ words := [(identWord "i", [' ']), (identWord "for", [' ']), (numWord 2, [])] },
   { lead := [' ', ' '], words := [(identWord "j", [' ', ' ']), (identWord "for", [' ']), (identWord "i", [])] },
   { lead := ['\t'], words := [(identWord "dat", [' ']), (identWord "i", []), (Word.sym ',', []), (identWord "j", [])] },
   { lead := [' ', ' '], words := [(identWord "rof", [])] },
   { words := [(identWord "rof", [])] },
   { words := [(identWord "jmp", [' ']), (numWord 0, [])] }]

private theorem exLines_text : String.ofList (renderLines exLines) = exText := rfl

private theorem ex_lexOK : ex.LexOK := by decide +kernel

private theorem exLines_same : SameLines exLines ex.srcLines := by decide +kernel

example (cfg : Config) (sc : Spec.Cfg) (hv : cfg.validate = true)
    (h63 : cfg.coreSize.toNat < 2 ^ 63) (hr : CfgRel cfg sc) :
    assemble cfg exText.toUTF8.data.toList =
      match Spec.meaning sc ex.toItems with
      | some m => .ok (toWD {} m)
      | none => .err := by
  have h := assemble_meaning_for_utf8 cfg sc ex exU 3 ex_unroll (by decide) ex_ok ex_lexOK
    (by decide) hv h63 hr ex_closed (exU_wf sc.M) exLines (by decide) exLines_same
  rw [exLines_text] at h
  generalize Spec.meaning sc ex.toItems = r at h ⊢
  exact h

end Example

/-
  Counterexample to the statement without "no shadowing" (`FProg.OK`); the two values are what
  `#eval` gives on the model and on the reference, no theorem states them (cfg: ICWS'94, core 8000,
  length 100):

      i for 2 / i for 2 / dat i / rof / rof

    assemble cfg src = .err           -- pass 1 turns the inner header into `1 for 2`
    Spec.meaning sc [.for_ [] "i" [.num 2] [.for_ [] "i" [.num 2] [.instr [] "dat" none ⟨none, [.name "i"]⟩ none]]]
      = some { code := [DAT #0,1; DAT #0,1; DAT #0,2; DAT #0,2], start := 0 }
-/

end AsmComposeFor
end Gmars
