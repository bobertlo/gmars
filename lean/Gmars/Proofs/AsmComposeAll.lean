/-
  C03 / C08: labels, EQUs and FOR blocks in ONE program, from BYTES.

      n equ 2
      start  mov bomb, <ptr
      i for n
             dat #i, #i+n
      rof
      bomb   dat #0
      ptr    dat #0, #start
             end start

  Restrictions (exactly):
    * no labels on FOR and ROF lines, and none inside the bodies;
    * bodies consist of instruction lines and nested blocks only (no EQU / ORG / comment / blank
      lines inside a block), their operand expressions are expression templates `NT`;
    * a count is ONE token: a number literal, an enclosing counter, or the name of an EQU line in
      front of the block whose value is a number literal below 2^31;
    * the counter of a block is not the counter of a block inside it (counterexample in
      AsmComposeFor.lean);
    * `for` and `rof` in lower case; END only as the last line; comments on lines of their own;
    * at most 12 block expansions (finding F12: `assemble_all_too_deep` — with 13 or more
      `CompileWarrior` answers "for loop depth exceeded" whatever the reference says).

  Evaluated on the models (cfg: ICWS'94, core 8000, length 100):
    * block labels referred to from outside (finding F13) — the statement is FALSE there:
          lab i for 2 / dat i / rof / jmp lab
      `assemble = .err`, `Spec.meaning = some [DAT 0,1; DAT 0,2; JMP -2]`; excluded (`for_ []`).
    * a label inside a body (`i for 2 / x dat i / rof`): both reject (the label is defined twice);
      an EQU used as a count but defined BEHIND the block (`i for n / dat i / rof / n equ 2`):
      both reject; a cyclic EQU table in front of a block with a literal count: both reject (the
      expander checks the whole table, the reference rejects cyclic tables, used or not).  These
      cases agree but are not covered by the theorem.
    * the colons behind labels: the expander drops them from the lines in front of the block it
      expands (`a: dat 0` comes out as `a dat 0`), and keeps them behind the last block; the
      unrolled program `U` of `AUnroll` records exactly that (`clearE`); the meaning is the same.
-/
import Gmars.Proofs.AsmComposeAllTok
import Gmars.Proofs.AsmComposeForBytes

namespace Gmars
namespace AsmComposeAll
open Gmars.AsmCompose Gmars.Render Gmars.AsmLine
open Gmars.AsmComposeFor Gmars.AsmComposeEqu

def AItem.srcLines : AItem → List SrcLine
  | .item it => it.srcLines
  | .block c n body => (FProg.block c n body .nil).srcLines

def aitemsSrcLines : List AItem → List SrcLine
  | [] => []
  | i :: r => i.srcLines ++ aitemsSrcLines r

/-- the canonical source lines: words separated by one blank -/
def AProg.srcLines (p : AProg) : List SrcLine :=
  List.replicate p.lead emptySrcLine ++ (aitemsSrcLines p.items ++ (p.unrolled []).finSrcLines)

structure AProg.LexOK (p : AProg) : Prop where
  items : ∀ it, AItem.item it ∈ p.items → it.LexOK
  blocks : ∀ c n body, AItem.block c n body ∈ p.items → (FProg.block c n body .nil).LexOK
  fin : ∀ kw e, p.fin = some (kw, e) → identOK kw = true ∧ ∀ x, e = some x → ELexOK x ∧ x ≠ []

def AItem.BlockOK : AItem → Prop
  | .block c n body => (FProg.block c n body .nil).OK ∧ (FProg.block c n body .nil).LexOK
  | .item _ => True

instance (i : AItem) : Decidable i.BlockOK := by
  cases i <;> simp only [AItem.BlockOK] <;> infer_instance

theorem blocksOK_of_all {items : List AItem} (h : ∀ i ∈ items, i.BlockOK) :
    BlocksOK items ∧
      ∀ c n body, AItem.block c n body ∈ items → (FProg.block c n body .nil).LexOK :=
  ⟨fun _ _ _ hm => (h _ hm).1, fun _ _ _ hm => (h _ hm).2⟩

theorem AItem.toks_eq (i : AItem) (hlex : ∀ it, i = .item it → it.LexOK)
    (hblex : ∀ c n body, i = .block c n body → (FProg.block c n body .nil).LexOK)
    (hbok : ∀ c n body, i = .block c n body → (FProg.block c n body .nil).OK) :
    linesToks i.srcLines = i.toT.toks := by
  cases i with
  | item it => exact (EItem.lexesTo (hlex it rfl)).2
  | block c n body =>
    simp only [AItem.srcLines, AItem.toT, TItem.toks]
    rw [FProg.linesToks_eq _ (hbok c n body rfl) (hblex c n body rfl), mkBlock_flat]
    rfl

theorem aitemsSrcLines_toks (items : List AItem) (hlex : ∀ it, AItem.item it ∈ items → it.LexOK)
    (hblex : ∀ c n body, AItem.block c n body ∈ items → (FProg.block c n body .nil).LexOK)
    (hbok : BlocksOK items) :
    linesToks (aitemsSrcLines items) = progToks (items.map AItem.toT) := by
  induction items with
  | nil => rfl
  | cons i r ih =>
    simp only [aitemsSrcLines, linesToks_append, List.map_cons, progToks_cons]
    rw [AItem.toks_eq i (fun it h => hlex it (by rw [h]; exact List.mem_cons_self ..))
        (fun c n b h => hblex c n b (by rw [h]; exact List.mem_cons_self ..))
        (fun c n b h => hbok c n b (by rw [h]; exact List.mem_cons_self ..)),
      ih (fun it h => hlex it (List.mem_cons_of_mem _ h))
        (fun c n b h => hblex c n b (List.mem_cons_of_mem _ h))
        (fun c n b h => hbok c n b (List.mem_cons_of_mem _ h))]

theorem AProg.linesToks_eq (p : AProg) (h : p.LexOK) (hbok : BlocksOK p.items) :
    linesToks p.srcLines ++ [Lex.eofTok] = p.tokens := by
  have hfin : linesToks (p.unrolled []).finSrcLines ++ [Lex.eofTok] =
      p.finTail ++ [ForPass.eofTok] := by
    have h0 : (p.unrolled []).LexOK := ⟨fun it hit => (by cases hit), h.fin⟩
    obtain ⟨_, h1, this⟩ := (p.unrolled []).lexesTo h0
    rw [← h1.2, unrolled_tokens] at this
    simp only [EProg.srcLines, AProg.unrolled, eitemsSrcLines, List.nil_append, linesToks_append,
      linesToks_replicate, List.map_nil, pitemsTokens, List.append_nil, List.append_assoc] at this
    exact List.append_cancel_left this
  simp only [AProg.srcLines, AProg.tokens, linesToks_append, linesToks_replicate,
    aitemsSrcLines_toks p.items h.items h.blocks hbok, List.append_assoc]
  rw [hfin]

theorem AProg.lex_tokens (p : AProg) (h : p.LexOK) (hbok : BlocksOK p.items) (ls : List SrcLine)
    (hls : ∀ l ∈ ls, l.ok (some '\n') = true) (hsame : SameLines ls p.srcLines) :
    Lex.tokens (renderLines ls) = p.tokens := by
  rw [lex_tokens_any_spacing ls hls hsame, p.linesToks_eq h hbok]

theorem lexOK_of_clearE {it : EItem} (h : (clearE it).LexOK) : it.LexOK := by
  cases it with
  | instr ls op md a b k =>
    obtain ⟨h1, h2, h3, h4⟩ := h
    refine ⟨?_, h2, h3, h4⟩
    intro q hq
    exact h1 (q.1, false) (by
      simp only [clearLabels, List.mem_map]
      exact ⟨q, hq, rfl⟩)
  | equ n kw e k => exact h
  | org kw e k => exact h
  | assert cs e k => exact h
  | comment cs k => exact h

theorem AProg.lexOK_of_unrolled (p : AProg) {U : List EItem} {k : Nat} (hu : AUnroll [] p.items U k)
    (hlex : (p.unrolled U).LexOK)
    (hblex : ∀ c n body, AItem.block c n body ∈ p.items → (FProg.block c n body .nil).LexOK) :
    p.LexOK where
  items := by
    intro it hit
    rcases hu.mem_item it hit with h | h
    · exact hlex.items it h
    · exact lexOK_of_clearE (hlex.items _ h)
  blocks := hblex
  fin := hlex.fin

/-- C03 ∘ C08, from bytes: labels, EQUs and FOR blocks in one program.

    `p : AProg` is a program whose top level consists of the items of an `EProg` — labelled
    instructions (labels with or without colon), EQU lines `name equ tokens` anywhere, ORG lines,
    `;assert` and comment lines, blank lines — and of FOR blocks `ctr for count` … `rof`,
    optionally followed by a last line END.  The body of a block is an `FProg`: label-free
    instructions and nested blocks (sequential, nested to any depth) whose operand expressions may
    use the counters of the enclosing blocks, top level labels, EQU names and predefined constants.
    A count is a number literal, the counter of an enclosing block, or the name of an EQU line that
    stands IN FRONT of the block and whose value is a number literal (`cntValue`).

    `U` is the manual unrolling of the top level (`AUnroll [] p.items U k`: every block replaced by
    the copies of its body with the counter replaced by the NUMBER 1, 2, …, copies unrolled in
    turn), `k ≤ 12` its number of block expansions.  `ls` is ANY list of source lines carrying the
    words of the program line by line (`SameLines ls p.srcLines`) with arbitrary leading blanks and
    separators of blanks and tabs (`SrcLine.ok`); `src` is any byte string the Go reader decodes to
    that text.

    Then `CompileWarrior` — reader, lexer, FOR pass loop, parser, compiler — returns the warrior of
    the reference meaning `Spec.meaning` of the item program (`p.toItems`, FOR blocks as
    `Spec.Item.for_` nodes, unrolled by the reference itself; labels get their positions after the
    unrolling), with the metadata of the comment lines, or an error exactly when the reference
    rejects the program.

    Hypotheses: `BlocksOK` / `hblex` (counters are label words and identifiers, no shadowing,
    body instructions lexically well-formed with an opcode word first), the fuel of `Spec.unroll`,
    and the hypotheses of `assemble_meaning_equ` on the UNROLLED program `p.unrolled U`. -/
theorem assemble_meaning_all (cfg : Config) (sc : Spec.Cfg) (p : AProg) (U : List EItem) (k : Nat)
    (d : String → Nat)
    (hu : AUnroll [] p.items U k) (hk : k ≤ 12) (hblocks : BlocksOK p.items)
    (hblex : ∀ c n body, AItem.block c n body ∈ p.items → (FProg.block c n body .nil).LexOK)
    (hfuel : U.length + k + 2 < 100000)
    (hv : cfg.validate = true) (h63 : cfg.coreSize.toNat < 2 ^ 63) (hr : CfgRel cfg sc)
    (hlex : (p.unrolled U).LexOK) (hnames : (p.unrolled U).NamesOK)
    (hplain : ∀ cs j, EItem.comment cs j ∈ (p.unrolled U).items → plainComment cs)
    (hnd : ((p.unrolled U).labels ++ (p.unrolled U).equNames ++ constNames).Nodup)
    (hcl : ∀ x ∈ (p.unrolled U).names,
      x ∈ (p.unrolled U).labels ∨ x ∈ (p.unrolled U).equNames ∨ x ∈ constNames)
    (hsmall : xinstrCount (p.unrolled U).xitems < 2 ^ 63)
    (hrk : ERanked (xequs (p.unrolled U).xitems ++ Spec.predefined sc) d) (hlt : ∀ s, d s < 63)
    (hw : XProgWF lexString sc (xtables sc (p.unrolled U).xitems) 0 (p.unrolled U).xitems)
    (ls : List SrcLine) (hls : ∀ l ∈ ls, l.ok (some '\n') = true) (hsame : SameLines ls p.srcLines)
    (src : List UInt8) (hsrc : decodeRunes src = renderLines ls) :
    assemble cfg src =
      match Spec.meaning sc p.toItems with
      | some m => .ok (toWD (p.unrolled U).meta m)
      | none => .err := by
  have hP : (p.unrolled U).toP.OK := (p.unrolled U).toP_OK hlex hnames hw.kw hnd hcl
  have htok : lexBytes src = p.tokens := by
    unfold lexBytes
    rw [hsrc, p.lex_tokens (p.lexOK_of_unrolled hu hlex hblex) hblocks ls hls hsame]
  have hndE : (p.unrolled U).equNames.Nodup :=
    (List.nodup_append.1 (List.nodup_append.1 hnd).1).2.1
  rw [assemble_eq_tokens, htok,
    assembleTokens_of_forLoop cfg _ _
      ((forLoop_all p U k hu hblocks hP sc d hndE hrk).trans (if_pos hk)),
    parseCompile_equ cfg sc (p.unrolled U) d hv h63 hr
      ⟨hlex, hnames, hplain, hnd, hcl, hsmall, hrk, hlt, hw⟩,
    (unr_all p hu).meaning sc (unrolled_fuel p hfuel)]
  -- the two `match`es are different auxiliary functions: compare them arm by arm
  cases Spec.meaningFlat sc ((p.unrolled U).xitems.map XItem.toItem) <;> rfl

/-- with 13 or more block expansions `CompileWarrior` gives up, whatever the reference says
    (finding F12) -/
theorem assemble_all_too_deep (cfg : Config) (sc : Spec.Cfg) (p : AProg) (U : List EItem) (k : Nat)
    (d : String → Nat)
    (hu : AUnroll [] p.items U k) (hk : 13 ≤ k) (hblocks : BlocksOK p.items)
    (hblex : ∀ c n body, AItem.block c n body ∈ p.items → (FProg.block c n body .nil).LexOK)
    (hlex : (p.unrolled U).LexOK) (hP : (p.unrolled U).toP.OK)
    (hnd : (p.unrolled U).equNames.Nodup)
    (hrk : ERanked (xequs (p.unrolled U).xitems ++ Spec.predefined sc) d)
    (ls : List SrcLine) (hls : ∀ l ∈ ls, l.ok (some '\n') = true) (hsame : SameLines ls p.srcLines)
    (src : List UInt8) (hsrc : decodeRunes src = renderLines ls) :
    assemble cfg src = .err := by
  have htok : lexBytes src = p.tokens := by
    unfold lexBytes
    rw [hsrc, p.lex_tokens (p.lexOK_of_unrolled hu hlex hblex) hblocks ls hls hsame]
  rw [assemble_eq_tokens, htok]
  unfold assembleTokens
  rw [forLoop_all p U k hu hblocks hP sc d hnd hrk, if_neg (by omega)]

/-- `assemble_meaning_all` for the UTF-8 encoding of the text: comment lines may contain any
    characters -/
theorem assemble_meaning_all_utf8 (cfg : Config) (sc : Spec.Cfg) (p : AProg) (U : List EItem)
    (k : Nat) (d : String → Nat)
    (hu : AUnroll [] p.items U k) (hk : k ≤ 12) (hblocks : BlocksOK p.items)
    (hblex : ∀ c n body, AItem.block c n body ∈ p.items → (FProg.block c n body .nil).LexOK)
    (hfuel : U.length + k + 2 < 100000)
    (hv : cfg.validate = true) (h63 : cfg.coreSize.toNat < 2 ^ 63) (hr : CfgRel cfg sc)
    (hlex : (p.unrolled U).LexOK) (hnames : (p.unrolled U).NamesOK)
    (hplain : ∀ cs j, EItem.comment cs j ∈ (p.unrolled U).items → plainComment cs)
    (hnd : ((p.unrolled U).labels ++ (p.unrolled U).equNames ++ constNames).Nodup)
    (hcl : ∀ x ∈ (p.unrolled U).names,
      x ∈ (p.unrolled U).labels ∨ x ∈ (p.unrolled U).equNames ∨ x ∈ constNames)
    (hsmall : xinstrCount (p.unrolled U).xitems < 2 ^ 63)
    (hrk : ERanked (xequs (p.unrolled U).xitems ++ Spec.predefined sc) d) (hlt : ∀ s, d s < 63)
    (hw : XProgWF lexString sc (xtables sc (p.unrolled U).xitems) 0 (p.unrolled U).xitems)
    (ls : List SrcLine) (hls : ∀ l ∈ ls, l.ok (some '\n') = true) (hsame : SameLines ls p.srcLines) :
    assemble cfg (String.ofList (renderLines ls)).toUTF8.data.toList =
      match Spec.meaning sc p.toItems with
      | some m => .ok (toWD (p.unrolled U).meta m)
      | none => .err :=
  assemble_meaning_all cfg sc p U k d hu hk hblocks hblex hfuel hv h63 hr hlex hnames hplain hnd hcl
    hsmall hrk hlt hw ls hls hsame _ (decodeRunes_toUTF8 _)

end AsmComposeAll
end Gmars
