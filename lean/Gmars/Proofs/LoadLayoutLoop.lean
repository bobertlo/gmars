/-
  C09, loader half, layout perturbations: a text as a list of line contents
  (`joinLines`, with or without the final newline), the raw lines `readLines` delivers
  for it (`rawLines`), and `loadLoop` over lines with known effects.
-/
import Gmars.Proofs.LoadLayoutBase

namespace Gmars.LoadLayout
open Gmars.GoStr

def joinLines : List Str → Bool → Str
  | [], _ => []
  | [c], false => c
  | c :: r, nl => c ++ '\n' :: joinLines r nl

/-- an empty last line without LF is not delivered (`readLines`, as `ReadString('\n')`); `α`: a
    tag carried by each line -/
def rawLines {α : Type} : List (Str × α) → Bool → List (Str × α)
  | [], _ => []
  | [p], false => if p.1.isEmpty then [] else [p]
  | p :: r, nl => (p.1 ++ ['\n'], p.2) :: rawLines r nl

theorem joinLines_true (cs : List Str) : joinLines cs true = (cs.map (· ++ ['\n'])).flatten := by
  induction cs with
  | nil => rfl
  | cons c r ih =>
    cases r with
    | nil => simp [joinLines]
    | cons d r => simp only [joinLines] at ih ⊢; simp [ih]

theorem joinLines_cons_cons (c d : Str) (r : List Str) (nl : Bool) :
    joinLines (c :: d :: r) nl = c ++ '\n' :: joinLines (d :: r) nl := by
  cases nl <;> rfl

theorem rawLines_cons_ne {α : Type} {p : Str × α} {r : List (Str × α)} {nl : Bool} (h : r ≠ []) :
    rawLines (p :: r) nl = (p.1 ++ ['\n'], p.2) :: rawLines r nl := by
  cases r with
  | nil => exact absurd rfl h
  | cons q r => cases nl <;> rfl

theorem rawLines_true {α : Type} (items : List (Str × α)) :
    rawLines items true = items.map (fun p => (p.1 ++ ['\n'], p.2)) := by
  induction items with
  | nil => rfl
  | cons p r ih =>
    rw [List.map_cons, ← ih, rawLines]
    exact fun h => nomatch h

theorem readLines_joinLines {α : Type} (items : List (Str × α)) (nl : Bool)
    (h : ∀ p ∈ items, ∀ c ∈ p.1, c ≠ '\n') :
    readLines (joinLines (items.map (·.1)) nl) = (rawLines items nl).map (·.1) := by
  induction items with
  | nil => rfl
  | cons p r ih =>
    cases r with
    | nil =>
      cases nl
      · simp only [List.map_cons, List.map_nil, joinLines, rawLines]
        rw [readLines_nonl _ (h p (by simp))]
        split <;> rfl
      · simp only [List.map_cons, List.map_nil, joinLines, rawLines]
        rw [readLines_cons_line _ _ (h p (by simp))]
        rfl
    | cons q r =>
      rw [List.map_cons, List.map_cons, joinLines_cons_cons,
        rawLines_cons_ne (List.cons_ne_nil q r), readLines_cons_line _ _ (h p (by simp))]
      rw [List.map_cons] at ih
      rw [ih (fun x hx => h x (by simp [hx]))]
      rfl

theorem mem_rawLines {α : Type} {items : List (Str × α)} {nl : Bool} {p : Str × α}
    (hp : p ∈ rawLines items nl) :
    ∃ q ∈ items, p.2 = q.2 ∧ ∃ e, (e = [] ∨ e = ['\n']) ∧ p.1 = q.1 ++ e := by
  fun_induction rawLines items nl with
  | case1 => cases hp
  | case2 => cases hp
  | case3 q _ =>
    rw [List.mem_singleton] at hp
    exact ⟨q, by simp, by rw [hp], [], .inl rfl, by simp [hp]⟩
  | case4 q r nl _ ih =>
    rcases List.mem_cons.1 hp with rfl | hp
    · exact ⟨q, by simp, rfl, ['\n'], .inr rfl, rfl⟩
    · obtain ⟨x, hx, h⟩ := ih hp
      exact ⟨x, List.mem_cons_of_mem _ hx, h⟩

theorem filterMap_rawLines {α β : Type} (g : α → Option β) (items : List (Str × α)) (nl : Bool)
    (h : ∀ p ∈ items, p.1 = [] → g p.2 = none) :
    (rawLines items nl).filterMap (fun p => g p.2) = items.filterMap (fun p => g p.2) := by
  fun_induction rawLines items nl with
  | case1 => rfl
  | case2 q he => simp [h q (by simp) (List.isEmpty_iff.1 he)]
  | case3 => rfl
  | case4 q r nl _ ih =>
    rw [List.filterMap_cons, List.filterMap_cons, ih (fun x hx => h x (List.mem_cons_of_mem _ hx))]

theorem rawLines_append_cons {α : Type} (A : List (Str × α)) (p : Str × α) (P : List (Str × α))
    (nl : Bool) (hp : p.1 ≠ []) :
    ∃ e rest, (e = [] ∨ e = ['\n']) ∧
      rawLines (A ++ p :: P) nl = A.map (fun q => (q.1 ++ ['\n'], q.2)) ++ (p.1 ++ e, p.2) :: rest := by
  induction A with
  | nil =>
    cases P with
    | nil =>
      cases nl
      · exact ⟨[], [], .inl rfl, by simp [rawLines, hp]⟩
      · exact ⟨['\n'], [], .inr rfl, rfl⟩
    | cons q P =>
      exact ⟨['\n'], rawLines (q :: P) nl, .inr rfl, rawLines_cons_ne (List.cons_ne_nil q P)⟩
  | cons a A ih =>
    obtain ⟨e, rest, he, h⟩ := ih
    refine ⟨e, rest, he, ?_⟩
    rw [List.cons_append, rawLines_cons_ne (by simp), h]
    rfl

inductive Eff
  | filler
  | push (i : Instr)
  | setStart (n : Nat)

def Eff.apply : Eff → Str → LoadState → LoadState
  | .filler, raw, st => stepMeta st raw
  | .push i, raw, st => stepMeta { st with code := st.code.push i } raw
  | .setStart n, raw, st => stepMeta { st with start := (n : Int) } raw

def Eff.instr? : Eff → Option Instr
  | .push i => some i
  | _ => none

def Eff.start? : Eff → Option Nat
  | .setStart n => some n
  | _ => none

def LineSpec (f : LoadState → Str → Except Panic LineOutcome) (c : Str) (k : Eff) : Prop :=
  ∀ e, (e = [] ∨ e = ['\n']) → ∀ st, f st (c ++ e) = .ok (.cont (k.apply (c ++ e) st))

def run (pairs : List (Str × Eff)) (st : LoadState) : LoadState :=
  pairs.foldl (fun s p => p.2.apply p.1 s) st

theorem loadLoop_run (f : LoadState → Str → Except Panic LineOutcome) (pairs : List (Str × Eff))
    (rest : List Str) (st : LoadState)
    (h : ∀ p ∈ pairs, ∀ st, f st p.1 = .ok (.cont (p.2.apply p.1 st))) :
    loadLoop f st (pairs.map (·.1) ++ rest) = loadLoop f (run pairs st) rest := by
  induction pairs generalizing st with
  | nil => rfl
  | cons p r ih =>
    simp only [List.map_cons, List.cons_append]
    rw [loadLoop_cont (h p (by simp) st), ih _ (fun q hq => h q (by simp [hq]))]
    rfl

theorem rawLines_spec {f : LoadState → Str → Except Panic LineOutcome} {items : List (Str × Eff)}
    {nl : Bool} (h : ∀ p ∈ items, LineSpec f p.1 p.2) :
    ∀ p ∈ rawLines items nl, ∀ st, f st p.1 = .ok (.cont (p.2.apply p.1 st)) := by
  intro p hp st
  obtain ⟨q, hq, h2, e, he, h1⟩ := mem_rawLines hp
  rw [h1, h2]
  exact h q hq e he st

theorem apply_facts (k : Eff) (raw : Str) (st : LoadState) :
    metaOf (k.apply raw st) = (metaOf st).step raw ∧
      (k.apply raw st).code = (match k.instr? with | some i => st.code.push i | none => st.code) ∧
      (k.apply raw st).start = (match k.start? with | some n => (n : Int) | none => st.start) := by
  cases k <;> exact metaOf_stepMeta _ raw

theorem run_facts (pairs : List (Str × Eff)) (st : LoadState) :
    metaOf (run pairs st) = (pairs.map (·.1)).foldl Meta.step (metaOf st) ∧
      (run pairs st).code = st.code ++ (pairs.filterMap (fun p => p.2.instr?)).toArray ∧
      (run pairs st).start =
        (pairs.filterMap (fun p => p.2.start?)).foldl (fun (_ : Int) (n : Nat) => (n : Int)) st.start := by
  induction pairs generalizing st with
  | nil => simp [run]
  | cons p r ih =>
    obtain ⟨h1, h2, h3⟩ := apply_facts p.2 p.1 st
    obtain ⟨i1, i2, i3⟩ := ih (p.2.apply p.1 st)
    simp only [run, List.foldl_cons, List.map_cons] at i1 i2 i3 ⊢
    refine ⟨by rw [i1, h1], ?_, ?_⟩
    · rw [i2, h2]; cases h : p.2.instr? <;> simp [h]
    · rw [i3, h3]; cases h : p.2.start? <;> simp [h]

/-- `ne`: `rawLines` drops an empty last line, so an empty line must have no effect -/
structure ItemOK (f : LoadState → Str → Except Panic LineOutcome) (q : Str × Eff) : Prop where
  spec : LineSpec f q.1 q.2
  nl : ∀ c ∈ q.1, c ≠ '\n'
  ne : q.1 = [] → q.2 = Eff.filler

variable {f : LoadState → Str → Except Panic LineOutcome} {A : List (Str × Eff)}

theorem loadLoop_items (hA : ∀ q ∈ A, ItemOK f q) (nl : Bool) (st : LoadState) :
    loadLoop f st (readLines (joinLines (A.map (·.1)) nl)) = .ok (some (run (rawLines A nl) st)) := by
  have := loadLoop_run f (rawLines A nl) [] st (rawLines_spec fun q hq => (hA q hq).spec)
  rw [readLines_joinLines _ _ fun q hq => (hA q hq).nl]
  rwa [List.append_nil] at this

/-- `rawLines A true`: `p` follows, so every line of `A` is read with its LF -/
theorem loadLoop_items_then (hA : ∀ q ∈ A, ItemOK f q) (p : Str × Eff) (P : List (Str × Eff))
    (hnl : ∀ q ∈ p :: P, ∀ c ∈ q.1, c ≠ '\n') (hp : p.1 ≠ []) (nl : Bool) (st : LoadState) :
    ∃ e rest, (e = [] ∨ e = ['\n']) ∧
      loadLoop f st (readLines (joinLines ((A ++ p :: P).map (·.1)) nl)) =
        loadLoop f (run (rawLines A true) st) ((p.1 ++ e) :: rest) := by
  obtain ⟨e, rest, he, hraw⟩ := rawLines_append_cons A p P nl hp
  refine ⟨e, rest.map (·.1), he, ?_⟩
  rw [readLines_joinLines _ _ (List.forall_mem_append.2 ⟨fun q hq => (hA q hq).nl, hnl⟩), hraw,
    ← rawLines_true, List.map_append, List.map_cons]
  exact loadLoop_run f (rawLines A true) _ st (rawLines_spec fun q hq => (hA q hq).spec)

theorem run_rawLines (hA : ∀ q ∈ A, ItemOK f q) (nl : Bool) (st : LoadState) :
    metaOf (run (rawLines A nl) st) = ((rawLines A nl).map (·.1)).foldl Meta.step (metaOf st) ∧
      (run (rawLines A nl) st).code = st.code ++ (A.filterMap (fun p => p.2.instr?)).toArray ∧
      (run (rawLines A nl) st).start =
        (A.filterMap (fun p => p.2.start?)).foldl (fun (_ : Int) (n : Nat) => (n : Int)) st.start := by
  obtain ⟨h1, h2, h3⟩ := run_facts (rawLines A nl) st
  rw [filterMap_rawLines Eff.instr? _ _ fun q hq h => by rw [(hA q hq).ne h]; rfl] at h2
  rw [filterMap_rawLines Eff.start? _ _ fun q hq h => by rw [(hA q hq).ne h]; rfl] at h3
  exact ⟨h1, h2, h3⟩

end Gmars.LoadLayout
