/-
  C03 / C08, labels + EQUs + FOR blocks in ONE program: the structured programs (`AProg`: the items
  of an `AsmComposeEqu.EProg` and FOR blocks whose bodies are `AsmComposeFor.FProg`s, an optional
  last line END), their manual unrolling `AUnroll`, and the reference's: `Spec.unroll` of the items
  is the item list of the unrolled program, so `Spec.meaning` is `Spec.meaningFlat` of it — the
  labels get their positions AFTER the unrolling.
-/
import Gmars.Proofs.AsmComposeFor
import Gmars.Proofs.AsmComposeAllChunk

namespace Gmars
namespace AsmComposeAll
open Gmars.AsmLine Gmars.Spec
open Gmars.AsmComposeFor Gmars.AsmComposeEqu

def lopX (o : LOperand) : XOperand := { mode := o.mode, expr := o.expr.etoks }

def toE (x : FInstr) : EItem := .instr [] x.op x.md (lopX x.a) (x.b.map lopX) 0

inductive AItem
  | item (it : EItem)
  | block (ctr : String) (cnt : Cnt) (body : FProg)

def AItem.isBlock : AItem → Bool
  | .item _ => false
  | .block .. => true

def ahasBlock (l : List AItem) : Bool := l.any AItem.isBlock

/-- `lead` empty lines, the items, optionally a last line `END [e]` and `trail` empty lines -/
structure AProg where
  lead : Nat := 0
  items : List AItem
  fin : Option (String × Option (List Spec.ETok)) := none
  trail : Nat := 0

def equsOfE : EItem → ETab
  | .equ n _ e _ => [(n, e)]
  | _ => []

/-- the item without the colons behind its labels (what the FOR expander makes of a line in front
    of the block it expands) -/
def clearE : EItem → EItem
  | .instr ls op md a b k => .instr (clearLabels ls) op md a b k
  | it => it

theorem clearE_toX (it : EItem) : (clearE it).toX = it.toX := by
  cases it <;> simp [clearE, EItem.toX, clearLabels, List.map_map, Function.comp_def]

theorem toX_ite_clearE (b : Bool) (it : EItem) : (if b then clearE it else it).toX = it.toX := by
  cases b
  · rfl
  · exact clearE_toX it

/-- `AUnroll eqs items U k`: the manual unrolling of the top level `items` is the item list `U` of
    an `EProg`, with `k` block expansions.  Every block is replaced by the copies of its body with
    the counter replaced by 1 … m (unrolled in turn); everything else stays, except that an
    instruction in front of a block loses the colons behind its labels (that is what the FOR
    expander does to it; the meaning does not depend on it). -/
inductive AUnroll : ETab → List AItem → List EItem → Nat → Prop
  | nil (eqs : ETab) : AUnroll eqs [] [] 0
  | item {eqs : ETab} {it : EItem} {r : List AItem} {U : List EItem} {k : Nat} :
      AUnroll (eqs ++ equsOfE it) r U k →
      AUnroll eqs (.item it :: r) ((if ahasBlock r then clearE it else it) :: U) k
  | block {eqs : ETab} {c : String} {cnt : Cnt} {body : FProg} {r : List AItem} {U : List EItem}
      {k : Nat} (m : Nat) (L : Nat → List FInstr) (K : Nat → Nat) :
      cntValue eqs cnt = some m → m < 2 ^ 31 →
      (∀ j, j < m → BUnroll eqs (body.subst c (j + 1)) (L j) (K j)) →
      AUnroll eqs r U k →
      AUnroll eqs (.block c cnt body :: r)
        (((List.range m).flatMap L).map toE ++ U) (1 + ((List.range m).map K).sum + k)

def AProg.unrolled (p : AProg) (U : List EItem) : EProg :=
  { lead := p.lead, items := U, fin := p.fin, trail := p.trail }

def AItem.toItems : AItem → List Spec.Item
  | .item it => (it.toX.map AsmLine.XItem.toItem).toList
  | .block c n body => [.for_ [] c n.etoks body.toItems]

def aitemsToItems (l : List AItem) : List Spec.Item := l.flatMap AItem.toItems

def finItems (fin : Option (String × Option (List Spec.ETok))) : List Spec.Item :=
  match fin with
  | some (_, e) => [.end_ e]
  | none => []

def AProg.toItems (p : AProg) : List Spec.Item := aitemsToItems p.items ++ finItems p.fin

theorem unrolled_xitems (p : AProg) (U : List EItem) :
    (p.unrolled U).xitems.map AsmLine.XItem.toItem =
      (U.filterMap EItem.toX).map AsmLine.XItem.toItem ++ finItems p.fin := by
  unfold EProg.xitems EProg.finX AProg.unrolled finItems
  cases p.fin with
  | none => simp
  | some q => simp [AsmLine.XItem.toItem]

theorem toE_toX_item (x : FInstr) : ((toE x).toX.map AsmLine.XItem.toItem) = some x.toItem := by
  obtain ⟨op, md, a, b⟩ := x
  cases b <;> rfl

theorem filterMap_toE (U : List FInstr) :
    ((U.map toE).filterMap EItem.toX).map AsmLine.XItem.toItem = U.map FInstr.toItem := by
  rw [List.map_filterMap, List.filterMap_map]
  simp only [Function.comp_def, toE_toX_item]
  exact congrFun (List.filterMap_eq_map (f := FInstr.toItem)) U

theorem isFor_toItem (x : AsmLine.XItem) : isFor x.toItem = false := by
  cases x <;> rfl

theorem equsOf_toItem (it : EItem) :
    equsOf ((it.toX.map AsmLine.XItem.toItem).toList) = equsOfE it := by
  cases it <;> rfl

theorem unr_of_AUnroll {eqs : ETab} {items : List AItem} {U : List EItem} {k : Nat}
    (h : AUnroll eqs items U k) :
    Unr eqs (aitemsToItems items) ((U.filterMap EItem.toX).map AsmLine.XItem.toItem) k := by
  induction h with
  | nil eqs => exact .nil eqs
  | @item eqs it r U k _ ih =>
    rw [← equsOf_toItem] at ih
    show Unr eqs ((it.toX.map AsmLine.XItem.toItem).toList ++ aitemsToItems r) _ k
    rw [List.filterMap_cons, toX_ite_clearE]
    cases hq : it.toX with
    | none => simpa [hq, equsOf] using ih
    | some q =>
      rw [hq] at ih
      exact .other (isFor_toItem q) ih
  | @block eqs c cnt body r U k m L K hcnt hm hcopies _ ih =>
    have hB := unr_of_BUnroll (BUnroll.block m L K hcnt hm hcopies BUnroll.nil)
    rw [List.append_nil] at hB
    have := hB.append (by rw [equsOf_instrs, List.append_nil]; exact ih)
    show Unr eqs (.for_ [] c cnt.etoks body.toItems :: aitemsToItems r) _ _
    simpa only [FProg.toItems, List.filterMap_append, List.map_append, filterMap_toE, Nat.add_zero,
      List.cons_append, List.nil_append] using this

theorem unr_all (p : AProg) {U : List EItem} {k : Nat} (h : AUnroll [] p.items U k) :
    Unr [] p.toItems ((p.unrolled U).xitems.map AsmLine.XItem.toItem) k := by
  have hfin : ∀ eqs, Unr eqs (finItems p.fin) (finItems p.fin) 0 := by
    intro eqs
    unfold finItems
    cases p.fin with
    | none => exact .nil _
    | some q => exact .other rfl (.nil _)
  rw [unrolled_xitems]
  exact (unr_of_AUnroll h).append (hfin _)

theorem unrolled_fuel (p : AProg) {U : List EItem} {k : Nat} (hf : U.length + k + 2 < 100000) :
    ((p.unrolled U).xitems.map AsmLine.XItem.toItem).length + k < 100000 := by
  have h1 := List.length_filterMap_le EItem.toX U
  have h2 : (finItems p.fin).length ≤ 1 := by unfold finItems; cases p.fin <;> simp
  rw [unrolled_xitems, List.length_append, List.length_map]
  omega

theorem spec_expansions_all (p : AProg) {U : List EItem} {k : Nat} (h : AUnroll [] p.items U k)
    (hf : U.length + k + 2 < 100000) : Spec.expansions p.toItems = k :=
  (unr_all p h).expansions (unrolled_fuel p hf)

end AsmComposeAll
end Gmars
