/-
  The Go scanner model `GoEval.scan` on the concatenated values of a token list whose neighbours
  cannot fuse yields one scanner token per gmars token.
-/
import Gmars.Proofs.ExprNorm

namespace Gmars.ExprProofs
open Gmars.GoEval

theorem foldl_append_toList (l : List String) (acc : String) :
    (l.foldl (fun r s => r ++ s) acc).toList = acc.toList ++ l.flatMap String.toList := by
  induction l generalizing acc with
  | nil => simp
  | cons s l ih => simp [List.foldl_cons, ih, String.toList_append, List.append_assoc]

/-- the characters `go/types.Eval` receives -/
def tokChars (l : List Token) : List Char := l.flatMap (fun t => t.val.toList)

theorem join_toList (l : List Token) : (String.join (l.map (·.val))).toList = tokChars l := by
  unfold String.join tokChars
  rw [foldl_append_toList]
  simp [List.flatMap_map]

theorem tokChars_cons (t : Token) (l : List Token) : tokChars (t :: l) = t.val.toList ++ tokChars l := by
  simp [tokChars]

theorem litVal_toDigits (n : Nat) : litVal (Nat.toDigits 10 n) = some n := by
  unfold litVal
  split
  · rename_i x xs h
    exact absurd h (GoStr.toDigits_no_lead0 n _ _)
  · have := GoStr.digitsVal_toDigits n
    unfold GoStr.digitsVal at this
    rw [this]

theorem scan_digit (f : Nat) (c : Char) (r : List Char) (h : GoEval.isDigit c = true) :
    scan (f + 1) (c :: r) =
      match litVal ((c :: r).takeWhile GoEval.isDigit) with
      | none => none
      | some n => (scan f ((c :: r).dropWhile GoEval.isDigit)).map (GTok.int n :: ·) := by
  rw [scan, if_pos h]
  rfl

theorem scan_num (f : Nat) (ds rest : List Char) (n : Nat) (hne : ds ≠ [])
    (hds : ∀ c ∈ ds, GoEval.isDigit c = true) (hlit : litVal ds = some n)
    (hrest : ∀ c r, rest = c :: r → GoEval.isDigit c = false) :
    scan (f + 1) (ds ++ rest) = (scan f rest).map (GTok.int n :: ·) := by
  have hstop : rest.takeWhile GoEval.isDigit = [] ∧ rest.dropWhile GoEval.isDigit = rest := by
    cases rest with
    | nil => exact ⟨rfl, rfl⟩
    | cons c r =>
      have hc : ¬ GoEval.isDigit c = true := by rw [hrest c r rfl]; exact Bool.false_ne_true
      exact ⟨List.takeWhile_cons_of_neg hc, List.dropWhile_cons_of_neg hc⟩
  have htw : (ds ++ rest).takeWhile GoEval.isDigit = ds := by
    rw [List.takeWhile_append_of_pos hds, hstop.1, List.append_nil]
  have hdw : (ds ++ rest).dropWhile GoEval.isDigit = rest := by
    rw [List.dropWhile_append_of_pos hds, hstop.2]
  cases ds with
  | nil => exact absurd rfl hne
  | cons d ds' =>
    rw [List.cons_append] at htw hdw ⊢
    rw [scan_digit f d _ (hds d (List.mem_cons_self ..)), htw, hdw, hlit]

theorem scan_lp (f : Nat) (rest : List Char) :
    scan (f + 1) ('(' :: rest) = (scan f rest).map (GTok.lparen :: ·) := rfl

theorem scan_rp (f : Nat) (rest : List Char) :
    scan (f + 1) (')' :: rest) = (scan f rest).map (GTok.rparen :: ·) := rfl

/-- an arithmetic operator is scanned as itself unless the next character fuses with it
    (`++`, `--`, `+=` …, `//`, `/*`) -/
theorem scan_op (f : Nat) (o : String) (ho : isArith o) (rest : List Char)
    (hh : ∀ c cs, rest = c :: cs →
      c ≠ '=' ∧ (o = "+" → c ≠ '+') ∧ (o = "-" → c ≠ '-') ∧ c ≠ '*' ∧ c ≠ '/') :
    scan (f + 1) (o.toList ++ rest) = (scan f rest).map (GTok.op o :: ·) := by
  have hne : ∀ x, (∀ c cs, rest = c :: cs → c ≠ x) → ∀ r, rest ≠ x :: r :=
    fun x h r e => h x r e rfl
  have h2 := hne '=' fun c cs e => (hh c cs e).1
  have h3 := hne '*' fun c cs e => (hh c cs e).2.2.2.1
  have h4 := hne '/' fun c cs e => (hh c cs e).2.2.2.2
  rcases ho with h | h | h | h | h <;> subst h
  · have h1 := hne '+' fun c cs e => (hh c cs e).2.1 rfl
    show scan (f + 1) ('+' :: rest) = _
    rw [scan]
    simp only [show GoEval.isDigit '+' = false from by decide, Bool.false_eq_true, if_false]
  · have h1 := hne '-' fun c cs e => (hh c cs e).2.2.1 rfl
    show scan (f + 1) ('-' :: rest) = _
    rw [scan]
    simp only [show GoEval.isDigit '-' = false from by decide, Bool.false_eq_true, if_false]
  · show scan (f + 1) ('*' :: rest) = _
    rw [scan]
    simp only [show GoEval.isDigit '*' = false from by decide, Bool.false_eq_true, if_false]
  · show scan (f + 1) ('/' :: rest) = _
    rw [scan]
    simp only [show GoEval.isDigit '/' = false from by decide, Bool.false_eq_true, if_false]
  · show scan (f + 1) ('%' :: rest) = _
    rw [scan]
    simp only [show GoEval.isDigit '%' = false from by decide, Bool.false_eq_true, if_false]

def Printable (t : Token) : Prop :=
  (∃ n, t = numTok n) ∨ t = lpTok ∨ t = rpTok ∨ (t.typ = .symbol ∧ isArith t.val)

def tokG (t : Token) : GTok :=
  match t.typ with
  | .number => .int (GoStr.digitsVal t.val.toList)
  | .parenL => .lparen
  | .parenR => .rparen
  | _ => .op t.val

/-- neighbours that the Go scanner keeps apart and reads as themselves: no two numbers, after an
    operator only a sign (so no `//`, `/*`), no `--`, no `++` -/
def ScanAdj (a b : Token) : Prop :=
  (a.typ = .number → b.typ ≠ .number) ∧ (a.typ = .symbol → b.typ = .symbol → isSign b = true) ∧
    ¬ (a.val = "-" ∧ b.val = "-") ∧ ¬ (a.val = "+" ∧ b.val = "+")

theorem digit_ne (c : Char) (h : GoStr.isDigit c = true) :
    c ≠ '=' ∧ c ≠ '+' ∧ c ≠ '-' ∧ c ≠ '*' ∧ c ≠ '/' := by
  refine ⟨?_, ?_, ?_, ?_, ?_⟩ <;> (rintro rfl; revert h; decide)

theorem printable_head (b : Token) (hb : Printable b) :
    ∃ c cs, b.val.toList = c :: cs ∧ c ≠ '=' ∧ (b.typ ≠ .number → GoEval.isDigit c = false) ∧
      (c = '+' → b.val = "+") ∧ (c = '-' → b.val = "-") ∧
      (c = '*' ∨ c = '/' → b.typ = .symbol ∧ isSign b = false) := by
  rcases hb with ⟨n, rfl⟩ | rfl | rfl | ⟨hs, ha⟩
  · have hne := Nat.toDigits_ne_nil (n := n) (b := 10)
    cases hd : Nat.toDigits 10 n with
    | nil => exact absurd hd hne
    | cons c cs =>
      have hc := GoStr.toDigits_all_isDigit n c (by rw [hd]; simp)
      obtain ⟨h1, h2, h3, h4, h5⟩ := digit_ne c hc
      exact ⟨c, cs, by simp only [numTok]; rw [toString_toList, hd], h1, fun h => absurd rfl h,
        fun h => absurd h h2, fun h => absurd h h3, fun h => (h.elim h4 h5).elim⟩
  · exact ⟨'(', [], rfl, by decide⟩
  · exact ⟨')', [], rfl, by decide⟩
  · obtain ⟨typ, val⟩ := b
    simp only at hs ha
    subst hs
    rcases ha with h | h | h | h | h <;> subst h <;> exact ⟨_, [], rfl, by decide⟩

def HeadOK (t : Token) (rest : List Char) : Prop :=
  ∀ c cs, rest = c :: cs → c ≠ '=' ∧ (t.typ = .number → GoEval.isDigit c = false) ∧
    (t.val = "+" → c ≠ '+') ∧ (t.val = "-" → c ≠ '-') ∧ (t.typ = .symbol → c ≠ '*' ∧ c ≠ '/')

theorem headOK_of_chain (t : Token) (r : List Token) (hp : ∀ u ∈ r, Printable u)
    (hc : Chain ScanAdj (t :: r)) : HeadOK t (tokChars r) := by
  cases r with
  | nil => intro c cs e; simp [tokChars] at e
  | cons b r' =>
    obtain ⟨c, cs, hv, h1, h2, h3, h4, h5⟩ := printable_head b (hp b (by simp))
    obtain ⟨a1, a2, a3, a4⟩ := hc.1
    intro c' cs' e
    rw [tokChars_cons, hv, List.cons_append] at e
    obtain ⟨rfl, _⟩ := List.cons.inj e
    have h6 (ht : t.typ = .symbol) (hc' : c = '*' ∨ c = '/') : False := by
      have := h5 hc'
      rw [a2 ht this.1] at this
      cases this.2
    exact ⟨h1, fun ht => h2 (a1 ht), fun ht hc' => a4 ⟨ht, h3 hc'⟩, fun ht hc' => a3 ⟨ht, h4 hc'⟩,
      fun ht => ⟨fun hc' => h6 ht (.inl hc'), fun hc' => h6 ht (.inr hc')⟩⟩

theorem length_le_tokChars (l : List Token) (hp : ∀ t ∈ l, Printable t) :
    l.length ≤ (tokChars l).length := by
  induction l with
  | nil => exact Nat.zero_le _
  | cons t r ih =>
    obtain ⟨ch, cs, hv, _⟩ := printable_head t (hp t (List.mem_cons_self ..))
    have := ih fun u hu => hp u (List.mem_cons_of_mem _ hu)
    rw [tokChars_cons, List.length_append, hv]
    simp only [List.length_cons]
    omega

theorem tokG_numTok (n : Nat) : tokG (numTok n) = .int n := by
  simp only [tokG, numTok]
  rw [toString_toList, GoStr.digitsVal_toDigits]

theorem scan_step (f : Nat) (t : Token) (rest : List Char) (hp : Printable t) (hh : HeadOK t rest) :
    scan (f + 1) (t.val.toList ++ rest) = (scan f rest).map (tokG t :: ·) := by
  rcases hp with ⟨n, rfl⟩ | rfl | rfl | ⟨hs, ha⟩
  · rw [tokG_numTok]
    simp only [numTok]
    rw [toString_toList]
    exact scan_num f _ rest n Nat.toDigits_ne_nil
      (GoStr.toDigits_all_isDigit n) (litVal_toDigits n)
      (fun c r e => (hh c r e).2.1 rfl)
  · exact scan_lp f rest
  · exact scan_rp f rest
  · rw [show tokG t = .op t.val by unfold tokG; rw [hs]]
    exact scan_op f _ ha rest fun c cs e =>
      ⟨(hh c cs e).1, (hh c cs e).2.2.1, (hh c cs e).2.2.2.1, (hh c cs e).2.2.2.2 hs⟩

theorem scan_tokens (l : List Token) (hp : ∀ t ∈ l, Printable t) (hc : Chain ScanAdj l) :
    ∀ f, l.length ≤ f → scan f (tokChars l) = some (l.map tokG) := by
  induction l with
  | nil => intro f _; cases f <;> simp [tokChars, scan]
  | cons t r ih =>
    intro f hf
    obtain ⟨f, rfl⟩ : ∃ g, f = g + 1 := ⟨f - 1, by simp only [List.length_cons] at hf; omega⟩
    simp only [List.length_cons] at hf
    rw [tokChars_cons, scan_step f t _ (hp t (by simp)) (headOK_of_chain t r (fun u hu => hp u (by simp [hu])) hc),
      ih (fun u hu => hp u (by simp [hu])) hc.tail f (by omega)]
    rfl

end Gmars.ExprProofs
