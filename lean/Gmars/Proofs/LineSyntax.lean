/-
  The text of a printed instruction line and of an `ORG n` / `END n` line, as every printer of the
  package spells it (`Spec.printLoad` and its layouts, `LoadCode()`, `Instruction.String()` /
  `NormString()`): tokens (`Word`: mnemonic, mode symbol, numeral; made of `TokChar`s, no white
  space, comma or semicolon, closed under lower-casing), the blanks between them (`Gaps`,
  `DirGaps`), and the text itself, `itext` / `dtext`, of which `instrBody`, `dirBody`, their
  re-cased forms and the Sprintf layouts are instances.  Every reader has its own view of that one
  text.  Two of them share the bundle of hypotheses `Spelt`: the load-file reader's, here
  (`fields ∘ replaceComma ∘ toLower`: `fields_norm_itext`, `fields_norm_dtext`), and the reference
  reader's in Proofs/RoundTripB.lean.  The lexer's, `AsmLayout.sends_instr`, asks the gaps to be
  blank and no more.
-/
import Gmars.Model.Listing
import Gmars.Proofs.OpNames

namespace Gmars.RoundTrip
open Gmars.GoStr

def SepChar (c : Char) : Prop := isAsciiSpace c = true ∨ c = ','

def TokChar (c : Char) : Prop := isAsciiSpace c = false ∧ c ≠ ',' ∧ c ≠ ';'

/-- lower-casing moves no character to or from one below `'A'` -/
theorem TokChar.lower {c : Char} (h : TokChar c) : TokChar (lowerChar c) :=
  ⟨by rw [isAsciiSpace_lower]; exact h.1, fun e => h.2.1 ((lowerChar_eq_iff (by decide)).1 e),
    fun e => h.2.2 ((lowerChar_eq_iff (by decide)).1 e)⟩

theorem TokChar.ne_nl {c : Char} (h : TokChar c) : c ≠ '\n' := by
  rintro rfl; exact absurd h.1 (by decide)

def Word (w : Str) : Prop := w ≠ [] ∧ ∀ c ∈ w, TokChar c

def Sep (g : Str) : Prop := g ≠ [] ∧ ∀ c ∈ g, SepChar c

theorem Word.isWord {w : Str} (h : Word w) : IsWord w := ⟨h.1, fun c hc => (h.2 c hc).1⟩

theorem Word.plain {w : Str} (h : Word w) : ∀ c ∈ w, c ≠ ';' ∧ c ≠ '\n' :=
  fun c hc => ⟨(h.2 c hc).2.2, (h.2 c hc).ne_nl⟩

theorem digit_tok {c : Char} (h : isDigit c = true) : TokChar c := by
  refine ⟨digit_not_space h, ?_, ?_⟩ <;> (rintro rfl; exact absurd h (by decide))

theorem word_digits (n : Nat) : Word (Nat.toDigits 10 n) :=
  ⟨Nat.toDigits_ne_nil, fun c hc => digit_tok (toDigits_all_isDigit n c hc)⟩

theorem word_showInt (v : Int) : Word (showInt v) := by
  unfold showInt natDigits
  split
  · exact ⟨by simp, List.forall_mem_cons.2 ⟨by unfold TokChar; decide, (word_digits _).2⟩⟩
  · exact word_digits _

theorem word_sym (m : Mode) : Word [m.sym] := by
  unfold Word TokChar; cases m <;> decide

def opWord (legacy : Bool) (i : Instr) : Str :=
  i.op.name.toList ++ (if legacy then [] else '.' :: i.md.name.toList)

theorem word_opWord (legacy : Bool) (i : Instr) : Word (opWord legacy i) :=
  ⟨List.append_ne_nil_of_left_ne_nil (op_ne_nil i.op) _,
    forall_mnemonic ⟨by decide, by decide, by decide⟩
      (fun _ h => ⟨h.noSpace, h.ne (by decide), h.ne (by decide)⟩) legacy i.op i.md⟩

theorem toLower_sym (m : Mode) : toLower [m.sym] = [m.sym] := by cases m <;> decide

theorem toLower_digits (n : Nat) : toLower (Nat.toDigits 10 n) = Nat.toDigits 10 n :=
  (List.map_congr_left fun c hc => lowerChar_digit (toDigits_all_isDigit n c hc)).trans
    (List.map_id _)

def normChar (c : Char) : Char := if lowerChar c == ',' then ' ' else lowerChar c

theorem replaceComma_toLower (s : Str) : replaceComma (toLower s) = s.map normChar := by
  simp [replaceComma, toLower, normChar, Function.comp_def]

theorem normChar_sep {c : Char} (h : SepChar c) : isAsciiSpace (normChar c) = true := by
  rcases h with h | h
  · have := lowerChar_space h
    have hc : c ≠ ',' := by intro e; subst e; revert h; decide
    simp [normChar, this, hc, h]
  · subst h; decide

theorem map_layout (f : Char → Char) (g0 : Str) (wgs : List (Str × Str)) :
    (layout g0 wgs).map f = layout (g0.map f) (wgs.map (fun p => (p.1.map f, p.2.map f))) := by
  simp [layout, List.map_flatten, Function.comp_def]

theorem normChar_word {w : Str} (h : Word w) : ∀ c ∈ w, normChar c = lowerChar c := by
  intro c hc
  simp [normChar, (h.2 c hc).lower.2.1]

theorem normChar_seps {g : Str} (h : ∀ c ∈ g, SepChar c) :
    ∀ c ∈ g.map normChar, isAsciiSpace c = true :=
  List.forall_mem_map.2 fun c hc => normChar_sep (h c hc)

theorem fields_norm_layout (g0 : Str) (wgs : List (Str × Str)) (h0 : ∀ c ∈ g0, SepChar c)
    (h : ∀ p ∈ wgs, Word p.1 ∧ Sep p.2) :
    fields (replaceComma (toLower (layout g0 wgs))) = wgs.map (fun p => toLower p.1) := by
  rw [replaceComma_toLower, map_layout, fields_layout _ _ (normChar_seps h0)]
  · rw [List.map_map]
    apply List.map_congr_left
    intro p hp
    exact List.map_congr_left (normChar_word (h p hp).1)
  · intro q hq
    obtain ⟨p, hp, rfl⟩ := List.mem_map.1 hq
    obtain ⟨hw, hg⟩ := h p hp
    refine ⟨⟨by simpa using hw.1, List.forall_mem_map.2 fun c hc => ?_⟩,
      ⟨by simpa using hg.1, normChar_seps hg.2⟩⟩
    rw [normChar_word hw c hc]
    exact (hw.2 c hc).lower.1

theorem lower_has_comma {s : Str} (h : ',' ∈ s) : containsChar (toLower s) ',' = true := by
  simp only [containsChar, toLower, List.contains_eq_mem, List.mem_map, decide_eq_true_eq]
  exact ⟨',', h, by decide⟩

/-- the blank strings of an instruction line, in order: before the mnemonic, mnemonic/A-mode,
    A-mode/A-number, A-number/comma, comma/B-mode, B-mode/B-number, after the B-number -/
structure Gaps where
  g0 : Str := []
  g1 : Str := [' ']
  g2 : Str := [' ']
  g3 : Str := []
  g4 : Str := [' ']
  g5 : Str := [' ']
  g6 : Str := []

/-- the loader needs the mnemonic, the mode characters and the numbers to be separate tokens -/
structure Gaps.ok (g : Gaps) : Prop where
  b0 : Blanks g.g0
  b1 : Blanks g.g1
  b2 : Blanks g.g2
  b3 : Blanks g.g3
  b4 : Blanks g.g4
  b5 : Blanks g.g5
  b6 : Blanks g.g6
  n1 : g.g1 ≠ []
  n2 : g.g2 ≠ []
  n5 : g.g5 ≠ []

/-- the blank strings of an `ORG n` / `END n` line: before, between, after -/
structure DirGaps where
  d0 : Str := []
  d1 : Str := [' ']
  d2 : Str := []

structure DirGaps.ok (d : DirGaps) : Prop where
  b0 : Blanks d.d0
  b1 : Blanks d.d1
  b2 : Blanks d.d2
  n1 : d.d1 ≠ []

def instrBody (legacy : Bool) (g : Gaps) (i : Instr) : Str :=
  g.g0 ++ opWord legacy i ++ g.g1 ++ [i.am.sym] ++ g.g2 ++ Nat.toDigits 10 i.a.toNat ++ g.g3 ++ [','] ++
    g.g4 ++ [i.bm.sym] ++ g.g5 ++ Nat.toDigits 10 i.b.toNat ++ g.g6

def dirBody (d : DirGaps) (kw : Str) (n : Nat) : Str :=
  d.d0 ++ kw ++ d.d1 ++ Nat.toDigits 10 n ++ d.d2

theorem blanks_nil : Blanks [] := by intro c hc; cases hc
theorem blanks_one : Blanks [' '] := by unfold Blanks; decide

theorem blanks_sep {g : Str} (h : Blanks g) : ∀ c ∈ g, SepChar c := fun c hc => .inl (h c hc).1

theorem sep_nl : ∀ c ∈ ['\n'], SepChar c := by
  intro c hc; simp only [List.mem_singleton] at hc; subst hc; exact .inl (by decide)

theorem blanks_replicate (n : Nat) : Blanks (List.replicate n ' ') := by
  intro c hc; rw [(List.mem_replicate.1 hc).2]; decide

theorem blanks_allSpace {g : Str} (h : Blanks g) : AllSpace g := fun c hc => (h c hc).1

theorem blanks_plain {g : Str} (h : Blanks g) : ∀ c ∈ g, c ≠ ';' ∧ c ≠ '\n' :=
  fun c hc => ⟨fun e => absurd (e ▸ (h c hc).1) (by decide), (h c hc).2⟩

/-- `comma` is `[]` for `Instruction.String()` / `NormString()`, which print none -/
def itext (g : Gaps) (tok : Str) (am : Mode) (A : Str) (bm : Mode) (B : Str)
    (comma : Str := [',']) : Str :=
  g.g0 ++ tok ++ g.g1 ++ [am.sym] ++ g.g2 ++ A ++ g.g3 ++ comma ++ g.g4 ++ [bm.sym] ++ g.g5 ++ B ++ g.g6

def dtext (d : DirGaps) (kw N : Str) : Str := d.d0 ++ kw ++ d.d1 ++ N ++ d.d2

structure Spelt (g : Gaps) (tok A B : Str) : Prop where
  gaps : g.ok
  tok : Word tok
  A : Word A
  B : Word B

variable {g : Gaps} {tok A B comma : Str} (am bm : Mode)

theorem itext_plain (h : Spelt g tok A B) (hc : ∀ c ∈ comma, c = ',') :
    ∀ c ∈ itext g tok am A bm B comma, c ≠ ';' ∧ c ≠ '\n' := by
  have hs := fun m => (word_sym m).plain
  have hcm : ∀ c ∈ comma, c ≠ ';' ∧ c ≠ '\n' := fun c h => by rw [hc c h]; decide
  simp only [itext, List.forall_mem_append, and_assoc]
  exact ⟨blanks_plain h.gaps.b0, h.tok.plain, blanks_plain h.gaps.b1, hs am, blanks_plain h.gaps.b2,
    h.A.plain, blanks_plain h.gaps.b3, hcm, blanks_plain h.gaps.b4, hs bm, blanks_plain h.gaps.b5,
    h.B.plain, blanks_plain h.gaps.b6⟩

theorem comma_one : ∀ c ∈ [','], c = ',' := fun _ h => List.mem_singleton.1 h

theorem itext_ne_nil (hB : Word B) : itext g tok am A bm B comma ≠ [] :=
  fun e => hB.1 (List.append_eq_nil_iff.1 (List.append_eq_nil_iff.1 e).1).2

theorem comma_mem_itext : ',' ∈ itext g tok am A bm B := by
  simp only [itext, List.mem_append, List.mem_singleton, true_or, or_true]

/-- `layout` wants a separator after every word and a printed line may end in its last token: the
    line is read with a newline appended, which changes no field -/
theorem fields_norm_nl (x : Str) :
    fields (replaceComma (toLower x)) = fields (replaceComma (toLower (x ++ ['\n']))) := by
  rw [← fields_append_space _ _ allSpace_nl]
  simp [replaceComma, toLower, lowerChar]

theorem fields_norm_itext (h : Spelt g tok A B) (hc : ∀ c ∈ comma, c = ',')
    (hm : g.g3 ++ comma ++ g.g4 ≠ []) :
    fields (replaceComma (toLower (itext g tok am A bm B comma))) =
      [toLower tok, [am.sym], toLower A, [bm.sym], toLower B] := by
  have hg := h.gaps
  have e : itext g tok am A bm B comma ++ ['\n'] =
      layout g.g0 [(tok, g.g1), ([am.sym], g.g2), (A, g.g3 ++ comma ++ g.g4), ([bm.sym], g.g5),
        (B, g.g6 ++ ['\n'])] := by
    simp only [itext, layout, List.map_cons, List.map_nil, List.flatten_cons, List.flatten_nil,
      List.append_assoc, List.append_nil]
  rw [fields_norm_nl, e, fields_norm_layout _ _ (blanks_sep hg.b0)]
  · simp only [List.map_cons, List.map_nil, toLower_sym]
  · intro p hp
    simp only [List.mem_cons, List.not_mem_nil, or_false] at hp
    rcases hp with rfl | rfl | rfl | rfl | rfl
    · exact ⟨h.tok, hg.n1, blanks_sep hg.b1⟩
    · exact ⟨word_sym _, hg.n2, blanks_sep hg.b2⟩
    · exact ⟨h.A, hm, List.forall_mem_append.2 ⟨List.forall_mem_append.2
        ⟨blanks_sep hg.b3, fun c hcc => .inr (hc c hcc)⟩, blanks_sep hg.b4⟩⟩
    · exact ⟨word_sym _, hg.n5, blanks_sep hg.b5⟩
    · exact ⟨h.B, List.append_ne_nil_of_right_ne_nil _ (List.cons_ne_nil _ _),
        List.forall_mem_append.2 ⟨blanks_sep hg.b6, sep_nl⟩⟩

theorem dtext_plain {d : DirGaps} {kw N : Str} (hd : d.ok) (hk : Word kw) (hN : Word N) :
    ∀ c ∈ dtext d kw N, c ≠ ';' ∧ c ≠ '\n' := by
  simp only [dtext, List.forall_mem_append, and_assoc]
  exact ⟨blanks_plain hd.b0, hk.plain, blanks_plain hd.b1, hN.plain, blanks_plain hd.b2⟩

theorem dtext_ne_nil {d : DirGaps} {kw N : Str} (hN : Word N) : dtext d kw N ≠ [] :=
  fun e => hN.1 (List.append_eq_nil_iff.1 (List.append_eq_nil_iff.1 e).1).2

theorem fields_norm_dtext {d : DirGaps} {kw N : Str} (hd : d.ok) (hk : Word kw) (hN : Word N) :
    fields (replaceComma (toLower (dtext d kw N))) = [toLower kw, toLower N] := by
  have e : dtext d kw N ++ ['\n'] = layout d.d0 [(kw, d.d1), (N, d.d2 ++ ['\n'])] := by
    simp only [dtext, layout, List.map_cons, List.map_nil, List.flatten_cons, List.flatten_nil,
      List.append_assoc, List.append_nil]
  rw [fields_norm_nl, e, fields_norm_layout _ _ (blanks_sep hd.b0)]
  · rfl
  · intro p hp
    simp only [List.mem_cons, List.not_mem_nil, or_false] at hp
    rcases hp with rfl | rfl
    · exact ⟨hk, hd.n1, blanks_sep hd.b1⟩
    · exact ⟨hN, List.append_ne_nil_of_right_ne_nil _ (List.cons_ne_nil _ _),
        List.forall_mem_append.2 ⟨blanks_sep hd.b2, sep_nl⟩⟩

end Gmars.RoundTrip
