/-
  C04, central theorem: executing one task never panics and preserves the
  simulator invariant (for all core sizes and all limits ≥ 1).  This is a walk over `exec` of its
  own, beside the one of the step refinement (`St`, RefineMem), because that one needs a core of
  at most 2^32 cells and limits within the core.
-/
import Gmars.Proofs.RefineMem
import Gmars.Proofs.ExecForm

namespace Gmars

/-- `s` is a state reached from `s0` in the middle of executing a task of warrior `wi`
    whose queue was `q` at the start; at most `n` addresses have been pushed since. (`log` is what
    C15 takes from `exec_wf`.) -/
structure Mid (s0 s : Sim) (wi : Nat) (q : PQ) (n : Nat) : Prop where
  frame  : Frame s0 s wi
  mpos   : 0 < s0.m.toNat
  msize  : s.mem.size = s0.m.toNat
  fields : ∀ i (h : i < s.mem.size), s.mem[i].a < s0.m ∧ s.mem[i].b < s0.m
  queue  : ∃ q', s.pqOf wi = some q' ∧ q'.Inv ∧ q'.size = q.size ∧ (∀ a ∈ q'.toList, a < s0.m) ∧
             q'.toList.length ≤ q.toList.length + n
  log    : ∃ new : List Report, s.log.toList = s0.log.toList ++ new ∧
             ∀ r ∈ new, r.addr < s0.m ∧ r.wi = Int.ofNat wi

theorem ExecPre.mid {s : Sim} {wi : Nat} {q : PQ} (h : ExecPre s wi q) : Mid s s wi q 0 where
  frame := Frame.refl s wi
  mpos := by have := h.m3; omega
  msize := h.size
  fields := h.fields
  queue := ⟨q, h.pq, h.qinv, rfl, h.qent, by omega⟩
  log := ⟨[], by simp⟩

theorem Mid.report {s0 s : Sim} {wi : Nat} {q : PQ} {n : Nat} (h : Mid s0 s wi q n) {r : Report}
    (ha : r.addr < s0.m) (hw : r.wi = Int.ofNat wi) : Mid s0 (s.report r) wi q n := by
  refine ⟨h.frame.trans (Frame.report s wi r), h.mpos, h.msize, h.fields, h.queue, ?_⟩
  · obtain ⟨new, hnew, hall⟩ := h.log
    exact ⟨new ++ [r], by simp [Sim.report, hnew],
      List.forall_mem_append.mpr ⟨hall, List.forall_mem_singleton.mpr ⟨ha, hw⟩⟩⟩

theorem UInt64.mod_lt' (x m : UInt64) (h : 0 < m.toNat) : x % m < m :=
  UInt64.mod_lt x (UInt64.lt_iff_toNat_lt.mpr h)

theorem UInt64.div_lt_of_lt {x y m : UInt64} (h : x < m) : x / y < m := by
  rw [UInt64.lt_iff_toNat_lt] at *
  rw [UInt64.toNat_div]
  exact Nat.lt_of_le_of_lt (Nat.div_le_self _ _) h

theorem UInt64.mod_lt_of_lt {x y m : UInt64} (h : x < m) : x % y < m := by
  rw [UInt64.lt_iff_toNat_lt] at *
  rw [UInt64.toNat_mod]
  exact Nat.lt_of_le_of_lt (Nat.mod_le _ _) h

theorem UInt64.ite_lt {c : Prop} [Decidable c] {x y m : UInt64} (hx : x < m) (hy : y < m) :
    (if c then x else y) < m := by
  split
  · exact hx
  · exact hy

section
variable {s0 s : Sim} {wi : Nat} {q : PQ} {n : Nat}

theorem Mid.mono {n' : Nat} (h : Mid s0 s wi q n) (hn : n ≤ n') : Mid s0 s wi q n' := by
  refine ⟨h.frame, h.mpos, h.msize, h.fields, ?_, h.log⟩
  obtain ⟨q', h1, h2, h3, h4, h5⟩ := h.queue
  exact ⟨q', h1, h2, h3, h4, Nat.le_trans h5 (Nat.add_le_add_left hn _)⟩

theorem Mid.m_eq (h : Mid s0 s wi q n) : s.m = s0.m :=
  h.frame.m

theorem Mid.zero_lt (h : Mid s0 s wi q n) : (0 : UInt64) < s0.m :=
  UInt64.lt_iff_toNat_lt.mpr h.mpos

theorem Mid.mod_lt (h : Mid s0 s wi q n) (x : UInt64) : x % s.m < s0.m := by
  rw [h.m_eq]
  exact UInt64.mod_lt x h.zero_lt

theorem Mid.toNat_lt (h : Mid s0 s wi q n) {i : UInt64} (hi : i < s0.m) :
    i.toNat < s.mem.size :=
  h.msize ▸ UInt64.lt_iff_toNat_lt.mp hi

theorem Mid.rd (h : Mid s0 s wi q n) {i : UInt64} (hi : i < s0.m) :
    Ok (s.rd i) (fun c => c.a < s0.m ∧ c.b < s0.m) := by
  have hlt := h.toNat_lt hi
  unfold Sim.rd
  rw [Array.getElem?_eq_getElem hlt]
  exact ⟨_, rfl, h.fields _ hlt⟩

theorem Mid.upd (h : Mid s0 s wi q n) {i : UInt64} (hi : i < s0.m) {f : Instr → Instr}
    (hf : ∀ c : Instr, c.a < s0.m → c.b < s0.m → (f c).a < s0.m ∧ (f c).b < s0.m) :
    Ok (s.upd i f) (fun s' => Mid s0 s' wi q n) := by
  have hlt := h.toNat_lt hi
  unfold Sim.upd
  rw [dif_pos hlt]
  refine ⟨_, rfl, ?_⟩
  refine ⟨h.frame.trans ?_, h.mpos, ?_, ?_, h.queue, h.log⟩
  · exact Frame.of_mem s wi _ (Array.size_set hlt)
  · exact (Array.size_set hlt).trans h.msize
  · intro j hj
    simp only [Array.size_set] at hj
    simp only [Array.getElem_set]
    split
    · exact hf _ (h.fields _ hlt).1 (h.fields _ hlt).2
    · exact h.fields j hj

theorem Mid.addRep (h : Mid s0 s wi q n) (t : RType) {a : UInt64} (ha : a < s0.m) :
    Mid s0 (s.report (rep t wi a)) wi q n :=
  h.report ha rfl

theorem Mid.push (h : Mid s0 s wi q n) {a : UInt64} (ha : a < s0.m) :
    Ok (s.push wi a) (fun s' => Mid s0 s' wi q (n + 1)) := by
  obtain ⟨q1, hq1, hinv, hsz, hent, hlen⟩ := h.queue
  obtain ⟨hlt, hpq⟩ := pqOf_some hq1
  obtain ⟨q2, hpush, hinv2, hsz2, hl2⟩ := PQ.push_ok q1 a hinv
  unfold Sim.push
  rw [dif_pos hlt]
  simp only [hpq, hpush]
  refine ⟨_, rfl, h.frame.trans (Frame.setPq s wi hlt q2), h.mpos, h.msize, h.fields, ?_, h.log⟩
  refine ⟨q2, pqOf_setPq s wi hlt q2, hinv2, hsz2.trans hsz,
    PQ.push_entries_lt q1 a s0.m hinv hent ha q2 hpush, ?_⟩
  rw [hl2]
  split
  · rw [List.length_append]
    exact Nat.succ_le_succ hlen
  · exact Nat.le_succ_of_le hlen

theorem Ok.addRep {x : Except Panic Sim} (hx : Ok x (fun s' => Mid s0 s' wi q n)) (t : RType)
    {a : UInt64} (ha : a < s0.m) :
    Ok (do let s' ← x; Pure.pure (s'.report (rep t wi a))) (fun s' => Mid s0 s' wi q n) :=
  hx.map fun _ h => h.addRep t ha

theorem Mid.pushNext (h : Mid s0 s wi q n) {a : UInt64} (ha : a < s0.m) :
    Ok (s.pushNext wi a) (fun s' => Mid s0 s' wi q (n + 1)) := by
  unfold Sim.pushNext
  exact (h.addRep .taskPush ha).push ha

theorem Mid.terminate (h : Mid s0 s wi q n) {a : UInt64} (ha : a < s0.m) :
    Mid s0 (s.terminate wi a) wi q n :=
  h.addRep .taskTerminate ha

theorem Mid.decN_ok (h : Mid s0 s wi q n) (f : Spec.Field) (c : Instr) (ha : c.a < s0.m)
    (hb : c.b < s0.m) : (decN f s.m c).a < s0.m ∧ (decN f s.m c).b < s0.m := by
  cases f
  · exact ⟨h.mod_lt _, hb⟩
  · exact ⟨ha, h.mod_lt _⟩

theorem Mid.incN_ok (h : Mid s0 s wi q n) (f : Spec.Field) (c : Instr) (ha : c.a < s0.m)
    (hb : c.b < s0.m) : (incN f s.m c).a < s0.m ∧ (incN f s.m c).b < s0.m := by
  cases f
  · exact ⟨h.mod_lt _, hb⟩
  · exact ⟨ha, h.mod_lt _⟩

theorem Mid.indir (h : Mid s0 s wi q n) (pc : UInt64) (w : Bool) {f : Spec.Field} {rp wp pip : UInt64}
    (hpip : pip < s0.m) :
    Ok (s.indir pc w f rp wp pip) (fun r => Mid s0 r.1 wi q n ∧ r.2.2.2 < s0.m) :=
  Ok.bind (h.rd (h.mod_lt _)) fun _ _ =>
    Ok.bind (P := fun _ => True) (Ok.ite (fun _ => (h.rd (h.mod_lt _)).mono fun _ _ => trivial)
      fun _ => Ok.intro trivial) fun _ _ => Ok.intro ⟨h, hpip⟩

theorem Mid.operand (h : Mid s0 s wi q n) (pc : UInt64) (w : Bool) (mode : Mode) (num : UInt64)
    {pip0 : UInt64} (hpip0 : pip0 < s0.m) :
    Ok (s.operand pc wi w mode num pip0) (fun r => Mid s0 r.1 wi q n ∧ r.2.2.2 < s0.m) := by
  unfold Sim.operand
  split
  · exact Ok.intro ⟨h, hpip0⟩
  · exact Ok.intro ⟨h, hpip0⟩
  · exact h.indir pc w hpip0
  · exact Ok.bind ((h.upd (h.mod_lt _) (h.decN_ok _)).addRep _ (h.mod_lt _)) fun _ h1 =>
      h1.indir pc w hpip0
  · exact h.indir pc w (h.mod_lt _)

theorem Mid.post (h : Mid s0 s wi q n) (mode : Mode) {pip : UInt64} (hpip : pip < s0.m) :
    Ok (s.post wi mode pip) (fun s' => Mid s0 s' wi q n) := by
  unfold Sim.post
  split
  · exact (h.upd hpip (h.incN_ok _)).addRep _ hpip
  · exact Ok.intro h

theorem arithPairsU_lt (md : Modifier) {ira irb : Instr} {m : UInt64}
    (hira : ira.a < m ∧ ira.b < m) (hirb : irb.a < m ∧ irb.b < m) :
    ∀ p ∈ arithPairsU md ira irb, p.2.1 < m ∧ p.2.2 < m := by
  cases md <;> simp only [arithPairsU, List.forall_mem_cons, hira, hirb, true_and] <;>
    exact List.forall_mem_nil _

theorem Mid.upds (h : Mid s0 s wi q n) {w : UInt64} (hw : w < s0.m)
    {l : List (Bool × (Instr → Instr))}
    (hl : ∀ p ∈ l, ∀ c : Instr, c.a < s0.m → c.b < s0.m → (p.2 c).a < s0.m ∧ (p.2 c).b < s0.m) :
    Ok (s.upds w l) (fun s' => Mid s0 s' wi q n) := by
  induction l generalizing s with
  | nil => exact Ok.intro h
  | cons p l ih =>
    rw [Sim.upds_cons]
    exact Ok.bind (Ok.ite (fun _ => h.upd hw (hl p List.mem_cons_self)) (fun _ => Ok.intro h))
      (fun _ h1 => ih h1 (fun p' hp' => hl p' (List.mem_cons_of_mem _ hp')))

theorem Mid.stores (h : Mid s0 s wi q n) {w : UInt64} (hw : w < s0.m) {ok : UInt64 → Bool}
    {g : UInt64 → UInt64 → UInt64} {ps : List (Spec.Field × UInt64 × UInt64)}
    (hg : ∀ p ∈ ps, g p.2.1 p.2.2 < s0.m) :
    Ok (s.upds w (stores ok g ps)) (fun s' => Mid s0 s' wi q n) := by
  refine h.upds hw (fun p hp c ha hb => ?_)
  obtain ⟨⟨f, x, y⟩, hmem, rfl⟩ := List.mem_map.mp hp
  cases f
  · exact ⟨hg _ hmem, hb⟩
  · exact ⟨ha, hg _ hmem⟩

theorem Mid.mov (h : Mid s0 s wi q n) (ir : Instr) {ira : Instr}
    (hira : ira.a < s0.m ∧ ira.b < s0.m) {wab : UInt64} (hw : wab < s0.m) (pc : UInt64) :
    Ok (s.mov ir ira wab pc wi) (fun s' => Mid s0 s' wi q (n + 1)) := by
  rw [Sim.mov_eq s pc ir wi ira ira]
  refine Ok.bind (P := fun s' => Mid s0 s' wi q n) ?_ (fun _ h1 => h1.pushNext (h1.mod_lt _))
  split
  · exact h.upds hw (fun p hp _ _ _ => by rw [List.mem_singleton.mp hp]; exact hira)
  · exact h.stores hw (fun p hp => (arithPairsU_lt ir.md hira hira p hp).2)

theorem Mid.arith (h : Mid s0 s wi q n) {g : UInt64 → UInt64 → UInt64}
    (hg : ∀ x y, g x y < s0.m) (ir ira irb : Instr) {wab : UInt64} (hw : wab < s0.m)
    (pc : UInt64) :
    Ok (s.arith g ir ira irb wab pc wi) (fun s' => Mid s0 s' wi q (n + 1)) := by
  rw [Sim.arith_eq]
  exact Ok.bind (h.stores hw (fun _ _ => hg _ _)) (fun _ h1 => h1.pushNext (h1.mod_lt _))

theorem Mid.divmod (h : Mid s0 s wi q n) {g : UInt64 → UInt64 → UInt64}
    (hg : ∀ x y, x < s0.m → g x y < s0.m) (ir : Instr) {ira irb : Instr}
    (hira : ira.a < s0.m ∧ ira.b < s0.m) (hirb : irb.a < s0.m ∧ irb.b < s0.m) {wab : UInt64}
    (hw : wab < s0.m) {pc : UInt64} (hpc : pc < s0.m) :
    Ok (s.divmod g ir ira irb wab pc wi) (fun s' => Mid s0 s' wi q (n + 1)) := by
  rw [Sim.divmod_eq]
  refine Ok.bind (h.stores hw (fun p hp => hg _ _ (arithPairsU_lt ir.md hira hirb p hp).1))
    (fun _ h1 => Ok.ite (fun _ => h1.pushNext (h1.mod_lt _))
      (fun _ => Ok.intro ((h1.terminate hpc).mono (Nat.le_succ n))))

theorem Mid.jmz (h : Mid s0 s wi q n) (ir irb : Instr) {rab : UInt64} (hr : rab < s0.m)
    (pc : UInt64) : Ok (s.jmz ir irb rab pc wi) (fun s' => Mid s0 s' wi q (n + 1)) := by
  unfold Sim.jmz
  exact Ok.ite (fun _ => h.push hr) (fun _ => h.push (h.mod_lt _))

theorem Mid.jmn (h : Mid s0 s wi q n) (ir irb : Instr) {rab : UInt64} (hr : rab < s0.m)
    (pc : UInt64) : Ok (s.jmn ir irb rab pc wi) (fun s' => Mid s0 s' wi q (n + 1)) := by
  unfold Sim.jmn
  exact h.pushNext (UInt64.ite_lt hr (h.mod_lt _))

theorem Mid.djn (h : Mid s0 s wi q n) (ir irb : Instr) {rab wab : UInt64} (hr : rab < s0.m)
    (hw : wab < s0.m) (pc : UInt64) :
    Ok (s.djn ir irb rab wab pc wi) (fun s' => Mid s0 s' wi q (n + 1)) := by
  unfold Sim.djn
  apply Ok.bind (P := fun r => Mid s0 r.1 wi q n)
  · cases ir.md
    case a | ba => exact Ok.bind (h.upd hw (h.decN_ok .A)) (fun _ h1 => Ok.intro h1)
    case b | ab => exact Ok.bind (h.upd hw (h.decN_ok .B)) (fun _ h1 => Ok.intro h1)
    case f | x | i =>
      exact Ok.bind (h.upd hw (h.decN_ok .A)) (fun _ h1 =>
        Ok.bind (h1.upd hw (h1.decN_ok .B)) (fun _ h2 => Ok.intro h2))
  · rintro ⟨s1, nz⟩ h1
    exact h1.pushNext (UInt64.ite_lt hr (h1.mod_lt _))

theorem Mid.skipIf (h : Mid s0 s wi q n) (c : Bool) (pc : UInt64) :
    Ok (s.skipIf c pc wi) (fun s' => Mid s0 s' wi q (n + 1)) := by
  unfold Sim.skipIf
  exact h.pushNext (UInt64.ite_lt (h.mod_lt _) (h.mod_lt _))

theorem Mid.reads (h : Mid s0 s wi q n) (pc rpa rpb : UInt64) :
    Mid s0 (s.reads pc rpa rpb wi) wi q n := by
  unfold Sim.reads
  exact (h.addRep .read (h.mod_lt _)).addRep .read (h.mod_lt _)

end

theorem UInt64.beq_zero_false {x : UInt64} (h : 0 < x.toNat) : (x == 0) = false :=
  decide_eq_false (UInt64.pos_iff_ne_zero.mp (UInt64.lt_iff_toNat_lt.mpr h))

/-- one task from a state that satisfies the intermediate invariant with itself: all `exec_wf`
    needs of `s.WF`, so that it also applies in the middle of `RunCycle` -/
theorem Mid.exec {s : Sim} {wi : Nat} {q : PQ} (h : Mid s s wi q 0)
    (hrl : 1 ≤ s.readLimit.toNat) (hwl : 1 ≤ s.writeLimit.toNat) {pc : UInt64} (hpc : pc < s.m) :
    Ok (s.exec pc wi) (fun s' => Mid s s' wi q 2) := by
  rw [exec_eq]
  refine Ok.ite (fun h0 => ?_) (fun _ => ?_)
  · rw [UInt64.beq_zero_false h.mpos, UInt64.beq_zero_false hrl, UInt64.beq_zero_false hwl] at h0
    cases h0
  apply Ok.bind (h.rd hpc); intro ir _
  apply Ok.bind (h.operand pc false ir.am ir.a h.zero_lt); rintro ⟨s1, rpa, wpa, pip⟩ ⟨h1, hpip⟩
  apply Ok.bind (h1.rd (h1.mod_lt _)); intro ira hira
  apply Ok.bind (h1.post ir.am hpip); intro s2 h2
  apply Ok.bind (h2.operand pc true ir.bm ir.b hpip); rintro ⟨s3, rpb, wpb, pip2⟩ ⟨h3, hpip2⟩
  apply Ok.bind (h3.rd (h3.mod_lt _)); intro irb hirb
  apply Ok.bind (h3.post ir.bm hpip2); intro s4 h4
  unfold Sim.opPhase
  have hw : (pc + wpb) % s4.m < s.m := h4.mod_lt _
  have hr : (pc + rpa) % s4.m < s.m := h4.mod_lt _
  have h5 : Mid s s4 wi q 1 := h4.mono (Nat.zero_le 1)
  cases ir.op
  case dat => exact Ok.intro ((h4.terminate hpc).mono (Nat.zero_le 2))
  case mov => exact (h5.mov ir hira hw pc).addRep .write hw
  case add | sub | mul =>
    exact (h5.arith (fun _ _ => h5.mod_lt _) ir ira irb hw pc).addRep .write hw
  case div =>
    exact (h5.divmod (fun _ _ hx => UInt64.div_lt_of_lt hx) ir hira hirb hw hpc).addRep .write hw
  case mod =>
    exact (h5.divmod (fun _ _ hx => UInt64.mod_lt_of_lt hx) ir hira hirb hw hpc).addRep .write hw
  case jmp => exact h5.push hr
  case jmz => exact h5.jmz ir irb hr pc
  case jmn => exact h5.jmn ir irb hr pc
  case djn => exact (h5.djn ir irb hr hw pc).addRep .decrement hw
  case cmp | seq | slt | sne =>
    exact Ok.bind (h5.skipIf _ pc) (fun _ h6 => Ok.intro (h6.reads pc rpa rpb))
  -- the one instruction that pushes twice: the 2 of the statement
  case spl => exact Ok.bind (h4.push (h4.mod_lt _)) (fun _ h6 => h6.push hr)
  case nop => exact h5.push (h5.mod_lt _)

/-- C04, one task: `exec` never panics on a well-formed state and re-establishes every
    part of the invariant it can touch. -/
theorem exec_wf (s : Sim) (pc : UInt64) (wi : Nat) (q : PQ) (hwf : s.WF) (hpc : pc < s.m)
    (hq : s.pqOf wi = some q) :
    ∃ s' q', s.exec pc wi = .ok s' ∧ Frame s s' wi ∧ s'.FieldsOK ∧
      s'.pqOf wi = some q' ∧ q'.Inv ∧ q'.size = q.size ∧ (∀ a ∈ q'.toList, a < s.m) ∧
      q'.toList.length ≤ q.toList.length + 2 ∧
      (∀ r, r ∈ s'.log.toList.drop s.log.size → r.addr < s.m ∧ r.wi = Int.ofNat wi) := by
  obtain ⟨s', hex, h⟩ := (ExecPre.of_wf hwf hq).mid.exec hwf.rl hwf.wl hpc
  obtain ⟨q', h1, h2, h3, h4, h5⟩ := h.queue
  refine ⟨s', q', hex, h.frame, ?_, h1, h2, h3, h4, h5, ?_⟩
  · intro i hi
    rw [h.m_eq]
    exact h.fields i hi
  · obtain ⟨new, hnew, hall⟩ := h.log
    intro r hr
    rw [hnew, ← Array.length_toList, List.drop_left] at hr
    exact hall r hr

theorem exec_no_panic (s : Sim) (pc : UInt64) (wi : Nat) (q : PQ) (hwf : s.WF) (hpc : pc < s.m)
    (hq : s.pqOf wi = some q) : ∃ s', s.exec pc wi = .ok s' := by
  obtain ⟨s', _, h, _⟩ := exec_wf s pc wi q hwf hpc hq
  exact ⟨s', h⟩

end Gmars
