/-
  C03, parser stage, what is parsed: programs of instruction statements, comment lines and blank
  lines at token level (`Stmt`, `Item`, `Prog`), their canonical token rendering and the source
  lines they denote; `Ctx`, the live states of the parser; `parse_of_run`.  The parser is walked
  over them in ParserWalk (`parse_prog`).  At the end the line and token forms the assembler proofs
  share (`pseudoLine`, `endLine`, `cmtTok`, `cmtToks`).
-/
import Gmars.Model.Parser

namespace Gmars.Render
open Gmars.Parser

theorem exists_cons_eq_append_cons {α : Type} (l : List α) (a : α) (r : List α) :
    ∃ b s, b :: s = l ++ a :: r := by
  cases l with
  | nil => exact ⟨a, r, rfl⟩
  | cons b s => exact ⟨b, _, rfl⟩

theorem run_some {s s' : St} {p p' : PState} (h : step s p = .ok (p', some s')) (fuel : Nat) :
    run (fuel + 1) s p = run fuel s' p' := by
  simp only [run, h]; rfl

theorem run_none {s : St} {p p' : PState} (h : step s p = .ok (p', none)) (fuel : Nat) :
    run (fuel + 1) s p = .ok p' := by
  simp only [run, h]; rfl

def ReachLe (b : Nat) (s : St) (p : PState) (s' : St) (p' : PState) : Prop :=
  ∃ n, n ≤ b ∧ ∀ fuel, run (fuel + n) s p = run fuel s' p'

theorem ReachLe.finish {b : Nat} {s s' : St} {p p' q : PState} (h : ReachLe b s p s' p')
    (hs : step s' p' = .ok (q, none)) {fuel : Nat} (hf : b + 1 ≤ fuel) : run fuel s p = .ok q := by
  obtain ⟨n, hn, h⟩ := h
  obtain ⟨k, rfl⟩ : ∃ k, fuel = (k + 1) + n := ⟨fuel - 1 - n, by omega⟩
  rw [h, run_none hs]

/-- everything of a live parser state (no error, reader not exhausted) except the token stream and
    `endSeen`: `Ctx.st` is the state before an `end`, `Ctx.on` (ParserWalk) takes the flag -/
structure Ctx where
  line : Int := 1
  codeLine : Int := 0
  cur : SourceLine := {}
  metadata : AsmMeta := {}
  lines : List SourceLine := []
  symbols : List String := ["CORESIZE", "MAXLENGTH", "MAXPROCESSES", "MINDISTANCE"]
  references : List String := []

def Ctx.st (c : Ctx) (t : Token) (rest : List Token) : PState :=
  { rest := rest, nextToken := t, line := c.line, codeLine := c.codeLine, atEOF := false,
    err := false, cur := c.cur, metadata := c.metadata, endSeen := false, lines := c.lines.toArray,
    symbols := c.symbols, references := c.references }

def nlTok : Token := ⟨.newline, ""⟩
def eofTok : Token := ⟨.eof, ""⟩
def commaTok : Token := ⟨.comma, ","⟩
def colonTok : Token := ⟨.colon, ":"⟩

theorem next_st (c : Ctx) (t t' : Token) (rest : List Token) :
    next (c.st t (t' :: rest)) =
      (t, ({ c with line := if t.typ == .newline then c.line + 1 else c.line } : Ctx).st t' rest) := by
  simp [next, Ctx.st]

/-- `p.references` after the expression loop has gone over `ts` (most recent first) -/
def addRefs : List Token → List String → List String
  | [], refs => refs
  | t :: ts, refs =>
    addRefs ts (if t.typ == .text && !refs.contains t.val then t.val :: refs else refs)

theorem isExpressionTerm_not_newline {t : Token} (h : t.isExpressionTerm = true) :
    (t.typ == TokType.newline) = false := by
  simp [Token.isExpressionTerm] at h
  rcases h with (((h | h) | h) | h) | h <;> simp [h]

def modeStrs : List String := ["$", "#", "@", "*", "{", "<", "}", ">"]

structure Operand where
  mode : Option String := none
  toks : List Token

def Operand.tokens (o : Operand) : List Token :=
  (match o.mode with | some m => [(⟨.symbol, m⟩ : Token)] | none => []) ++ o.toks

/-- `strict` is the A operand: `parseOp` refuses a first token of value `*` that is no address
    mode, `parseComma` does not -/
def Operand.OK (strict : Bool) (o : Operand) : Prop :=
  (∀ t ∈ o.toks, t.isExpressionTerm = true) ∧
  ∃ t ts, o.toks = t :: ts ∧
    match o.mode with
    | some m => m ∈ modeStrs
    | none => t.isAddressMode = false ∧ (strict = true → t.val ≠ "*")

theorem isAddressMode_mode : ∀ {m : String}, m ∈ modeStrs →
    (⟨.symbol, m⟩ : Token).isAddressMode = true := by
  decide

def labelTokens : List (String × Bool) → List Token
  | [] => []
  | (l, colon) :: r => (⟨.text, l⟩ : Token) :: ((if colon then [colonTok] else []) ++ labelTokens r)

def IsOpName (op : String) : Prop :=
  (⟨.text, op⟩ : Token).isOp = true ∧ (⟨.text, op⟩ : Token).isPseudoOp = false

/-- a text token with this value is taken for a label -/
def IsLabelName (l : String) : Prop := (⟨.text, l⟩ : Token).isOp = false

instance (op : String) : Decidable (IsOpName op) := by unfold IsOpName; infer_instance
instance (l : String) : Decidable (IsLabelName l) := by unfold IsLabelName; infer_instance

theorem labelTokens_head (ls : List (String × Bool)) (op : String) (tail : List Token) :
    ∃ v r, (⟨.text, v⟩ : Token) :: r = labelTokens ls ++ (⟨.text, op⟩ : Token) :: tail := by
  cases ls with
  | nil => exact ⟨op, tail, rfl⟩
  | cons lc ls => obtain ⟨l, colon⟩ := lc; exact ⟨l, _, rfl⟩

def FreshLabels : List String → List String → Prop
  | [], _ => True
  | l :: ls, syms => syms.contains l = false ∧ FreshLabels ls (l :: syms)

def emptyLine (ln : Int) (k : Nat) : SourceLine := { line := ln, typ := .empty, newlines := k }

/-- the entry a run of `k` newline tokens at the start of a line makes -/
def blankLines (ln : Int) (k : Nat) : List SourceLine := if k = 0 then [] else [emptyLine ln k]

structure Stmt where
  labels : List (String × Bool) := []
  op : String
  a : Operand
  b : Option Operand := none
  blanks : Nat := 0

def Stmt.bTokens (s : Stmt) : List Token :=
  match s.b with
  | some b => commaTok :: b.tokens
  | none => []

def Stmt.tokens (s : Stmt) : List Token :=
  labelTokens s.labels ++
    ((⟨.text, s.op⟩ : Token) :: (s.a.tokens ++ (s.bTokens ++ nlTok :: List.replicate s.blanks nlTok)))

def Stmt.labelNames (s : Stmt) : List String := s.labels.map (·.1)

def Stmt.OK (s : Stmt) : Prop :=
  (∀ l ∈ s.labels, IsLabelName l.1) ∧ IsOpName s.op ∧ s.a.OK true ∧ ∀ b, s.b = some b → b.OK false

def Stmt.refs (s : Stmt) (refs : List String) : List String :=
  match s.b with
  | some b => addRefs b.toks (addRefs s.a.toks refs)
  | none => addRefs s.a.toks refs

def Stmt.instrLine (s : Stmt) (ln cl : Int) : SourceLine :=
  { line := ln, codeLine := cl, typ := .instruction, labels := s.labelNames, op := s.op,
    amode := s.a.mode.getD "", a := some s.a.toks,
    bmode := match s.b with | some b => b.mode.getD "" | none => "",
    b := s.b.map (·.toks),
    newlines := if s.b.isSome then 1 else 0 }

/-- what the parser emits for the statement: with a B operand the instruction line (its newline
    counted) and an empty-line entry for the blank lines, if any; without B operand `parseExprA`
    leaves the newline unconsumed and uncounted, and it starts an empty-line entry WITH THE SAME
    LINE NUMBER that also counts the blank lines -/
def Stmt.lines (s : Stmt) (ln cl : Int) : List SourceLine :=
  match s.b with
  | some _ => s.instrLine ln cl :: blankLines (ln + 1) s.blanks
  | none => [s.instrLine ln cl, emptyLine ln (s.blanks + 1)]

def commentLine (ln : Int) (v : String) : SourceLine :=
  { line := ln, typ := .comment, comment := v, newlines := 1 }

inductive Item
  | stmt (s : Stmt)
  | comment (text : String) (blanks : Nat)

def Item.tokens : Item → List Token
  | .stmt s => s.tokens
  | .comment v k => (⟨.comment, v⟩ : Token) :: nlTok :: List.replicate k nlTok

def Item.OK : Item → Prop
  | .stmt s => s.OK
  | .comment _ _ => True

def Item.lines : Item → Int → Int → List SourceLine
  | .stmt s, ln, cl => s.lines ln cl
  | .comment v k, ln, _ => commentLine ln v :: blankLines (ln + 1) k

def Item.blanks : Item → Nat
  | .stmt s => s.blanks
  | .comment _ k => k

def Item.codeLines : Item → Int
  | .stmt _ => 1
  | .comment _ _ => 0

def Item.labelNames : Item → List String
  | .stmt s => s.labelNames
  | .comment _ _ => []

def Item.refs : Item → List String → List String
  | .stmt s, refs => s.refs refs
  | .comment _ _, refs => refs

def Item.metadata : Item → AsmMeta → AsmMeta
  | .stmt _, m => m
  | .comment v _, m => captureMeta m v

theorem item_tokens_ne_nil (it : Item) : it.tokens ≠ [] := by
  cases it with
  | stmt s =>
    obtain ⟨v, r, h⟩ := labelTokens_head s.labels s.op
      (s.a.tokens ++ (s.bTokens ++ nlTok :: List.replicate s.blanks nlTok))
    exact fun e => nomatch h.trans e
  | comment v k => exact nofun

def itemsTokens : List Item → List Token
  | [] => []
  | it :: r => it.tokens ++ itemsTokens r

def itemsLines : List Item → Int → Int → List SourceLine
  | [], _, _ => []
  | it :: r, ln, cl => it.lines ln cl ++ itemsLines r (ln + 1 + it.blanks) (cl + it.codeLines)

def itemsLabels : List Item → List String
  | [] => []
  | it :: r => it.labelNames ++ itemsLabels r

def itemsRefs : List Item → List String → List String
  | [], refs => refs
  | it :: r, refs => itemsRefs r (it.refs refs)

def itemsMeta : List Item → AsmMeta → AsmMeta
  | [], m => m
  | it :: r, m => itemsMeta r (it.metadata m)

def itemsEndLine : List Item → Int → Int
  | [], ln => ln
  | it :: r, ln => itemsEndLine r (ln + 1 + it.blanks)

def itemsEndCode : List Item → Int → Int
  | [], cl => cl
  | it :: r, cl => itemsEndCode r (cl + it.codeLines)

theorem FreshLabels_append (l₁ l₂ syms : List String) :
    FreshLabels (l₁ ++ l₂) syms ↔ FreshLabels l₁ syms ∧ FreshLabels l₂ (l₁.reverse ++ syms) := by
  induction l₁ generalizing syms with
  | nil => simp [FreshLabels]
  | cons x xs ih => simp [FreshLabels, ih, and_assoc]

def tokNames (ts : List Token) : List String := (ts.filter (·.typ == .text)).map (·.val)

def Stmt.refNames (s : Stmt) : List String :=
  tokNames s.a.toks ++ (match s.b with | some b => tokNames b.toks | none => [])

def Item.refNames : Item → List String
  | .stmt s => s.refNames
  | .comment _ _ => []

def itemsRefNames : List Item → List String
  | [] => []
  | it :: r => it.refNames ++ itemsRefNames r

theorem mem_addRefs {x : String} : ∀ {ts : List Token} {refs : List String},
    x ∈ addRefs ts refs → x ∈ refs ∨ x ∈ tokNames ts := by
  intro ts
  induction ts with
  | nil => intro refs h; exact Or.inl h
  | cons t ts ih =>
    intro refs h
    rcases ih h with h | h
    · split at h
      · rename_i hc
        rcases List.mem_cons.mp h with rfl | h
        · right
          simp only [Bool.and_eq_true] at hc
          simp [tokNames, hc.1]
        · exact Or.inl h
      · exact Or.inl h
    · exact Or.inr ((((List.sublist_cons_self t ts).filter _).map _).subset h)

theorem mem_stmt_refs {x : String} (s : Stmt) {refs : List String} (h : x ∈ s.refs refs) :
    x ∈ refs ∨ x ∈ s.refNames := by
  cases hb : s.b with
  | none =>
    simp only [Stmt.refs, Stmt.refNames, hb, List.append_nil] at h ⊢
    exact mem_addRefs h
  | some bo =>
    simp only [Stmt.refs, Stmt.refNames, hb, List.mem_append] at h ⊢
    rcases mem_addRefs h with h | h
    · exact (mem_addRefs h).imp_right Or.inl
    · exact Or.inr (Or.inr h)

theorem mem_itemsRefs {x : String} : ∀ {items : List Item} {refs : List String},
    x ∈ itemsRefs items refs → x ∈ refs ∨ x ∈ itemsRefNames items := by
  intro items
  induction items with
  | nil => intro refs h; exact Or.inl h
  | cons it items ih =>
    intro refs h
    rcases ih h with h | h
    · cases it with
      | stmt s => exact (mem_stmt_refs s h).imp_right (List.mem_append_left _)
      | comment v k => exact Or.inl h
    · exact Or.inr (List.mem_append_right _ h)

theorem FreshLabels_iff (ls syms : List String) :
    FreshLabels ls syms ↔ ls.Nodup ∧ ∀ l ∈ ls, l ∉ syms := by
  induction ls generalizing syms with
  | nil => simp [FreshLabels]
  | cons x xs ih =>
    simp only [FreshLabels, ih, List.nodup_cons, List.mem_cons, List.contains_eq_mem,
      decide_eq_false_iff_not]
    constructor
    · rintro ⟨h1, h2, h3⟩
      refine ⟨⟨fun hx => (h3 x hx) (Or.inl rfl), h2⟩, ?_⟩
      rintro l (rfl | hl)
      · exact h1
      · exact fun hm => h3 l hl (Or.inr hm)
    · rintro ⟨⟨h1, h2⟩, h3⟩
      refine ⟨h3 x (Or.inl rfl), h2, ?_⟩
      rintro l hl (rfl | hm)
      · exact h1 hl
      · exact h3 l (Or.inr hl) hm

/-- the names `newParser` puts into the symbol table -/
def predefined : List String := ["CORESIZE", "MAXLENGTH", "MAXPROCESSES", "MINDISTANCE"]

structure Prog where
  lead : Nat := 0
  items : List Item

def Prog.tokens (p : Prog) : List Token :=
  List.replicate p.lead nlTok ++ (itemsTokens p.items ++ [eofTok])

def Prog.labels (p : Prog) : List String := itemsLabels p.items

def Prog.lines (p : Prog) : List SourceLine :=
  blankLines 1 p.lead ++ itemsLines p.items (1 + p.lead) 0

def Prog.metadata (p : Prog) : AsmMeta := itemsMeta p.items {}

structure Prog.OK (p : Prog) : Prop where
  items : ∀ it ∈ p.items, it.OK
  nodup : p.labels.Nodup
  notPredefined : ∀ l ∈ p.labels, l ∉ predefined
  defined : ∀ x ∈ itemsRefNames p.items, x ∈ p.labels ∨ x ∈ predefined

theorem newParser_cons (t0 : Token) (rest0 : List Token) :
    newParser (t0 :: rest0) = ({} : Ctx).st t0 rest0 := by
  simp [newParser, advance, next, Ctx.st]

theorem parse_of_run {t0 : Token} {rest0 : List Token} {q : PState}
    (hrun : run (runFuel (t0 :: rest0)) .line (({} : Ctx).st t0 rest0) = .ok q)
    (herr : q.err = false) (hv : ∀ x ∈ q.references, x ∈ q.symbols) :
    parse (t0 :: rest0) = .ok (some (q.lines.toList, q.metadata)) := by
  have hsym : symbolsValid q = true := by simpa [symbolsValid] using hv
  rw [parse, newParser_cons, hrun]
  simp [bind, Except.bind, pure, Except.pure, herr, hsym]

theorem Prog.OK.refs_valid {p : Prog} (hp : p.OK) :
    ∀ x ∈ itemsRefs p.items [], x ∈ p.labels.reverse ++ predefined := by
  intro x hx
  rcases mem_itemsRefs hx with h | h
  · cases h
  · rcases hp.defined x h with h | h <;> simp [h]

/-- `Stmt.lines` (with its quirk of `parseExprA`) for consecutive statements without blank lines
    and comments, the first of them being statement number `i` (from 0) -/
def stmtsLines : List Stmt → Int → List SourceLine
  | [], _ => []
  | s :: r, i =>
    (match s.b with
     | some _ => [s.instrLine (i + 1) i]
     | none => [s.instrLine (i + 1) i, emptyLine (i + 1) 1]) ++ stmtsLines r (i + 1)

def stmtsTokens : List Stmt → List Token
  | [] => []
  | s :: r => s.tokens ++ stmtsTokens r

theorem itemsTokens_stmts (ss : List Stmt) : itemsTokens (ss.map .stmt) = stmtsTokens ss := by
  induction ss with
  | nil => rfl
  | cons s r ih => simp [itemsTokens, stmtsTokens, Item.tokens, ih]

theorem itemsLines_stmts (ss : List Stmt) (h0 : ∀ s ∈ ss, s.blanks = 0) (i : Int) :
    itemsLines (ss.map .stmt) (i + 1) i = stmtsLines ss i := by
  induction ss generalizing i with
  | nil => rfl
  | cons s r ih =>
    have hs : s.blanks = 0 := h0 s (by simp)
    have hr := ih (fun x hx => h0 x (by simp [hx])) (i + 1)
    simp only [List.map_cons, itemsLines, stmtsLines, Item.lines, Item.blanks, Item.codeLines, hs,
      Int.natCast_zero, Int.add_zero, hr]
    cases hb : s.b <;> simp [Stmt.lines, hb, hs, blankLines]

theorem itemsMeta_stmts (ss : List Stmt) (m : AsmMeta) : itemsMeta (ss.map .stmt) m = m := by
  induction ss with
  | nil => rfl
  | cons s r ih => simpa [itemsMeta, Item.metadata] using ih

theorem stmtsLines_allB (ss : List Stmt) (hb : ∀ s ∈ ss, s.b.isSome = true) (k : Int) :
    stmtsLines ss k = ss.mapIdx (fun i s => s.instrLine (k + i + 1) (k + i)) := by
  induction ss generalizing k with
  | nil => rfl
  | cons s r ih =>
    have hs : s.b.isSome = true := hb s (by simp)
    obtain ⟨bo, hbo⟩ := Option.isSome_iff_exists.mp hs
    rw [List.mapIdx_cons, stmtsLines, ih (fun x hx => hb x (by simp [hx])) (k + 1), hbo]
    simp only [Int.natCast_zero, Int.add_zero, List.cons_append, List.nil_append, List.cons.injEq,
      true_and]
    congr 1
    funext i s
    congr 1 <;> (simp only [Int.natCast_add, Int.natCast_one]; omega)

def isInstr (l : SourceLine) : Bool := l.typ == .instruction

def eraseLine (l : SourceLine) : SourceLine := { l with line := 0 }

def Item.stmt? : Item → Option Stmt
  | .stmt s => some { s with blanks := 0 }
  | .comment _ _ => none

def Prog.stmts (p : Prog) : List Stmt := p.items.filterMap Item.stmt?

theorem filter_blankLines (ln : Int) (k : Nat) : (blankLines ln k).filter isInstr = [] := by
  unfold blankLines; split <;> simp [isInstr, emptyLine]

theorem filter_stmt_lines (s : Stmt) (ln cl : Int) :
    (s.lines ln cl).filter isInstr = [s.instrLine ln cl] := by
  have h1 : isInstr (s.instrLine ln cl) = true := by simp [isInstr, Stmt.instrLine]
  have h2 : (s.instrLine ln cl).typ = .instruction := rfl
  cases hb : s.b with
  | none => simp [Stmt.lines, hb, h2, isInstr, emptyLine]
  | some bo => simp [Stmt.lines, hb, h1, filter_blankLines]

theorem filter_itemsLines (items : List Item) (ln cl : Int) :
    ((itemsLines items ln cl).filter isInstr).map eraseLine =
      ((stmtsLines (items.filterMap Item.stmt?) cl).filter isInstr).map eraseLine := by
  induction items generalizing ln cl with
  | nil => rfl
  | cons it items ih =>
    cases it with
    | stmt s =>
      simp only [itemsLines, Item.lines, List.filter_append, filter_stmt_lines, List.map_append,
        List.filterMap_cons, Item.stmt?, stmtsLines, ih, Item.codeLines]
      congr 1
      cases hb : s.b <;> simp [hb, isInstr, eraseLine, Stmt.instrLine, emptyLine, Stmt.labelNames]
    | comment v k =>
      simp only [itemsLines, Item.lines, List.filter_append, List.filter_cons, filter_blankLines,
        List.map_append, List.filterMap_cons, Item.stmt?, ih, Item.codeLines, Int.add_zero]
      simp [isInstr, commentLine]

/-- blank lines and comments change only the `line` numbers of the instruction entries -/
theorem instr_lines_strip (p : Prog) :
    (p.lines.filter isInstr).map eraseLine =
      ((stmtsLines p.stmts 0).filter isInstr).map eraseLine := by
  simp only [Prog.lines, List.filter_append, filter_blankLines, List.nil_append, Prog.stmts]
  exact filter_itemsLines p.items _ 0

theorem mem_blankLines {l : SourceLine} {ln : Int} {k : Nat} (h : l ∈ blankLines ln k) :
    l = emptyLine ln k := by
  unfold blankLines at h
  split at h <;> simp at h
  exact h

theorem mem_itemsLines {l : SourceLine} : ∀ {items : List Item} {ln cl : Int},
    l ∈ itemsLines items ln cl →
      isInstr l = true ∨ (∃ n k, l = emptyLine n k) ∨ ∃ n v, l = commentLine n v := by
  intro items
  induction items with
  | nil => intro ln cl h; cases h
  | cons it items ih =>
    intro ln cl h
    rcases List.mem_append.mp h with h | h
    · cases it with
      | stmt s =>
        simp only [Item.lines, Stmt.lines] at h
        split at h
        · rcases List.mem_cons.mp h with rfl | h
          · exact Or.inl rfl
          · exact Or.inr (Or.inl ⟨_, _, mem_blankLines h⟩)
        · simp only [List.mem_cons, List.not_mem_nil, or_false] at h
          rcases h with rfl | rfl
          · exact Or.inl rfl
          · exact Or.inr (Or.inl ⟨_, _, rfl⟩)
      | comment v k =>
        rcases List.mem_cons.mp h with rfl | h
        · exact Or.inr (Or.inr ⟨_, _, rfl⟩)
        · exact Or.inr (Or.inl ⟨_, _, mem_blankLines h⟩)
    · exact ih h

theorem other_lines_of_prog (p : Prog) :
    ∀ l ∈ p.lines, isInstr l = false →
      (l.typ = .empty ∨ l.typ = .comment) ∧ l.labels = [] ∧ l.op = "" ∧ l.a = none ∧ l.b = none ∧
        l.codeLine = 0 := by
  intro l hl hn
  have h : (∃ n k, l = emptyLine n k) ∨ ∃ n v, l = commentLine n v := by
    rcases List.mem_append.mp hl with h | h
    · exact Or.inl ⟨_, _, mem_blankLines h⟩
    · exact (mem_itemsLines h).resolve_left (by simp [hn])
  rcases h with ⟨n, k, rfl⟩ | ⟨n, v, rfl⟩
  · simp [emptyLine]
  · simp [commentLine]

end Gmars.Render

namespace Gmars.AsmCompose
open Gmars.Parser Gmars.Render

def stE (c : Ctx) (t : Token) (rest : List Token) : PState := { c.st t rest with endSeen := true }

def pseudoLine (ln : Int) (kw : String) (toks : List Token) : SourceLine :=
  { line := ln, typ := .pseudoOp, op := kw, a := some toks, newlines := 1 }

def endLine (ln : Int) (kw : String) (toks : List Token) : SourceLine :=
  { line := ln, typ := .pseudoOp, op := kw, a := if toks.isEmpty then none else some toks,
    newlines := 1 }

end Gmars.AsmCompose

namespace Gmars.AsmLayout

def cmtTok (v : String) : Token := ⟨.comment, v⟩

def cmtToks : Option String → List Token
  | none => []
  | some v => [cmtTok v]

end Gmars.AsmLayout
