/-
  Lemmas about the Go string-function models of `Gmars/Base/GoStr.lean`.  `fields` and
  `splitOnChar` are core's `List.splitOnP` / `List.splitOn` (`fields_eq`, `splitOnChar_eq`), `readLines`
  is `List.splitOn` with the newlines put back (`readLines_eq`); what `fields` does on laid-out text
  follows from one law, `fields_append_cons`.
-/
import Gmars.Base.GoStr

namespace Gmars.GoStr

theorem isDigit_iff (c : Char) : isDigit c = true ↔ 48 ≤ c.toNat ∧ c.toNat ≤ 57 := by
  simp only [isDigit, Char.le_def, decide_eq_true_eq, UInt32.le_iff_toNat_le, Char.toNat]
  exact Iff.rfl

theorem isDigit_of_charIsDigit {c : Char} (h : c.isDigit = true) : isDigit c = true := by
  rw [isDigit_iff]
  simp only [Char.isDigit, ge_iff_le, Bool.and_eq_true, decide_eq_true_eq, UInt32.le_iff_toNat_le] at h
  exact h

theorem isAlpha_iff (c : Char) :
    c.isAlpha = true ↔ (65 ≤ c.toNat ∧ c.toNat ≤ 90) ∨ (97 ≤ c.toNat ∧ c.toNat ≤ 122) := by
  simp only [Char.isAlpha, Char.isUpper, Char.isLower, Bool.or_eq_true, Bool.and_eq_true,
    decide_eq_true_eq, ge_iff_le, UInt32.le_iff_toNat_le]
  exact Iff.rfl

theorem isAsciiSpace_iff (c : Char) : isAsciiSpace c = true ↔
    c = ' ' ∨ c = '\t' ∨ c = '\n' ∨ c = '\x0b' ∨ c = '\x0c' ∨ c = '\r' := by
  simp [isAsciiSpace, or_assoc]

theorem isAsciiSpace_toNat_le {c : Char} (h : isAsciiSpace c = true) : c.toNat ≤ 32 := by
  rw [isAsciiSpace_iff] at h
  rcases h with rfl | rfl | rfl | rfl | rfl | rfl <;> decide

theorem digit_not_space {c : Char} (h : isDigit c = true) : isAsciiSpace c = false := by
  rw [isDigit_iff] at h
  refine Bool.eq_false_iff.mpr fun hs => ?_
  have := isAsciiSpace_toNat_le hs
  omega

theorem toNat_ofNat {n : Nat} (h : n < 0xD800) : (Char.ofNat n).toNat = n := by
  have : n.isValidChar := Or.inl h
  simp [Char.ofNat, this, Char.ofNatAux, Char.toNat]

theorem lowerChar_upper {c : Char} (h : 65 ≤ c.toNat ∧ c.toNat ≤ 90) :
    (lowerChar c).toNat = c.toNat + 32 := by
  rw [lowerChar, if_pos (show 'A' ≤ c ∧ c ≤ 'Z' from h), toNat_ofNat (by omega)]

/-- `lowerChar` on code points; the facts below are read off it by `omega` -/
theorem lowerChar_toNat (c : Char) :
    (65 ≤ c.toNat ∧ c.toNat ≤ 90 ∧ (lowerChar c).toNat = c.toNat + 32) ∨
    (c.toNat = 0x130 ∧ (lowerChar c).toNat = 105) ∨
    (c.toNat = 0x212A ∧ (lowerChar c).toNat = 107) ∨
    (¬(65 ≤ c.toNat ∧ c.toNat ≤ 90) ∧ c.toNat ≠ 0x130 ∧ c.toNat ≠ 0x212A ∧
      (lowerChar c).toNat = c.toNat) := by
  by_cases h : 65 ≤ c.toNat ∧ c.toNat ≤ 90
  · exact .inl ⟨h.1, h.2, lowerChar_upper h⟩
  · rw [lowerChar, if_neg (show ¬('A' ≤ c ∧ c ≤ 'Z') from h)]
    simp only [beq_iff_eq]
    split
    · exact .inr (.inl ⟨‹_›, rfl⟩)
    · split
      · exact .inr (.inr (.inl ⟨‹_›, rfl⟩))
      · exact .inr (.inr (.inr ⟨h, ‹_›, ‹_›, rfl⟩))

theorem toUpper_toNat (c : Char) :
    (97 ≤ c.toNat ∧ c.toNat ≤ 122 ∧ c.toUpper.toNat = c.toNat - 32) ∨
    (¬(97 ≤ c.toNat ∧ c.toNat ≤ 122) ∧ c.toUpper.toNat = c.toNat) := by
  unfold Char.toUpper
  by_cases h : 97 ≤ c.toNat ∧ c.toNat ≤ 122
  · rw [dif_pos (show 'a'.val ≤ c.val ∧ c.val ≤ 'z'.val from h)]
    refine .inl ⟨h.1, h.2, ?_⟩
    show (c.val + ('A'.val - 'a'.val)).toNat = _
    rw [UInt32.toNat_add, show ('A'.val - 'a'.val).toNat = 2 ^ 32 - 32 from rfl]
    have : c.val.toNat = c.toNat := rfl
    omega
  · rw [dif_neg (show ¬('a'.val ≤ c.val ∧ c.val ≤ 'z'.val) from h)]
    exact .inr ⟨h, rfl⟩

theorem lowerChar_of_not_upper {c : Char} (h : ¬ (65 ≤ c.toNat ∧ c.toNat ≤ 90)) (ha : c.toNat < 128) :
    lowerChar c = c := by
  have := lowerChar_toNat c
  exact Char.toNat_inj.mp (by omega)

theorem lowerChar_toNat_lt {c : Char} (h : c.toNat < 128) : (lowerChar c).toNat < 128 := by
  have := lowerChar_toNat c
  omega

theorem toUpper_toNat_lt {c : Char} (h : c.toNat < 128) : c.toUpper.toNat < 128 := by
  have := toUpper_toNat c
  omega

theorem lowerChar_idem (c : Char) : lowerChar (lowerChar c) = lowerChar c := by
  have h1 := lowerChar_toNat c
  have h2 := lowerChar_toNat (lowerChar c)
  exact Char.toNat_inj.mp (by omega)

theorem toLower_idem (l : Str) : toLower (toLower l) = toLower l := by
  simp [toLower, lowerChar_idem]

/-- `lowerChar` moves no character to or from one below `'A'` (its values are letters, or the
    character itself) -/
theorem lowerChar_eq_iff {c d : Char} (hd : d.toNat < 65) : lowerChar c = d ↔ c = d := by
  constructor
  · intro e
    have := lowerChar_toNat c
    rw [e] at this
    exact Char.toNat_inj.mp (by omega)
  · intro e
    rw [e]
    exact lowerChar_of_not_upper (by omega) (by omega)

theorem lowerChar_toUpper (c : Char) : lowerChar c.toUpper = lowerChar c := by
  rcases toUpper_toNat c with ⟨h1, h2, e⟩ | ⟨_, e⟩
  · apply Char.toNat_inj.mp
    rw [lowerChar_upper (c := c.toUpper) (by omega), e,
      lowerChar_of_not_upper (c := c) (by omega) (by omega)]
    omega
  · rw [Char.toNat_inj.mp e]

theorem toUpper_lowerChar {c : Char} (h : c.toNat < 128) : (lowerChar c).toUpper = c.toUpper := by
  by_cases hu : 65 ≤ c.toNat ∧ c.toNat ≤ 90
  · have e := lowerChar_upper hu
    have h1 := toUpper_toNat c
    have h2 := toUpper_toNat (lowerChar c)
    exact Char.toNat_inj.mp (by omega)
  · rw [lowerChar_of_not_upper hu h]

theorem lowerChar_beq (c : Char) {d : Char} (hd : d.toNat < 65) : (lowerChar c == d) = (c == d) := by
  rw [Bool.eq_iff_iff, beq_iff_eq, beq_iff_eq]
  exact lowerChar_eq_iff hd

theorem mem_toLower_iff {d : Char} (hd : d.toNat < 65) {s : Str} : d ∈ toLower s ↔ d ∈ s := by
  simp only [toLower, List.mem_map]
  constructor
  · rintro ⟨c, hc, e⟩
    exact (lowerChar_eq_iff hd).mp e ▸ hc
  · exact fun h => ⟨d, h, (lowerChar_eq_iff hd).mpr rfl⟩

theorem contains_toLower (s : Str) {d : Char} (hd : d.toNat < 65) :
    containsChar (toLower s) d = s.contains d := by
  rw [Bool.eq_iff_iff, containsChar, List.contains_iff_mem, List.contains_iff_mem]
  exact mem_toLower_iff hd

theorem beforeChar_toLower (s : Str) {d : Char} (hd : d.toNat < 65) :
    beforeChar (toLower s) d = toLower (s.takeWhile (· != d)) := by
  unfold beforeChar toLower
  rw [List.takeWhile_map]
  congr 2
  funext c
  simp only [Function.comp, bne, lowerChar_beq c hd]

theorem lowerChar_digit {c : Char} (h : isDigit c = true) : lowerChar c = c := by
  rw [isDigit_iff] at h
  exact lowerChar_of_not_upper (by omega) (by omega)

theorem lowerChar_space {c : Char} (h : isAsciiSpace c = true) : lowerChar c = c := by
  have := isAsciiSpace_toNat_le h
  exact lowerChar_of_not_upper (by omega) (by omega)

theorem isAsciiSpace_lower (c : Char) : isAsciiSpace (lowerChar c) = isAsciiSpace c := by
  rw [Bool.eq_iff_iff]
  refine ⟨fun h => ?_, fun h => by rw [lowerChar_space h]; exact h⟩
  have h' := h
  rw [isAsciiSpace_iff] at h'
  rcases h' with e | e | e | e | e | e <;>
    (rw [(lowerChar_eq_iff (by decide)).1 e] at h ⊢; first | exact h | decide)

theorem digitsVal_concat (a : Str) (c : Char) :
    digitsVal (a ++ [c]) = digitsVal a * 10 + (c.toNat - 48) := by
  simp [digitsVal, List.foldl_append]

theorem digitsVal_toDigits (n : Nat) : digitsVal (Nat.toDigits 10 n) = n := by
  have h : digitsVal (Nat.toDigits 10 n) = Nat.ofDigitChars 10 (Nat.toDigits 10 n) 0 := by
    simp only [digitsVal, Nat.ofDigitChars, Nat.mul_comm]
  rw [h, Nat.ofDigitChars_ten_toDigits]

theorem digitsVal_zeros (k : Nat) (ds : Str) :
    digitsVal (List.replicate k '0' ++ ds) = digitsVal ds := by
  induction k with
  | zero => simp
  | succ k ih =>
    rw [List.replicate_succ, List.cons_append]
    unfold digitsVal at *
    simpa [List.foldl_cons] using ih

theorem toDigits_head_ne_zero (n : Nat) (hn : 0 < n) :
    ∃ c cs, Nat.toDigits 10 n = c :: cs ∧ c ≠ '0' := by
  induction n using Nat.strongRecOn with
  | _ n ih =>
    rcases Nat.lt_or_ge n 10 with h | h
    · exact ⟨_, [], Nat.toDigits_of_lt_base h, fun e => Nat.ne_of_gt hn (Nat.digitChar_eq_zero.mp e)⟩
    · obtain ⟨c, cs, hc, hc0⟩ :=
        ih (n / 10) (Nat.div_lt_self hn (by decide)) (Nat.div_pos h (by decide))
      refine ⟨c, cs ++ [Nat.digitChar (n % 10)], ?_, hc0⟩
      rw [Nat.toDigits_of_base_le (by decide) h, hc, List.cons_append]

theorem toDigits_no_lead0 (n : Nat) (x : Char) (xs : Str) : Nat.toDigits 10 n ≠ '0' :: x :: xs := by
  intro h
  rcases Nat.eq_zero_or_pos n with rfl | hn
  · cases h
  · obtain ⟨c, cs, hc, hc0⟩ := toDigits_head_ne_zero n hn
    rw [h] at hc
    exact hc0 (List.cons.inj hc).1.symm

theorem toDigits_all_isDigit (n : Nat) : ∀ c ∈ Nat.toDigits 10 n, isDigit c = true :=
  fun _ hc => isDigit_of_charIsDigit (Nat.isDigit_of_mem_toDigits (by omega) (by omega) hc)

theorem toDigits_all (n : Nat) : (Nat.toDigits 10 n).all isDigit = true :=
  List.all_eq_true.mpr (toDigits_all_isDigit n)

theorem toDigits_isEmpty (n : Nat) : (Nat.toDigits 10 n).isEmpty = false :=
  List.isEmpty_eq_false_iff.2 Nat.toDigits_ne_nil

theorem parseInt_digits {ds : Str} (hne : ds ≠ []) (hd : ∀ c ∈ ds, isDigit c = true) (bits : Nat) :
    parseInt ds bits = if digitsVal ds < 2 ^ (bits - 1) then some (digitsVal ds : Int) else none := by
  have hall : ds.all isDigit = true := List.all_eq_true.mpr hd
  cases ds with
  | nil => exact absurd rfl hne
  | cons c r =>
    have hc : isDigit c = true := hd c (by simp)
    have h1 : c ≠ '+' := by rintro rfl; exact absurd hc (by decide)
    have h2 : c ≠ '-' := by rintro rfl; exact absurd hc (by decide)
    simp [parseInt, hall, h1, h2]

theorem parseInt_toDigits (n bits : Nat) (h : n < 2 ^ (bits - 1)) :
    parseInt (Nat.toDigits 10 n) bits = some (n : Int) := by
  rw [parseInt_digits Nat.toDigits_ne_nil (toDigits_all_isDigit n), digitsVal_toDigits, if_pos h]

def IsWord (w : Str) : Prop := w ≠ [] ∧ ∀ c ∈ w, isAsciiSpace c = false
def IsSep (g : Str) : Prop := g ≠ [] ∧ ∀ c ∈ g, isAsciiSpace c = true
def AllSpace (g : Str) : Prop := ∀ c ∈ g, isAsciiSpace c = true
/-- text made of an optional leading separator and words each followed by a separator -/
def layout (g0 : Str) (wgs : List (Str × Str)) : Str :=
  g0 ++ (wgs.map (fun p => p.1 ++ p.2)).flatten

theorem fields_go_eq (s cur : Str) (acc : List Str) :
    fields.go s cur acc =
      acc.reverse ++ (List.splitOnPPrepend isAsciiSpace s cur).filter (!·.isEmpty) := by
  induction s generalizing cur acc with
  | nil => cases cur <;> simp [fields.go]
  | cons c s ih =>
    rw [fields.go, List.splitOnPPrepend_cons_eq_if]
    split
    · rw [ih]; cases cur <;> simp
    · exact ih _ _

theorem fields_eq (s : Str) : fields s = (s.splitOnP isAsciiSpace).filter (!·.isEmpty) :=
  (fields_go_eq s [] []).trans (List.nil_append _)

theorem fields_append_cons (s : Str) {c : Char} (hc : isAsciiSpace c = true) (t : Str) :
    fields (s ++ c :: t) = fields s ++ fields t := by
  simp only [fields_eq, List.splitOnP_append_cons s t hc, List.filter_append]

theorem fields_word {w : Str} (hw : IsWord w) : fields w = [w] := by
  obtain ⟨x, xs, rfl⟩ := List.exists_cons_of_ne_nil hw.1
  rw [fields_eq, List.splitOnP_eq_singleton hw.2]
  rfl

theorem fields_allSpace_append {g : Str} (hg : AllSpace g) (s : Str) : fields (g ++ s) = fields s := by
  induction g with
  | nil => rfl
  | cons c g ih =>
    exact (fields_append_cons [] (hg c List.mem_cons_self) _).trans
      (ih fun x hx => hg x (List.mem_cons_of_mem _ hx))

theorem fields_allSpace {ws : Str} (h : AllSpace ws) : fields ws = [] :=
  (congrArg fields (List.append_nil ws).symm).trans (fields_allSpace_append h [])

theorem fields_append_space (s ws : Str) (h : AllSpace ws) : fields (s ++ ws) = fields s := by
  cases ws with
  | nil => rw [List.append_nil]
  | cons c r =>
    rw [fields_append_cons s (h c List.mem_cons_self),
      fields_allSpace fun x hx => h x (List.mem_cons_of_mem _ hx), List.append_nil]

theorem fields_word_sep {w g : Str} (hw : IsWord w) (hg : IsSep g) (s : Str) :
    fields (w ++ g ++ s) = w :: fields s := by
  obtain ⟨c, r, rfl⟩ := List.exists_cons_of_ne_nil hg.1
  rw [List.append_assoc, List.cons_append, fields_append_cons w (hg.2 c List.mem_cons_self),
    fields_word hw, fields_allSpace_append fun x hx => hg.2 x (List.mem_cons_of_mem _ hx)]
  rfl

theorem fields_layout_append (g0 : Str) (wgs : List (Str × Str)) (s : Str)
    (h0 : AllSpace g0) (h : ∀ p ∈ wgs, IsWord p.1 ∧ IsSep p.2) :
    fields (layout g0 wgs ++ s) = wgs.map (·.1) ++ fields s := by
  rw [layout, List.append_assoc, fields_allSpace_append h0]
  induction wgs with
  | nil => rfl
  | cons p r ih =>
    rw [List.map_cons, List.flatten_cons, List.append_assoc,
      fields_word_sep (h p List.mem_cons_self).1 (h p List.mem_cons_self).2,
      ih fun q hq => h q (List.mem_cons_of_mem _ hq)]
    rfl

theorem fields_layout (g0 : Str) (wgs : List (Str × Str)) (h0 : AllSpace g0)
    (h : ∀ p ∈ wgs, IsWord p.1 ∧ IsSep p.2) :
    fields (layout g0 wgs) = wgs.map (·.1) := by
  have := fields_layout_append g0 wgs [] h0 h
  rwa [List.append_nil, show fields [] = [] from rfl, List.append_nil] at this

/-- the pieces between newlines as `ReadString('\n')` delivers them: each but the last with its
    newline, the last only if it is not empty -/
def relines : List Str → List Str
  | [] => []
  | [p] => if p.isEmpty then [] else [p]
  | p :: q :: r => (p ++ ['\n']) :: relines (q :: r)

theorem relines_cons (p : Str) {r : List Str} (h : r ≠ []) :
    relines (p :: r) = (p ++ ['\n']) :: relines r := by
  cases r with
  | nil => exact absurd rfl h
  | cons q r => rfl

theorem readLines_go_eq (s cur : Str) (acc : List Str) :
    readLines.go s cur acc = acc.reverse ++ relines (List.splitOnPPrepend (· == '\n') s cur) := by
  induction s generalizing cur acc with
  | nil => cases cur <;> simp [readLines.go, relines]
  | cons c s ih =>
    rw [readLines.go, List.splitOnPPrepend_cons_eq_if]
    split
    · next hc =>
      cases beq_iff_eq.1 hc
      rw [ih, relines_cons _ (List.splitOnP_ne_nil _ _)]
      simp
    · exact ih _ _

theorem readLines_eq (s : Str) : readLines s = relines (s.splitOn '\n') :=
  (readLines_go_eq s [] []).trans (List.nil_append _)

theorem readLines_cons_line (l s : Str) (h : ∀ c ∈ l, c ≠ '\n') :
    readLines (l ++ '\n' :: s) = (l ++ ['\n']) :: readLines s := by
  rw [readLines_eq, List.splitOn_append_cons_self_of_not_mem fun hm => h _ hm rfl,
    relines_cons _ (List.splitOn_ne_nil _ _), readLines_eq]

theorem readLines_nonl (l : Str) (h : ∀ c ∈ l, c ≠ '\n') :
    readLines l = if l.isEmpty then [] else [l] := by
  rw [readLines_eq, List.splitOn_eq_singleton fun hm => h _ hm rfl]
  rfl

theorem readLines_lines (ls : List Str) (h : ∀ l ∈ ls, ∀ c ∈ l, c ≠ '\n') :
    readLines ((ls.map (· ++ ['\n'])).flatten) = ls.map (· ++ ['\n']) := by
  induction ls with
  | nil => rfl
  | cons l r ih =>
    rw [List.map_cons, List.flatten_cons, List.append_assoc, List.singleton_append,
      readLines_cons_line _ _ (h l List.mem_cons_self), ih fun q hq => h q (List.mem_cons_of_mem _ hq)]

theorem AllSpace.append {g h : Str} (hg : AllSpace g) (hh : AllSpace h) : AllSpace (g ++ h) :=
  List.forall_mem_append.2 ⟨hg, hh⟩

theorem allSpace_nil : AllSpace [] := by intro c hc; cases hc

theorem allSpace_cons {c : Char} {g : Str} (hc : isAsciiSpace c = true) (hg : AllSpace g) :
    AllSpace (c :: g) :=
  List.forall_mem_cons.2 ⟨hc, hg⟩

theorem allSpace_nl : AllSpace ['\n'] := allSpace_cons (by decide) allSpace_nil

theorem allSpace_ne {g : Str} (hg : AllSpace g) {x : Char} (hx : isAsciiSpace x = false) :
    ∀ c ∈ g, c ≠ x := by
  intro c hc e; subst e; rw [hg c hc] at hx; cases hx

theorem allSpace_cr : AllSpace ['\r'] := allSpace_cons (by decide) allSpace_nil

theorem toLower_append (a b : Str) : toLower (a ++ b) = toLower a ++ toLower b := by
  simp [toLower]

theorem toLower_allSpace {ws : Str} (h : AllSpace ws) : toLower ws = ws :=
  (List.map_congr_left fun c hc => lowerChar_space (h c hc)).trans (List.map_id ws)

theorem comma_not_mem {ws : Str} (h : AllSpace ws) : ',' ∉ ws :=
  fun hc => allSpace_ne h (by decide) _ hc rfl

theorem replaceComma_allSpace {ws : Str} (h : AllSpace ws) : replaceComma ws = ws := by
  refine (List.map_congr_left fun c hc => if_neg ?_).trans (List.map_id ws)
  rw [beq_iff_eq]
  rintro rfl
  exact comma_not_mem h hc

theorem replaceComma_append (a b : Str) : replaceComma (a ++ b) = replaceComma a ++ replaceComma b := by
  simp [replaceComma]

theorem contains_append_space (s ws : Str) (h : AllSpace ws) :
    containsChar (s ++ ws) ',' = containsChar s ',' := by
  simp only [containsChar, List.contains_eq_mem, List.mem_append, comma_not_mem h, or_false]

theorem trimLeft_allSpace {g : Str} (hg : AllSpace g) (s : Str) : trimLeft (g ++ s) = trimLeft s :=
  List.dropWhile_append_of_pos hg

theorem trimLeft_allSpace_nil {g : Str} (hg : AllSpace g) : trimLeft g = [] := by
  have := trimLeft_allSpace hg []
  simpa [trimLeft] using this

theorem trimLeft_cons {c : Char} (hc : isAsciiSpace c = false) (s : Str) : trimLeft (c :: s) = c :: s := by
  simp [trimLeft, hc]

theorem trimSpace_core {g g' core : Str} (hg : AllSpace g) (hg' : AllSpace g')
    (hhead : ∀ a r, core = a :: r → isAsciiSpace a = false)
    (hlast : ∀ z r, core = r ++ [z] → isAsciiSpace z = false) :
    trimSpace (g ++ core ++ g') = core := by
  unfold trimSpace
  rw [List.append_assoc, trimLeft_allSpace hg]
  cases core with
  | nil =>
    rw [List.nil_append, trimLeft_allSpace_nil hg']
    rfl
  | cons a r =>
    rw [List.cons_append, trimLeft_cons (hhead a r rfl), ← List.cons_append, List.reverse_append,
      trimLeft_allSpace fun c hc => hg' c (List.mem_reverse.1 hc)]
    cases hrev : (a :: r).reverse with
    | nil => simp at hrev
    | cons z t =>
      rw [trimLeft_cons (hlast z t.reverse (List.reverse_eq_cons_iff.1 hrev)), ← hrev,
        List.reverse_reverse]

theorem last_of_append {pre A r : Str} {z : Char} (hne : A ≠ []) (h : pre ++ A = r ++ [z]) : z ∈ A := by
  have h1 : (pre ++ A).getLast? = some z := by rw [h]; simp
  rw [List.getLast?_append, List.getLast?_eq_some_getLast hne] at h1
  simp only [Option.some_or, Option.some.injEq] at h1
  rw [← h1]; exact List.getLast_mem hne

theorem trimSpace_words {g g' core w z : Str} (hg : AllSpace g) (hg' : AllSpace g') (hw : IsWord w)
    (hz : IsWord z) (hpre : w <+: core) (hsuf : z <:+ core) : trimSpace (g ++ core ++ g') = core := by
  obtain ⟨t, rfl⟩ := hpre
  obtain ⟨p, hp⟩ := hsuf
  apply trimSpace_core hg hg'
  · intro a r h
    obtain ⟨x, xs, rfl⟩ := List.exists_cons_of_ne_nil hw.1
    cases h
    exact hw.2 a List.mem_cons_self
  · intro c r h
    exact hz.2 c (last_of_append hz.1 (hp.trans h))

theorem trimSpace_noSpace {g g' w : Str} (hg : AllSpace g) (hg' : AllSpace g')
    (hw : ∀ c ∈ w, isAsciiSpace c = false) :
    trimSpace (g ++ w ++ g') = w :=
  trimSpace_core hg hg' (fun a r h => hw a (by simp [h])) (fun z r h => hw z (by simp [h]))

theorem span_of (p : Char → Bool) (X r : Str) (hX : ∀ c ∈ X, p c = true)
    (hr : ∀ c ∈ r.head?, p c = false) :
    (X ++ r).takeWhile p = X ∧ (X ++ r).dropWhile p = r := by
  rw [List.takeWhile_append_of_pos hX, List.dropWhile_append_of_pos hX]
  cases r with
  | nil => simp
  | cons c t => simp [hr c rfl]

theorem splitOnChar_go_eq (c : Char) (s cur : Str) (acc : List Str) :
    splitOnChar.go c s cur acc = acc.reverse ++ List.splitOnPPrepend (· == c) s cur := by
  induction s generalizing cur acc with
  | nil => simp [splitOnChar.go]
  | cons x s ih =>
    rw [splitOnChar.go, List.splitOnPPrepend_cons_eq_if]
    split
    · rw [ih]; simp
    · exact ih _ _

theorem splitOnChar_eq (s : Str) (c : Char) : splitOnChar s c = s.splitOn c :=
  (splitOnChar_go_eq c s [] []).trans (List.nil_append _)

theorem splitOnChar_go_length (c : Char) (s cur : Str) (acc : List Str) :
    (splitOnChar.go c s cur acc).length = acc.length + s.count c + 1 := by
  induction s generalizing cur acc with
  | nil => simp [splitOnChar.go]
  | cons x r ih =>
    unfold splitOnChar.go
    by_cases hx : x = c
    · subst hx
      simp only [beq_self_eq_true, if_true, ih, List.length_cons, List.count_cons_self]
      omega
    · have : (x == c) = false := by simpa using hx
      simp only [this, Bool.false_eq_true, if_false, ih]
      rw [List.count_cons_of_ne (by simpa using hx)]

theorem splitOnChar_length (c : Char) (s : Str) : (splitOnChar s c).length = s.count c + 1 := by
  unfold splitOnChar
  rw [splitOnChar_go_length]; simp

theorem splitOnChar_none (c : Char) (a : Str) (ha : ∀ x ∈ a, x ≠ c) : splitOnChar a c = [a] := by
  rw [splitOnChar_eq, List.splitOn_eq_singleton fun h => ha c h rfl]

theorem splitOnChar_one (c : Char) (a b : Str) (ha : ∀ x ∈ a, x ≠ c) (hb : ∀ x ∈ b, x ≠ c) :
    splitOnChar (a ++ c :: b) c = [a, b] := by
  rw [splitOnChar_eq, List.splitOn_append_cons_self_of_not_mem fun h => ha c h rfl,
    List.splitOn_eq_singleton fun h => hb c h rfl]

theorem takeWhile_ne_self (c : Char) (s : Str) (h : ∀ x ∈ s, x ≠ c) : s.takeWhile (· != c) = s := by
  have := List.takeWhile_append_of_pos (p := (· != c)) (l₁ := s) (l₂ := [])
    (by intro x hx; simp [h x hx])
  simpa using this

end Gmars.GoStr

-- what may stand between the tokens of a printed line; here because the load-file readers
-- (Proofs/LineSyntax.lean) and the lexer (Proofs/RenderLex.lean) both speak of it
def Gmars.RoundTrip.Blanks (g : Gmars.GoStr.Str) : Prop :=
  ∀ c ∈ g, Gmars.GoStr.isAsciiSpace c = true ∧ c ≠ '\n'
