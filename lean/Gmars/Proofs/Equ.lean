/-
  EQU tables, the reference's side against the model's.

  Substitution: the reference's `Spec.expandEqus` is iterated parallel substitution (`iterE`) on
  ranked (acyclic) tables, and `iterE` is the model's `iterT` (SubstT.lean) seen through the
  rendering of tokens.
  One expression of a program with EQUs: the model's `expandExpression` + `evaluateExpression`
  against the reference's `Spec.evalAt` (`operandM_evalAt`), with the table as loaded.  That
  serves the `;assert` lines, the operands and the start expression alike: the phases after
  `expandExpressions` can be read with the table as loaded (`Compile.compileFrom_eq`).
  Sizes: how the size condition `SizeOK` is established, and that a table on which
  `Spec.expandEqus 64` succeeds for every body is ranked, so the reference rejects every cyclic
  table.
-/
import Gmars.Proofs.EquDefs
import Gmars.Proofs.AsmSubst

namespace Gmars.AsmLine
open Gmars.Compile Gmars.ExprProofs

theorem stepE_nil (tab : ETab) : stepE tab [] = [] := rfl

theorem stepE_cons (tab : ETab) (t : Spec.ETok) (r : List Spec.ETok) :
    stepE tab (t :: r) = stepETok tab t ++ stepE tab r := by
  simp [stepE]

theorem stepE_append (tab : ETab) (a b : List Spec.ETok) :
    stepE tab (a ++ b) = stepE tab a ++ stepE tab b := by
  simp [stepE]

theorem stepETok_name (tab : ETab) (s : String) :
    stepETok tab (.name s) = (tab.get? s).getD [.name s] := by
  unfold ETab.get?
  simp only [stepETok]
  cases tab.find? (·.1 == s) with
  | none => rfl
  | some p => rfl

def EKeyFree (tab : ETab) (ts : List Spec.ETok) : Prop :=
  ∀ s, Spec.ETok.name s ∈ ts → tab.get? s = none

theorem stepE_keyfree (tab : ETab) (ts : List Spec.ETok) (h : EKeyFree tab ts) : stepE tab ts = ts := by
  induction ts with
  | nil => rfl
  | cons t r ih =>
    rw [stepE_cons, ih (fun s hs => h s (List.mem_cons_of_mem _ hs))]
    cases t with
    | name s => rw [stepETok_name, h s (List.mem_cons_self ..)]; rfl
    | _ => rfl

theorem iterE_keyfree (tab : ETab) (k : Nat) (ts : List Spec.ETok) (h : EKeyFree tab ts) :
    iterE tab k ts = ts := by
  induction k with
  | zero => rfl
  | succ k ih => rw [iterE, stepE_keyfree tab ts h, ih]

/-- the test `Spec.expandEqus` ends its rounds with -/
def keyFreeB (tab : ETab) (ts : List Spec.ETok) : Bool :=
  ts.all fun | .name n => (tab.find? (·.1 == n)).isNone | _ => true

theorem keyFreeB_iff (tab : ETab) (ts : List Spec.ETok) : keyFreeB tab ts = true ↔ EKeyFree tab ts := by
  rw [keyFreeB, List.all_eq_true]
  constructor
  · intro h s hs
    exact Option.map_eq_none_iff.2 (Option.isNone_iff_eq_none.1 (h _ hs))
  · intro h t ht
    cases t with
    | name s => exact Option.isNone_iff_eq_none.2 (Option.map_eq_none_iff.1 (h s ht))
    | _ => rfl

theorem expandEqus_succ (f : Nat) (tab : ETab) (ts : List Spec.ETok) :
    Spec.expandEqus (f + 1) tab ts =
      if ts.length > 20000 then none
      else if keyFreeB tab ts then some ts
      else Spec.expandEqus f tab (stepE tab ts) := rfl

theorem tokOf_typ_text (t : Spec.ETok) : (tokOf t).typ = .text ↔ ∃ s, t = .name s := by
  cases t <;> simp [tokOf, textTok, ExprProofs.numTok, opTok, lpTok, rpTok]

theorem tokOf_name (s : String) : tokOf (.name s) = textTok s := rfl

theorem cst_tokens_eq (c : CST) : c.tokens = toksOf c.etoks := by
  unfold toksOf
  induction c with
  | num n => rfl
  | signs ss e ih =>
    simp only [CST.tokens, CST.etoks, List.map_append, List.map_map, ih]
    rfl
  | paren e ih => simp only [CST.tokens, CST.etoks, List.map_cons, List.map_append, ih]; rfl
  | bin op l r ihl ihr =>
    simp only [CST.tokens, CST.etoks, List.map_cons, List.map_append, ihl, ihr]; rfl

def TabRel (V : SymTab) (tab : ETab) : Prop := ∀ s, V.get? s = (tab.get? s).map toksOf

theorem stepT_toksOf {V : SymTab} {tab : ETab} (h : TabRel V tab) (ts : List Spec.ETok) :
    stepT V (toksOf ts) = toksOf (stepE tab ts) := by
  induction ts with
  | nil => rfl
  | cons t r ih =>
    show stepT V (tokOf t :: toksOf r) = _
    rw [stepT_cons, ih, stepE_cons]
    unfold toksOf
    rw [List.map_append]
    congr 1
    cases t with
    | name s =>
      rw [stepETok_name, tokOf_name, stepTTok_text _ _ rfl]
      show (V.get? s).getD _ = _
      rw [h s]
      cases tab.get? s <;> rfl
    | _ => exact stepTTok_notext V _ nofun

theorem iterT_toksOf {V : SymTab} {tab : ETab} (h : TabRel V tab) (k : Nat) :
    ∀ ts : List Spec.ETok, iterT V k (toksOf ts) = toksOf (iterE tab k ts) := by
  induction k with
  | zero => intro ts; rfl
  | succ k ih => intro ts; rw [iterT, stepT_toksOf h, ih]; rfl

theorem substT_toksOf (σ : String → Option Int) (ts : List Spec.ETok) :
    substT (rendσ σ) (toksOf ts) = (substE σ ts).map toksOf := by
  induction ts with
  | nil => rfl
  | cons t r ih =>
    show substT (rendσ σ) (tokOf t :: toksOf r) = _
    cases t with
    | name s =>
      simp only [substT, substE, rendσ, tokOf_name, textTok, beq_self_eq_true, if_true, ih]
      cases σ s with
      | none => rfl
      | some v =>
        simp only [Option.map_some, Option.bind_some]
        cases substE σ r with
        | none => rfl
        | some rest =>
          simp only [Option.map_some, cst_tokens_eq, toksOf, List.map_append]
    | _ =>
      show (substT (rendσ σ) (toksOf r)).map _ = ((substE σ r).map _).map toksOf
      rw [ih]
      cases substE σ r <;> rfl

theorem ERanked.tranked {V : SymTab} {tab : ETab} {d : String → Nat} (h : TabRel V tab)
    (hr : ERanked tab d) : TRanked V d := by
  intro k v hkv t ht htx hsome
  rw [h k] at hkv
  obtain ⟨e, hg, rfl⟩ := Option.map_eq_some_iff.1 hkv
  obtain ⟨x, hx, rfl⟩ := List.mem_map.1 ht
  obtain ⟨s, rfl⟩ := (tokOf_typ_text x).1 htx
  refine hr k e hg s hx ?_
  change (V.get? s).isSome = true at hsome
  rwa [h s, Option.isSome_map] at hsome

theorem TKeyFree.ekeyfree {V : SymTab} {tab : ETab} (h : TabRel V tab) {ts : List Spec.ETok}
    (hk : TKeyFree V (toksOf ts)) : EKeyFree tab ts := by
  intro s hs
  have := hk _ (List.mem_map_of_mem (f := tokOf) hs) rfl
  rw [tokOf_name, textTok, h s] at this
  exact Option.map_eq_none_iff.1 this

/-- Ranks and bounds are those of the rendered table: the two alphabets share SubstT.lean. -/
theorem expandEqus_ranked {V : SymTab} {tab : ETab} {d : String → Nat} (h : TabRel V tab)
    (hr : TRanked V d) :
    ∀ (F r : Nat) (ts : List Spec.ETok), TBound V d r (toksOf ts) → r < F →
      (∀ j, j ≤ r → (iterE tab j ts).length ≤ 20000) →
      Spec.expandEqus F tab ts = some (iterE tab r ts) ∧ EKeyFree tab (iterE tab r ts) := by
  intro F
  induction F with
  | zero => intro r ts _ h; omega
  | succ f ih =>
    intro r ts hb hlt hlen
    have h0 : ts.length ≤ 20000 := hlen 0 (Nat.zero_le _)
    rw [expandEqus_succ, if_neg (Nat.not_lt.2 h0)]
    by_cases hk : EKeyFree tab ts
    · rw [if_pos ((keyFreeB_iff tab ts).2 hk), iterE_keyfree tab r ts hk]
      exact ⟨rfl, hk⟩
    · rw [if_neg (fun h => hk ((keyFreeB_iff tab ts).1 h))]
      cases r with
      | zero => exact absurd (hb.keyfree.ekeyfree h) hk
      | succ r =>
        refine ih r (stepE tab ts) ?_ (Nat.lt_of_succ_lt_succ hlt)
          (fun j hj => hlen (j + 1) (Nat.succ_le_succ hj))
        rw [← stepT_toksOf h]
        exact hb.step hr

/-- the model's EQU table and the reference's describe the same acyclic definitions: same
    lookups (up to token rendering), distinct keys, a rank with EQU chains shorter than 64 -/
structure EquCtx (V : SymTab) (tab : ETab) (d : String → Nat) : Prop where
  rel : TabRel V tab
  nodup : (V.map (·.1)).Nodup
  ranked : ERanked tab d
  lt : ∀ s, d s < 63

theorem EquCtx.acyclic {V : SymTab} {tab : ETab} {d : String → Nat} (h : EquCtx V tab d) :
    graphContainsCycle (buildReferenceGraph V) = false :=
  acyclic_of_tranked h.nodup (h.ranked.tranked h.rel)

theorem EquCtx.tranked {V : SymTab} {tab : ETab} {d : String → Nat} (h : EquCtx V tab d) :
    TRanked V d := h.ranked.tranked h.rel

theorem EquCtx.tbound {V : SymTab} {tab : ETab} {d : String → Nat} (h : EquCtx V tab d)
    (ts : List Token) : TBound V d 63 ts := fun t _ _ _ => h.lt t.val

/-- what the reference's size limit must not cut off -/
def SizeOK (tab : ETab) (e : List Spec.ETok) : Prop := ∀ j, j ≤ 63 → (iterE tab j e).length ≤ 20000

theorem EquCtx.expandEqus {V : SymTab} {tab : ETab} {d : String → Nat} (h : EquCtx V tab d)
    {e : List Spec.ETok} (hs : SizeOK tab e) : Spec.expandEqus 64 tab e = some (iterE tab 63 e) :=
  (expandEqus_ranked h.rel h.tranked 64 63 e (h.tbound _) (by omega) hs).1

/-- the compiler state and the reference tables agree on the labels -/
structure XRel (c : Compiler) (sc : Spec.Cfg) (t : Spec.Tables) : Prop where
  crel : CRel c sc
  labels : c.labels = t.labels.map castL
  small : ∀ p ∈ t.labels, p.2 < 2 ^ 63

/-- the fully expanded expression is the token list of a precedence-well-formed tree inside the
    range the `go/types.Eval` model answers on -/
def TreeOK (sc : Spec.Cfg) (t : Spec.Tables) (k : Nat) (e : List Spec.ETok) : Prop :=
  ∀ x out, Spec.expandEqus 64 t.equs e = some x → Spec.substLabels sc t k x = some out →
    ∃ c : CST, WFprec c ∧ NoBigLit c ∧ c.etoks = out

theorem XRel.m_ne {c : Compiler} {sc : Spec.Cfg} {t : Spec.Tables} (hr : XRel c sc t) :
    mInt c.m ≠ 0 := by
  rw [hr.crel.m]; have := hr.crel.pos; omega

theorem XRel.m_lt {c : Compiler} {sc : Spec.Cfg} {t : Spec.Tables} (hr : XRel c sc t) :
    mInt c.m < 9223372036854775808 := by
  rw [hr.crel.m]; have := hr.crel.lt; omega

theorem EquCtx.keyfree {V : SymTab} {tab : ETab} {d : String → Nat} (h : EquCtx V tab d)
    (e : List Spec.ETok) : TKeyFree V (iterT V 63 (toksOf e)) :=
  iterT_keyfree_of_bound h.tranked 63 _ (h.tbound _)

/-- Both sides expand the symbols completely (63 rounds are enough for either), then write the
    labels as offsets, then evaluate (`model_agrees_with_reference`). -/
theorem operandM_evalAt {c : Compiler} {sc : Spec.Cfg} {t : Spec.Tables} {d : String → Nat}
    (hr : XRel c sc t) (hx : EquCtx c.values t.equs d) (k : Nat) (hk : t.labels ≠ [] → k < 2 ^ 63)
    (e : List Spec.ETok) (hs : SizeOK t.equs e) (hwf : TreeOK sc t k e) :
    operandM c (toksOf e) (k : Int) = optM (Spec.evalAt sc t k e) := by
  have hfun : labC c (k : Int) = rendσ (sigmaS sc.M t.labels k) := by
    rw [labC_eq c k hr.m_ne hr.m_lt,
      funext (sigma_agree c sc.M t.labels k hr.labels hr.crel.m hr.small hk)]
  have hE := hx.expandEqus hs
  unfold operandM
  rw [(GoodTable.of_acyclic hr.m_ne hx.acyclic).expand _ _ (hx.keyfree e)]
  unfold finT
  rw [iterT_toksOf hx.rel 63 e, hfun, substT_toksOf]
  unfold Spec.evalAt
  rw [hE]
  simp only [Option.bind_eq_bind, Option.bind_some]
  have hsub := substLabels_eq sc t k (iterE t.equs 63 e)
  rw [hsub]
  cases hout : substE (sigmaS sc.M t.labels k) (iterE t.equs 63 e) with
  | none => rfl
  | some out =>
    obtain ⟨x, h1, h2, rfl⟩ := hwf _ out hE (by rw [hsub, hout])
    show evalM (toksOf x.etoks) = _
    rw [← cst_tokens_eq]
    unfold evalM
    rw [model_agrees_with_reference x h1 h2]
    simp only [Option.bind_some]
    cases Spec.Expr.evalInt x.etoks <;> rfl

theorem iterE_nil (tab : ETab) (k : Nat) : iterE tab k [] = [] := by
  induction k with
  | zero => rfl
  | succ k ih => rw [iterE, stepE_nil, ih]

theorem iterE_append (tab : ETab) (k : Nat) : ∀ a b : List Spec.ETok,
    iterE tab k (a ++ b) = iterE tab k a ++ iterE tab k b := by
  induction k with
  | zero => intro a b; rfl
  | succ k ih => intro a b; rw [iterE, stepE_append, ih]; rfl

theorem iterE_add (tab : ETab) (a b : Nat) : ∀ ts : List Spec.ETok,
    iterE tab (a + b) ts = iterE tab b (iterE tab a ts) := by
  induction a with
  | zero => intro ts; rw [Nat.zero_add]; rfl
  | succ a ih =>
    intro ts
    rw [show a + 1 + b = (a + b) + 1 by omega]
    simp only [iterE]
    exact ih _

theorem iterE_succ' (tab : ETab) (k : Nat) (ts : List Spec.ETok) :
    iterE tab (k + 1) ts = stepE tab (iterE tab k ts) := by
  rw [iterE_add tab k 1 ts]; rfl

theorem expandEqus_size {tab : ETab} : ∀ (F : Nat) (e x : List Spec.ETok),
    Spec.expandEqus F tab e = some x → x.length ≤ 20000 → ∀ j, (iterE tab j e).length ≤ 20000
  | 0, e, x, h, hx, j => by
    unfold Spec.expandEqus at h
    split at h
    · cases h
    · rename_i hn
      cases h
      rwa [iterE_keyfree tab j e fun s hs => absurd (List.any_eq_true.2 ⟨_, hs, rfl⟩) hn]
  | F + 1, e, x, h, hx, j => by
    rw [expandEqus_succ] at h
    split at h
    · cases h
    · rename_i hlen
      split at h
      · rename_i hk
        cases h
        rwa [iterE_keyfree tab j e ((keyFreeB_iff tab e).1 hk)]
      · cases j with
        | zero => exact Nat.le_of_not_gt hlen
        | succ j => exact expandEqus_size F _ x h hx j

theorem stepE_length_le {tab : ETab} (hne : ∀ p ∈ tab, p.2 ≠ []) (ts : List Spec.ETok) :
    ts.length ≤ (stepE tab ts).length := by
  induction ts with
  | nil => simp [stepE]
  | cons t r ih =>
    rw [stepE_cons, List.length_append, List.length_cons]
    have : 1 ≤ (stepETok tab t).length := by
      cases t with
      | name s =>
        rw [stepETok_name]
        unfold ETab.get?
        cases hf : tab.find? (·.1 == s) with
        | none => simp
        | some p => exact List.length_pos_iff.2 (hne p (List.mem_of_find?_eq_some hf))
      | _ => simp [stepETok]
    omega

/-- with non-empty EQU bodies the expansion only grows: the final size bounds every round -/
theorem sizeOK_of_final {tab : ETab} (hne : ∀ p ∈ tab, p.2 ≠ []) {e : List Spec.ETok}
    (h : (iterE tab 63 e).length ≤ 20000) : SizeOK tab e := by
  have hmono : ∀ i j, (iterE tab j e).length ≤ (iterE tab (j + i) e).length := by
    intro i
    induction i with
    | zero => intro j; exact Nat.le_refl _
    | succ i ih =>
      intro j
      refine Nat.le_trans (ih j) ?_
      rw [show j + (i + 1) = (j + i) + 1 by omega, iterE_succ']
      exact stepE_length_le hne _
  intro j hj
  have := hmono (63 - j) j
  rw [show j + (63 - j) = 63 by omega] at this
  omega

/-- the number of rounds `Spec.expandEqus` performs (capped by the fuel) -/
def rounds (tab : ETab) : Nat → List Spec.ETok → Nat
  | 0, _ => 0
  | f + 1, ts => if keyFreeB tab ts then 0 else rounds tab f (stepE tab ts) + 1

theorem expandEqus_rounds (tab : ETab) : ∀ (F : Nat) (ts out : List Spec.ETok),
    Spec.expandEqus F tab ts = some out → EKeyFree tab (iterE tab (rounds tab F ts) ts) := by
  intro F
  induction F with
  | zero =>
    intro ts out h
    unfold Spec.expandEqus at h
    split at h
    · cases h
    · rename_i hn
      intro s hs
      exact absurd (List.any_eq_true.2 ⟨_, hs, rfl⟩) hn
  | succ f ih =>
    intro ts out h
    rw [expandEqus_succ] at h
    unfold rounds
    split at h
    · cases h
    · split at h
      · rename_i hall
        rw [if_pos hall]
        exact (keyFreeB_iff tab ts).1 hall
      · rename_i hall
        rw [if_neg hall]
        exact ih _ out h

theorem rounds_le (tab : ETab) : ∀ (F k : Nat) (ts : List Spec.ETok),
    EKeyFree tab (iterE tab k ts) → rounds tab F ts ≤ k := by
  intro F
  induction F with
  | zero => intro k ts _; exact Nat.zero_le _
  | succ f ih =>
    intro k ts h
    unfold rounds
    split
    · exact Nat.zero_le _
    · rename_i hall
      cases k with
      | zero => exact absurd ((keyFreeB_iff tab ts).2 h) hall
      | succ k =>
        have := ih k (stepE tab ts) h
        omega

theorem EKeyFree.mid {tab : ETab} {a b c : List Spec.ETok} (h : EKeyFree tab (a ++ b ++ c)) :
    EKeyFree tab b :=
  fun s hs => h s (List.mem_append_left _ (List.mem_append_right _ hs))

/-- the rank the reference's own check certifies: the number of rounds the body of a name needs -/
def rankOf (tab : ETab) (s : String) : Nat := rounds tab 64 ((tab.get? s).getD [])

/-- the hypothesis is the reference's check in `Spec.meaningFlat`, which therefore rejects every
    cyclic table -/
theorem ranked_of_expandEqus {tab : ETab}
    (h : ∀ k v, tab.get? k = some v → (Spec.expandEqus 64 tab v).isSome = true) :
    ERanked tab (rankOf tab) := by
  intro k v hkv s hsv hsome
  obtain ⟨w, hsw⟩ := Option.isSome_iff_exists.1 hsome
  obtain ⟨out, hev⟩ := Option.isSome_iff_exists.1 (h k v hkv)
  simp only [rankOf, hkv, hsw, Option.getD_some]
  have hkf := expandEqus_rounds tab 64 v out hev
  obtain ⟨a, c, rfl⟩ := List.append_of_mem hsv
  cases hm : rounds tab 64 (a ++ Spec.ETok.name s :: c) with
  | zero =>
    rw [hm] at hkf
    have := hkf s (by simp [iterE])
    rw [hsw] at this
    cases this
  | succ m =>
    rw [hm] at hkf
    simp only [iterE] at hkf
    -- after one round the body `w` of `s` stands inside that of `k`, which needs `m` more rounds
    have hstep : stepE tab (a ++ Spec.ETok.name s :: c) = stepE tab a ++ w ++ stepE tab c := by
      rw [stepE_append, stepE_cons, stepETok_name, hsw]
      simp
    rw [hstep, iterE_append, iterE_append] at hkf
    have := rounds_le tab 64 m w hkf.mid
    omega

theorem eranked_of_flat {tab : ETab} (h : ∀ k v, tab.get? k = some v → EKeyFree tab v) :
    ERanked tab (fun _ => 0) := by
  intro k v hkv s hsv hsome
  rw [h k v hkv s hsv] at hsome
  cases hsome

theorem TRanked.eranked {V : SymTab} {tab : ETab} {d : String → Nat} (h : TabRel V tab)
    (hr : TRanked V d) : ERanked tab d := by
  intro k v hkv s hsv hsome
  refine hr k (toksOf v) (by rw [h k, hkv]; rfl) (tokOf (.name s)) (List.mem_map_of_mem hsv) rfl ?_
  show (V.get? s).isSome = true
  rw [h s, Option.isSome_map]
  exact hsome

end Gmars.AsmLine
