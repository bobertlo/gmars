/-
  C16: the one-line renderings `Instruction.String()` and `Instruction.NormString(coresize)`
  (models `instrString`, `normString`) identify the instruction, because the load-file reader's
  tokeniser and decoders read them back: both are instruction texts `itext` without the comma
  (`sline`), of which `fields_norm_itext` gives the fields and `getOp94_opWord`,
  `getAddressMode_sym` the opcode, modifier and modes (`readBack`).
-/
import Gmars.Proofs.RoundTripA
import Gmars.Proofs.ListingP

namespace Gmars.InstrString
open Gmars.GoStr Gmars.RoundTrip

theorem inj_of_read {α β : Type} {f : α → β} {g : β → Option α} (hg : ∀ a, g (f a) = some a)
    {a b : α} (h : f a = f b) : a = b :=
  Option.some.inj (by rw [← hg a, h, hg b])

/-- the blanks the Sprintf columns `%-2s %s %5d %s %5d` put around the tokens -/
def sgaps (md : Modifier) (X Y : Str) : Gaps where
  g0 := []
  g1 := List.replicate (2 - md.name.toList.length) ' ' ++ [' ']
  g2 := ' ' :: List.replicate (5 - X.length) ' '
  g3 := [' ']
  g4 := []
  g5 := ' ' :: List.replicate (5 - Y.length) ' '
  g6 := []

theorem sgaps_ok (md : Modifier) (X Y : Str) : (sgaps md X Y).ok where
  b0 := blanks_nil
  b1 := List.forall_mem_append.2 ⟨blanks_replicate _, blanks_one⟩
  b2 := blanks_replicate (_ + 1)
  b3 := blanks_one
  b4 := blanks_nil
  b5 := blanks_replicate (_ + 1)
  b6 := blanks_nil
  n1 := by simp [sgaps]
  n2 := by simp [sgaps]
  n5 := by simp [sgaps]

def sline (i : Instr) (X Y : Str) : Str :=
  itext (sgaps i.md X Y) (opWord false i) i.am X i.bm Y []

theorem instrString_eq (i : Instr) :
    instrString i = sline i (natDigits i.a.toNat) (natDigits i.b.toNat) := by
  simp [instrString, sline, itext, sgaps, opWord, padLeft, padRight]

theorem normString_eq (m : UInt64) (i : Instr) :
    normString m i = sline i (showInt (signedAddressGo i.a m)) (showInt (signedAddressGo i.b m)) := by
  simp [normString, sline, itext, sgaps, opWord, padLeft, padRight]

/-- a line as `parseLoadFile94` cuts and decodes it, the numbers left as text -/
def readBack (s : Str) : Option (Op × Modifier × Mode × Str × Mode × Str) :=
  match fields (replaceComma (toLower s)) with
  | [f0, f1, f2, f3, f4] => do
    let (op, md) ← getOp94 f0
    let am ← getAddressMode f1
    let bm ← getAddressMode f3
    pure (op, md, am, f2, bm, f4)
  | _ => none

theorem readBack_sline (i : Instr) {X Y : Str} (hX : Word X) (hY : Word Y) :
    readBack (sline i X Y) = some (i.op, i.md, i.am, toLower X, i.bm, toLower Y) := by
  rw [readBack, sline, fields_norm_itext _ _ ⟨sgaps_ok .., word_opWord .., hX, hY⟩ (by simp) (by simp [sgaps])]
  simp only [opWord, Bool.false_eq_true, if_false, getOp94_opWord, AsmLine.getAddressMode_sym]
  rfl

theorem toLower_showInt (v : Int) : toLower (showInt v) = showInt v := by
  unfold showInt natDigits
  split
  · simp only [toLower, List.map_cons]
    exact congrArg _ (toLower_digits _)
  · exact toLower_digits _

theorem showInt_inj {v w : Int} (h : showInt v = showInt w) : v = w :=
  inj_of_read parseSigned_showInt h

theorem natDigits_inj {v w : Nat} (h : natDigits v = natDigits w) : v = w := by
  have := congrArg digitsVal h
  simpa [natDigits, digitsVal_toDigits] using this

theorem instr_ext {i j : Instr} (h1 : i.op = j.op) (h2 : i.md = j.md) (h3 : i.am = j.am)
    (h4 : i.a = j.a) (h5 : i.bm = j.bm) (h6 : i.b = j.b) : i = j := by
  cases i; cases j; simp_all

theorem instrString_injective (i j : Instr) (h : instrString i = instrString j) : i = j := by
  have := congrArg readBack h
  simp only [instrString_eq, natDigits, readBack_sline _ (word_digits _) (word_digits _),
    toLower_digits, Option.some.injEq, Prod.mk.injEq] at this
  obtain ⟨h1, h2, h3, h4, h5, h6⟩ := this
  exact instr_ext h1 h2 h3 (UInt64.toNat_inj.1 (natDigits_inj h4)) h5
    (UInt64.toNat_inj.1 (natDigits_inj h6))

theorem signedAddressGo_inj (m a b : UInt64) (ha : a < m) (hb : b < m)
    (h : signedAddressGo a m = signedAddressGo b m) : a = b := by
  rw [ListingP.signedAddressGo_eq _ _ ha, ListingP.signedAddressGo_eq _ _ hb] at h
  unfold addressSigned at h
  have ha' := UInt64.lt_iff_toNat_lt.1 ha
  have hb' := UInt64.lt_iff_toNat_lt.1 hb
  apply UInt64.toNat_inj.1
  split at h <;> split at h <;> omega

theorem normString_injective (m : UInt64) (i j : Instr) (hi : i.a < m ∧ i.b < m)
    (hj : j.a < m ∧ j.b < m) (h : normString m i = normString m j) : i = j := by
  have := congrArg readBack h
  simp only [normString_eq, readBack_sline _ (word_showInt _) (word_showInt _), toLower_showInt,
    Option.some.injEq, Prod.mk.injEq] at this
  obtain ⟨h1, h2, h3, h4, h5, h6⟩ := this
  exact instr_ext h1 h2 h3 (signedAddressGo_inj m _ _ hi.1 hj.1 (showInt_inj h4)) h5
    (signedAddressGo_inj m _ _ hi.2 hj.2 (showInt_inj h6))

end Gmars.InstrString
