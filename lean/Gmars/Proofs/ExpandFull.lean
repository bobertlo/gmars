/-
  expr.go on a table that passed the cycle check: `expandExpressions` succeeds and resolves every
  key to the complete expansion `iterT V V.length` of its defining tokens.  One induction on the
  fuel of `expandValue`, with the invariant "what is in the table so far is complete".
-/
import Gmars.Proofs.SubstT

namespace Gmars
namespace Compile
open AsmLine

/-- the loop `expandValue` runs over the dependencies of a key and `expandExpressions` over the
    table: if each single resolution succeeds and keeps `P`, so does the loop, and every element
    ends up resolved -/
theorem fold_full {β : Type} (P : SymTab → Prop) (π : β → String)
    (E : String → SymTab → Option SymTab) :
    ∀ (l : List β),
      (∀ x ∈ l, ∀ res, P res → ∃ res', E (π x) res = some res' ∧ P res' ∧ MonoGet res res' ∧
        res'.has (π x) = true) →
      ∀ res, P res → ∃ res',
        l.foldl (fun (acc : Option SymTab) x =>
          match acc with
          | none => none
          | some r => if r.has (π x) then some r else E (π x) r) (some res) = some res' ∧
        P res' ∧ MonoGet res res' ∧ ∀ x ∈ l, res'.has (π x) = true := by
  intro l
  induction l with
  | nil => intro _ res hp; exact ⟨res, rfl, hp, MonoGet.refl _, fun x hx => by cases hx⟩
  | cons x xs ih =>
    intro hE res hp
    rw [List.foldl_cons]
    obtain ⟨r1, e1, p1, m1, k1⟩ : ∃ r1, (match some res with
        | none => none
        | some r => if r.has (π x) then some r else E (π x) r) = some r1 ∧ P r1 ∧ MonoGet res r1 ∧
        r1.has (π x) = true := by
      by_cases hx : res.has (π x) = true
      · exact ⟨res, if_pos hx, hp, MonoGet.refl _, hx⟩
      · obtain ⟨r1, e1, h1⟩ := hE x (List.mem_cons_self ..) res hp
        exact ⟨r1, (if_neg hx).trans e1, h1⟩
    obtain ⟨res', e2, p2, m2, k2⟩ := ih (fun y hy => hE y (List.mem_cons_of_mem _ hy)) r1 p1
    refine ⟨res', by rw [e1]; exact e2, p2, m1.trans m2, fun y hy => ?_⟩
    rcases List.mem_cons.mp hy with rfl | hy
    · exact m2.has k1
    · exact k2 y hy

def Full (V res : SymTab) : Prop :=
  ∀ k v, res.get? k = some v → (V.get? k).map (iterT V V.length) = some v

theorem Full.get?_eq {V res : SymTab} (hf : Full V res) {s : String}
    (h : V.has s = true → res.has s = true) : res.get? s = (V.get? s).map (iterT V V.length) := by
  cases hr : res.get? s with
  | some w => exact (hf s w hr).symm
  | none =>
    cases hv : V.get? s with
    | none => rfl
    | some v =>
      have := h (SymTab.has_of_get? hv)
      rw [SymTab.has_eq, hr] at this
      cases this

theorem Full.stepT {V res : SymTab} {d : String → Nat} (hf : Full V res) (hr : TRanked V d)
    {ts : List Token} (hb : TBound V d V.length ts)
    (hcl : ∀ t ∈ ts, t.typ = .text → V.has t.val = true → res.has t.val = true) :
    stepT res ts = iterT V V.length ts := by
  rw [← iterT_of_keyfree (iterT_keyfree_of_bound hr _ _ hb) (Nat.le_succ _)]
  exact stepT_deep fun t ht htx => hf.get?_eq (hcl t ht htx)

/-- Writing the complete expansion of a key keeps the table complete and loses nothing: had the
    key been there already (as on a cyclic table), what is written is what was there. -/
theorem Full.set {V res : SymTab} (hf : Full V res) {key : String} {value : List Token}
    (hv : V.get? key = some value) :
    Full V (res.set key (iterT V V.length value)) ∧
      MonoGet res (res.set key (iterT V V.length value)) := by
  refine ⟨fun k v hkv => ?_, fun k v hkv => ?_⟩ <;> by_cases hkk : k = key
  · subst hkk
    rw [SymTab.get?_set_self] at hkv
    rwa [hv]
  · rw [SymTab.get?_set_ne _ _ hkk] at hkv
    exact hf k v hkv
  · subst hkk
    have := hf k v hkv
    rw [hv] at this
    rwa [SymTab.get?_set_self]
  · rwa [SymTab.get?_set_ne _ _ hkk]

theorem expandValue_full {V : SymTab}
    (hc : graphContainsCycle (buildReferenceGraph V) = false) :
    ∀ (fuel : Nat) (key : String) (res : SymTab), Full V res → V.has key = true →
      graphRank (buildReferenceGraph V) key < fuel →
      ∃ res', expandValue fuel key V res (buildReferenceGraph V) = some res' ∧ Full V res' ∧
        MonoGet res res' ∧ res'.has key = true := by
  obtain ⟨hrk, hle⟩ := ranked_of_acyclic hc
  intro fuel
  induction fuel with
  | zero => intro key res _ _ h; omega
  | succ fuel ih =>
    intro key res hfull hkey hlt
    obtain ⟨value, hv⟩ := SymTab.get?_of_has hkey
    unfold expandValue
    rw [hv]
    simp only
    by_cases hk : res.has key = true
    · rw [if_pos hk]; exact ⟨res, rfl, hfull, MonoGet.refl _, hk⟩
    · rw [if_neg hk]
      -- the dependencies are of lower rank: the loop over them resolves them all
      obtain ⟨r2, e2, f2, m2, d2⟩ := fold_full (Full V) (fun s : String => s)
        (fun dep r => expandValue fuel dep V r (buildReferenceGraph V))
        (((buildReferenceGraph V).get? key).getD []) (fun dep hdep r hr => by
          cases hg : (buildReferenceGraph V).get? key with
          | none => rw [hg] at hdep; cases hdep
          | some refs =>
            rw [hg] at hdep
            have := graphRank_lt hc hg hdep
            exact ih dep r hr (has_of_graph_ref hg hdep) (by omega)) res hfull
      split
      · rename_i hnone; cases hnone.symm.trans e2
      rename_i r2' hsome
      cases hsome.symm.trans e2
      -- so what is written for `key` is the complete expansion of `value`
      have hout : stepT r2 value = iterT V V.length value :=
        f2.stepT (Ranked.tranked hrk)
          (fun t ht htx _ => Nat.lt_of_lt_of_le (hrk key value hv t ht htx) (hle key))
          fun t ht htx hh => d2 t.val (by
            rw [graph_get?_of_get? hv (List.ne_nil_of_mem ht)]
            exact mem_refsOf ht htx hh)
      obtain ⟨f3, m3⟩ := f2.set hv
      exact ⟨_, congrArg (fun x => some (r2.set key x)) hout, f3, m2.trans m3,
        SymTab.has_of_get? (SymTab.get?_set_self ..)⟩

/-- `expandExpressions` on a table that passed the cycle check: same keys, every value expanded
    completely (the result contains no key of the table any more, `iterT_keyfree_of_bound`) -/
theorem expandExpressions_full {V : SymTab}
    (hc : graphContainsCycle (buildReferenceGraph V) = false) :
    ∃ resolved, expandExpressions V (buildReferenceGraph V) = some resolved ∧
      ∀ s, resolved.get? s = (V.get? s).map (iterT V V.length) := by
  obtain ⟨res, h, hf, _, hall⟩ := fold_full (Full V) (fun e : String × List Token => e.1)
    (fun dep r => expandValue (V.length + 2) dep V r (buildReferenceGraph V)) V
    (fun x hx r hr => expandValue_full hc _ _ r hr (SymTab.has_of_mem hx)
      (by have := (ranked_of_acyclic hc).2 x.1; omega)) [] (fun k v h => by cases h)
  refine ⟨res, h, fun s => hf.get?_eq fun hs => ?_⟩
  unfold SymTab.has at hs
  rw [List.find?_isSome] at hs
  obtain ⟨x, hx, hxk⟩ := hs
  rw [← beq_iff_eq.mp hxk]
  exact hall x hx

theorem resolved_keyfree {V R : SymTab} (hc : graphContainsCycle (buildReferenceGraph V) = false)
    (h : expandExpressions V (buildReferenceGraph V) = some R) :
    (∀ s, R.get? s = (V.get? s).map (iterT V V.length)) ∧ ∀ k v, R.get? k = some v → TKeyFree R v := by
  obtain ⟨res, h', hget⟩ := expandExpressions_full hc
  cases h.symm.trans h'
  obtain ⟨hrk, hle⟩ := ranked_of_acyclic hc
  refine ⟨hget, fun k v hkv t ht htx => ?_⟩
  rw [hget] at hkv
  obtain ⟨value, hval, rfl⟩ := Option.map_eq_some_iff.1 hkv
  have hb : TBound V (graphRank (buildReferenceGraph V)) V.length value := fun t ht htx _ =>
    Nat.lt_of_lt_of_le (hrk k value hval t ht htx) (hle k)
  rw [hget, iterT_keyfree_of_bound (Ranked.tranked hrk) _ _ hb t ht htx]
  rfl

end Compile
end Gmars
