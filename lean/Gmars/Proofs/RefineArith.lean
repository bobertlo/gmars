/-
  UInt64 primitives of sim.go / simops.go against their `Nat` readings, under the
  bounds that make every operation wrap-free (operands `< M ≤ 2^32`).
-/

namespace Gmars

structure Dim (M R W : Nat) : Prop where
  m3  : 3 ≤ M
  m32 : M ≤ 2 ^ 32
  r1  : 1 ≤ R
  rM  : R ≤ M
  w1  : 1 ≤ W
  wM  : W ≤ M

section arith
variable {M : Nat} {m x y : UInt64}

theorem u_add_toNat (hm : m.toNat = M) (h32 : M ≤ 2 ^ 32) (hx : x.toNat < M) (hy : y.toNat < M) :
    (x + y).toNat = x.toNat + y.toNat := by
  rw [UInt64.toNat_add, Nat.mod_eq_of_lt (by omega)]

theorem u_idx_toNat (hm : m.toNat = M) (h32 : M ≤ 2 ^ 32) (hx : x.toNat < M) (hy : y.toNat < M) :
    ((x + y) % m).toNat = (x.toNat + y.toNat) % M := by
  rw [UInt64.toNat_mod, u_add_toNat hm h32 hx hy, hm]

theorem u_idx_lt (hm : m.toNat = M) (h0 : 0 < M) (z : UInt64) : (z % m).toNat < M := by
  rw [UInt64.toNat_mod, hm]; exact Nat.mod_lt _ h0

theorem u_two_toNat : (2 : UInt64).toNat = 2 := rfl

theorem u_succ_toNat (hm : m.toNat = M) (h3 : 3 ≤ M) (h32 : M ≤ 2 ^ 32) (hx : x.toNat < M) :
    ((x + 1) % m).toNat = (x.toNat + 1) % M := by
  have := u_idx_toNat (m := m) (x := x) (y := 1) hm h32 hx (by rw [UInt64.toNat_one]; omega)
  rw [this, UInt64.toNat_one]

theorem u_succ2_toNat (hm : m.toNat = M) (h3 : 3 ≤ M) (h32 : M ≤ 2 ^ 32) (hx : x.toNat < M) :
    ((x + 2) % m).toNat = (x.toNat + 2) % M := by
  have := u_idx_toNat (m := m) (x := x) (y := 2) hm h32 hx (by rw [u_two_toNat]; omega)
  rw [this, u_two_toNat]

theorem u_dec_toNat (hm : m.toNat = M) (h3 : 3 ≤ M) (h32 : M ≤ 2 ^ 32) (hx : x.toNat < M) :
    ((x + m - 1) % m).toNat = (x.toNat + M - 1) % M := by
  have h1 : (x + m).toNat = x.toNat + M := by
    rw [UInt64.toNat_add, hm, Nat.mod_eq_of_lt (by omega)]
  have h2 : (x + m - 1).toNat = x.toNat + M - 1 := by
    rw [UInt64.toNat_sub_of_le _ _ (by rw [UInt64.le_iff_toNat_le, h1, UInt64.toNat_one]; omega), h1,
      UInt64.toNat_one]
  rw [UInt64.toNat_mod, h2, hm]

theorem u_sub_toNat (hm : m.toNat = M) (h32 : M ≤ 2 ^ 32) (hx : x.toNat < M) (hy : y.toNat < M) :
    ((x + (m - y)) % m).toNat = (x.toNat + M - y.toNat) % M := by
  have h1 : (m - y).toNat = M - y.toNat := by
    rw [UInt64.toNat_sub_of_le _ _ (by rw [UInt64.le_iff_toNat_le, hm]; omega), hm]
  have h2 : (x + (m - y)).toNat = x.toNat + M - y.toNat := by
    rw [UInt64.toNat_add, h1, Nat.mod_eq_of_lt (by omega)]; omega
  rw [UInt64.toNat_mod, h2, hm]

theorem u_mul_toNat (hm : m.toNat = M) (h32 : M ≤ 2 ^ 32) (hx : x.toNat < M) (hy : y.toNat < M) :
    ((x * y) % m).toNat = (x.toNat * y.toNat) % M := by
  have : x.toNat * y.toNat < 2 ^ 32 * 2 ^ 32 :=
    Nat.mul_lt_mul'' (by omega) (by omega)
  have h2 : (x * y).toNat = x.toNat * y.toNat := by
    rw [UInt64.toNat_mul, Nat.mod_eq_of_lt (by omega)]
  rw [UInt64.toNat_mod, h2, hm]

theorem u_eq_zero_iff : (x == 0) = (x.toNat == 0) := by
  rw [Bool.eq_iff_iff]; simp [← UInt64.toNat_inj]

theorem u_ne_zero_iff : (x != 0) = (x.toNat != 0) := by
  simp only [bne, u_eq_zero_iff]

theorem u_beq_iff : (x == y) = (x.toNat == y.toNat) := by
  rw [Bool.eq_iff_iff]; simp [← UInt64.toNat_inj]

theorem u_bne_iff : (x != y) = (x.toNat != y.toNat) := by
  simp only [bne, u_beq_iff]

theorem u_lt_iff : (decide (x < y)) = decide (x.toNat < y.toNat) := by
  simp [UInt64.lt_iff_toNat_lt]

/-- the DJN test `x - 1 != 0` (on the value read before the decrement) -/
theorem u_djn_test (h3 : 3 ≤ M) (hx : x.toNat < M) :
    (x - 1 != 0) = ((x.toNat + M - 1) % M != 0) := by
  have hx64 : x.toNat < 2 ^ 64 := x.toNat_lt
  rw [u_ne_zero_iff, UInt64.toNat_sub, UInt64.toNat_one]
  by_cases h0 : x.toNat = 0
  · rw [h0, Nat.add_zero, Nat.zero_add, Nat.mod_eq_of_lt (by omega), Nat.mod_eq_of_lt (by omega)]
    simp; omega
  · by_cases h1 : x.toNat = 1
    · rw [h1]; simp
    · have e1 : (2 ^ 64 - 1 + x.toNat) % 2 ^ 64 = x.toNat - 1 := by
        rw [show 2 ^ 64 - 1 + x.toNat = (x.toNat - 1) + 2 ^ 64 by omega, Nat.add_mod_right,
          Nat.mod_eq_of_lt (by omega)]
      have e2 : (x.toNat + M - 1) % M = x.toNat - 1 := by
        rw [show x.toNat + M - 1 = (x.toNat - 1) + M by omega, Nat.add_mod_right,
          Nat.mod_eq_of_lt (by omega)]
      rw [e1, e2]

end arith

theorem spawn_addr (addr cs : UInt64) (i : Nat) (h : addr.toNat + i < 2 ^ 64) :
    ((addr + UInt64.ofNat i) % cs).toNat = (addr.toNat + i) % cs.toNat := by
  have hi : i < 2 ^ 64 := by omega
  rw [UInt64.toNat_mod, UInt64.toNat_add, UInt64.toNat_ofNat']
  simp only [Nat.reducePow] at *
  rw [Nat.mod_eq_of_lt hi, Nat.mod_eq_of_lt h]

end Gmars
