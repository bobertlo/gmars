/-
  C03 "Redcode source assembles to the instructions it denotes", compiler stage: what the three
  kinds of abstract program (`CItem` over numbers, `LItem` with labels, `XItem` with EQUs) share.
  `Spec.meaningFlat` as a chain of guards (`flatTail`) over folds of the item list (`labelFold`,
  `codeFold`, `startFold`), the tail of `compile()` against the tail of `flatTail`, and the programs
  over numbers (`CItem`) with their two readings.  What the folds are on an `XItem` program is said
  in `AsmEqu`, the one level at which programs are walked.
-/
import Gmars.Proofs.AsmLine
import Gmars.Proofs.ExprProofs

namespace Gmars.AsmLine
open Gmars.Compile Gmars.ExprProofs

/-- the label table and the instruction count `Spec.meaningFlat` starts with -/
def labelFold (items : List Spec.Item) : List (String × Nat) × Nat :=
  items.foldl (fun (acc : List (String × Nat) × Nat) it =>
    match it with
    | .instr ls _ _ _ _ => (acc.1 ++ ls.map (fun l => (l, acc.2)), acc.2 + 1)
    | _ => acc) ([], 0)

/-- the instruction loop of `Spec.meaningFlat` -/
def codeFold (c : Spec.Cfg) (t : Spec.Tables) (items : List Spec.Item)
    (init : Option (List Instr) × Nat) : Option (List Instr) × Nat :=
  items.foldl (fun (acc : Option (List Instr) × Nat) it =>
    match it, acc.1 with
    | .instr _ op md a b, some code =>
      ((Spec.instrMeaning c t acc.2 op md a b).map (fun i => code ++ [i]), acc.2 + 1)
    | .instr .., none => (none, acc.2 + 1)
    | _, _ => acc) init

def startFold (items : List Spec.Item) : List Spec.ETok :=
  items.foldl (fun acc it =>
    match it with
    | .org e => e
    | .end_ (some e) => e
    | _ => acc) [.num 0]

def assertsOk (c : Spec.Cfg) (t : Spec.Tables) (items : List Spec.Item) : Bool :=
  items.all (fun it =>
    match it with
    | .assert e => match Spec.evalAt c t 0 e with
      | some v => v != 0
      | none => false
    | _ => true)

def metaOf (items : List Spec.Item) (k : Spec.MetaKind) : List String :=
  items.filterMap (fun | .info k' s => if k == k' then some s else none | _ => none)

def tablesOf (c : Spec.Cfg) (items : List Spec.Item) (labels : List (String × Nat)) : Spec.Tables :=
  { labels := labels, equs := Spec.equsOf items ++ Spec.predefined c }

/-- `Spec.meaningFlat` after its label pass -/
def flatTail (c : Spec.Cfg) (items : List Spec.Item) (labels : List (String × Nat)) (n : Nat) :
    Option Spec.Meaning :=
  if (labels.map (·.1) ++ (Spec.equsOf items).map (·.1) ++ (Spec.predefined c).map (·.1)).eraseDups.length
      != (labels.map (·.1) ++ (Spec.equsOf items).map (·.1) ++ (Spec.predefined c).map (·.1)).length then none
  else if !((tablesOf c items labels).equs.all
      (fun (_, e) => (Spec.expandEqus 64 (tablesOf c items labels).equs e).isSome)) then none
  else
    (codeFold c (tablesOf c items labels) items (some [], 0)).1.bind fun code =>
      if code.length > c.maxLen then none
      else if !(assertsOk c (tablesOf c items labels) items) then none
      else
        (Spec.evalAt c (tablesOf c items labels) 0 (startFold items)).bind fun sv =>
          if sv < 0 || (sv ≥ n && sv != 0) then none
          else some { code := code, start := sv.toNat,
                      name := (((metaOf items .name).getLast?).map Spec.trimAscii).getD "",
                      author := (((metaOf items .author).getLast?).map Spec.trimAscii).getD "",
                      strategy := String.join ((metaOf items .strategy).map (fun s => s ++ "\n")) }

theorem meaningFlat_eq (c : Spec.Cfg) (items : List Spec.Item) :
    Spec.meaningFlat c items = flatTail c items (labelFold items).1 (labelFold items).2 := rfl

def isName : Spec.ETok → Bool
  | .name _ => true
  | _ => false

theorem etoks_no_name (e : CST) : ∀ t ∈ e.etoks, isName t = false := by
  induction e with
  | num n => simp [CST.etoks, isName]
  | signs ss e ih =>
    simp only [CST.etoks, List.forall_mem_append, List.forall_mem_map]
    exact ⟨fun s _ => rfl, ih⟩
  | paren e ih =>
    simp only [CST.etoks, List.forall_mem_cons, List.forall_mem_append]
    exact ⟨rfl, ih, rfl, fun _ h => nomatch h⟩
  | bin op l r ihl ihr =>
    simp only [CST.etoks, List.forall_mem_cons, List.forall_mem_append]
    exact ⟨ihl, rfl, ihr⟩

theorem expandEqus_nokey (tab : List (String × List Spec.ETok)) (ts : List Spec.ETok)
    (hn : ∀ s, Spec.ETok.name s ∈ ts → tab.find? (·.1 == s) = none) (hlen : ts.length ≤ 20000) :
    Spec.expandEqus 64 tab ts = some ts := by
  unfold Spec.expandEqus
  rw [if_neg (by omega)]
  split
  · rfl
  · rename_i h
    refine absurd (List.all_eq_true.2 ?_) h
    intro t ht
    cases t with
    | name s => simp [hn s ht]
    | _ => rfl

theorem expandEqus_noname (tab : List (String × List Spec.ETok)) (ts : List Spec.ETok)
    (hn : ∀ t ∈ ts, isName t = false) (hlen : ts.length ≤ 20000) :
    Spec.expandEqus 64 tab ts = some ts :=
  expandEqus_nokey tab ts (fun _ hs => nomatch hn _ hs) hlen

/-- an operand inside the range the `go/types.Eval` model answers on: precedence-well-formed, no
    literal or intermediate value beyond `GoEval.big`, at most 20000 tokens (the reference's limit) -/
structure GoodExpr (e : CST) : Prop where
  wf : WFprec e
  nobig : NoBigLit e
  len : e.ntoks ≤ 20000

structure COperand where
  mode : Option Mode
  expr : CST

/-- instructions (opcode text, optional modifier text, operands), `ORG e`, `END [e]`; `kw` is the
    keyword as written (`org`, `ORG`, …).  The smallest kind of program: `compile_meaning` (AsmLabels)
    reads it as an `XItem` program through `CItem.toX`. -/
inductive CItem
  | instr (op : String) (md : Option String) (a : COperand) (b : Option COperand)
  | org (kw : String) (e : CST)
  | end_ (kw : String) (e : Option CST)

def COperand.toP (o : COperand) : Spec.POperand := { mode := o.mode, expr := o.expr.etoks }

/-- the program as the reference reads it -/
def CItem.toItem : CItem → Spec.Item
  | .instr op md a b => .instr [] op md a.toP (b.map COperand.toP)
  | .org _ e => .org e.etoks
  | .end_ _ e => .end_ (e.map CST.etoks)

def CItem.isInstr : CItem → Bool
  | .instr .. => true
  | _ => false

/-- the program as the parser hands it to the compiler: line `k` of the code -/
def CItem.toLine (k : Nat) : CItem → SourceLine
  | .instr op md a b =>
    { typ := .instruction, codeLine := (k : Int), op := opString op md,
      amode := modeString a.mode, a := some a.expr.tokens,
      bmode := modeString (b.bind (·.mode)), b := b.map (·.expr.tokens) }
  | .org kw e => { typ := .pseudoOp, op := kw, a := some e.tokens }
  | .end_ kw e => { typ := .pseudoOp, op := kw, a := e.map CST.tokens }

def render (k : Nat) : List CItem → List SourceLine
  | [] => []
  | it :: r => it.toLine k :: render (if it.isInstr then k + 1 else k) r

def CItem.WF : CItem → Prop
  | .instr op md a b =>
    Ascii op ∧ '.' ∉ op.toList ∧ (∀ s, md = some s → Ascii s) ∧ GoodExpr a.expr ∧
      (∀ bo, b = some bo → GoodExpr bo.expr)
  | .org kw e => lowerStr kw = "org" ∧ GoodExpr e
  | .end_ kw e => lowerStr kw = "end" ∧ (∀ x, e = some x → GoodExpr x)

def consts (cfg : Config) : SymTab :=
  (loadConstants { cfg := cfg, values := [], labels := [] }).values

theorem consts_eq (cfg : Config) : consts cfg =
    [("CORESIZE", [Compile.numTok cfg.coreSize.toNat]), ("MAXLENGTH", [Compile.numTok cfg.length.toNat]),
     ("MAXPROCESSES", [Compile.numTok cfg.processes.toNat]),
     ("MINDISTANCE", [Compile.numTok cfg.distance.toNat])] := by
  simp [consts, loadConstants, SymTab.set, SymTab.has]

theorem codeFold_instr_some (c : Spec.Cfg) (t : Spec.Tables) (ls : List String) (op : String)
    (md : Option String) (a : Spec.POperand) (b : Option Spec.POperand) (r : List Spec.Item)
    (code : List Instr) (k : Nat) :
    codeFold c t (.instr ls op md a b :: r) (some code, k) =
      codeFold c t r ((Spec.instrMeaning c t k op md a b).map (fun i => code ++ [i]), k + 1) := rfl

theorem codeFold_instr_none (c : Spec.Cfg) (t : Spec.Tables) (ls : List String) (op : String)
    (md : Option String) (a : Spec.POperand) (b : Option Spec.POperand) (r : List Spec.Item)
    (k : Nat) :
    codeFold c t (.instr ls op md a b :: r) (none, k) = codeFold c t r (none, k + 1) := rfl

theorem codeFold_org (c : Spec.Cfg) (t : Spec.Tables) (e : List Spec.ETok) (r : List Spec.Item)
    (init : Option (List Instr) × Nat) :
    codeFold c t (.org e :: r) init = codeFold c t r init := by
  obtain ⟨x, k⟩ := init
  cases x <;> rfl

theorem codeFold_end (c : Spec.Cfg) (t : Spec.Tables) (e : Option (List Spec.ETok)) (r : List Spec.Item)
    (init : Option (List Instr) × Nat) :
    codeFold c t (.end_ e :: r) init = codeFold c t r init := by
  obtain ⟨x, k⟩ := init
  cases x <;> rfl

theorem codeFold_none (c : Spec.Cfg) (t : Spec.Tables) :
    ∀ (items : List Spec.Item) (k : Nat), (codeFold c t items (none, k)).1 = none
  | [], _ => rfl
  | it :: r, k => by cases it <;> exact codeFold_none c t r _

/-- the compiler state and the reference configuration describe the same dialect and core -/
structure CRel (c : Compiler) (sc : Spec.Cfg) : Prop where
  legacy : c.legacy = sc.legacy
  m : mInt c.m = (sc.M : Int)
  pos : 0 < sc.M
  lt : sc.M < 2 ^ 63

/-- `2 ^ 500` is `GoEval.big`, the bound in `NoBigLit` -/
theorem goodExpr_zero : GoodExpr (.num 0) :=
  ⟨trivial, (Int.pow_pos (by decide) : (0 : Int) < (2 : Int) ^ 500), by simp [CST.ntoks]⟩

/-- the Go configuration and the reference configuration describe the same hill -/
structure CfgRel (cfg : Config) (sc : Spec.Cfg) : Prop where
  legacy : sc.legacy = (cfg.mode == .icws88)
  M : sc.M = cfg.coreSize.toNat
  maxLen : sc.maxLen = cfg.length.toNat
  maxProcs : sc.maxProcs = cfg.processes.toNat
  minDist : sc.minDist = cfg.distance.toNat

/-- the warrior `compile()` returns for a meaning: the parser's metadata, the code, the entry point -/
def toWD (ameta : AsmMeta) (mn : Spec.Meaning) : WarriorData :=
  { name := ameta.name, author := ameta.author, strategy := ameta.strategy,
    code := mn.code.toArray, start := (mn.start : Int) }

theorem predefined_names (sc : Spec.Cfg) :
    (Spec.predefined sc).map (·.1) = ["CORESIZE", "MAXLENGTH", "MAXPROCESSES", "MINDISTANCE"] := rfl

theorem predefined_expand (sc : Spec.Cfg) (tab : List (String × List Spec.ETok)) :
    ∀ x ∈ Spec.predefined sc, (Spec.expandEqus 64 tab x.2).isSome = true := by
  simp only [Spec.predefined, List.forall_mem_cons]
  exact ⟨rfl, rfl, rfl, rfl, fun _ h => nomatch h⟩

theorem finishX_meaning {cfg : Config} {sc : Spec.Cfg} (hr : CfgRel cfg sc) (ameta : AsmMeta)
    (c : Compiler) (code : List Instr) (sv? : Option Int)
    (hst : operandM c c.startExpr 0 = optM sv?) :
    finishX cfg ameta c code.toArray =
      optM ((if code.length > sc.maxLen then none
        else sv?.bind fun sv =>
          if sv < 0 || (sv ≥ code.length && sv != 0) then none
          else some ({ code := code, start := sv.toNat, name := "", author := "", strategy := "" } :
            Spec.Meaning)).map (toWD ameta)) := by
  unfold finishX
  simp only [List.size_toArray, hr.maxLen]
  split
  · rfl
  · rw [← bind_assoc, show expandExpression c c.startExpr 0 >>= evalM = optM sv? from hst]
    cases sv? with
    | none => rfl
    | some sv =>
      simp only [optM, bind, Except.bind, Option.bind_some]
      split
      · rfl
      · rename_i hneg
        have h0 : 0 ≤ sv := by
          simp only [Bool.or_eq_true, decide_eq_true_eq, not_or] at hneg
          omega
        simp only [Option.map_some, toWD, Int.toNat_of_nonneg h0]

theorem validate_ge3 {cfg : Config} (hv : cfg.validate = true) : 3 ≤ cfg.coreSize.toNat := by
  unfold Config.validate at hv
  by_cases h : cfg.coreSize < 3
  · rw [if_pos h] at hv; cases hv
  · rw [UInt64.lt_iff_toNat_lt] at h
    have : (3 : UInt64).toNat = 3 := rfl
    omega

end Gmars.AsmLine
