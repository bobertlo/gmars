/-
  C03 / C06: the whole assembler, from BYTES, on programs with labels, EQUs, asserts, comments,
  ORG — and a last line `l1 l2 … END [expr]` that carries labels (without colons).
-/
import Gmars.Proofs.AsmComposeEqu
import Gmars.Proofs.AsmTailParse
import Gmars.Proofs.AsmTailCor

namespace Gmars
namespace AsmTail
open Gmars.Render Gmars.AsmLine Gmars.AsmCompose Gmars.AsmComposeEqu

/-- `lead` empty lines, the items, the last line `tail… kw [e]` and `trail` empty lines -/
structure TProg where
  lead : Nat := 0
  items : List EItem
  tail : List String
  kw : String
  e : Option (List Spec.ETok) := none
  trail : Nat := 0

def TProg.base (p : TProg) : EProg :=
  { lead := p.lead, items := p.items, fin := some (p.kw, p.e), trail := p.trail }

def TProg.body (p : TProg) : List AsmLine.XItem := p.items.filterMap EItem.toX

def TProg.xitems (p : TProg) : List AsmLine.XItem := p.body ++ [AsmLine.XItem.end_ p.kw p.e]

def TProg.labels (p : TProg) : List String := (xlabelsFrom 0 p.body).map (·.1)

def TProg.equNames (p : TProg) : List String := (xequs p.body).map (·.1)

def TProg.names (p : TProg) : List String := p.xitems.flatMap XItemNames

def TProg.etoks (p : TProg) : List Token := (p.e.map toksOf).getD []

/-- the line `l1 l2 … kw ws…` -/
def tailSrcLine (tail : List String) (kw : String) (ws : List Word) : SrcLine :=
  match tail with
  | [] => pseudoSrcLine kw ws
  | l :: r => pseudoSrcLine l (r.map identWord ++ identWord kw :: ws)

/-- the canonical source lines: words separated by one blank -/
def TProg.srcLines (p : TProg) : List SrcLine :=
  List.replicate p.lead emptySrcLine ++ (eitemsSrcLines p.items ++
    (tailSrcLine p.tail p.kw ((p.e.map ewords).getD []) :: List.replicate p.trail emptySrcLine))

def TProg.toP (p : TProg) : TPProg :=
  { lead := p.lead, items := p.items.map EItem.toP, tail := p.tail, kw := p.kw, toks := p.etoks,
    trail := List.replicate p.trail nlTok ++ [eofTok] }

/-- the metadata the parser gathers from the comment lines -/
def TProg.meta (p : TProg) : AsmMeta := p.toP.metadata

theorem tailLines_lexesTo (tail : List String) (kw : String) {ws : List Word} {ts : List Token}
    (k : Nat) (ht : ∀ l ∈ tail, identOK l = true) (hk : identOK kw = true) (h : Spell ws ts) :
    LexesTo (tailSrcLine tail kw ws :: List.replicate k emptySrcLine)
      (ForPass.labelToks tail ++ (⟨.text, kw⟩ : Token) :: (ts ++ nlTok :: List.replicate k nlTok)) := by
  cases tail with
  | nil => exact pseudoLines_lexesTo kw k hk h
  | cons l r =>
    have hr : Spell (r.map identWord) (ForPass.labelToks r) := by
      refine ⟨List.forall_mem_map.2 fun x hx => identWord_valid (ht x (by simp [hx])), ?_⟩
      rw [List.map_map]
      exact List.map_congr_left fun x hx => identWord_tok (ht x (by simp [hx]))
    have := pseudoLines_lexesTo l k (ht l (by simp)) (hr.append (.cons (identWord_valid hk) h))
    rwa [identWord_tok hk, List.append_assoc] at this

structure TProg.LexOK (p : TProg) : Prop where
  base : p.base.LexOK
  tail : ∀ l ∈ p.tail, identOK l = true

theorem TProg.fin_lex (p : TProg) (h : p.LexOK) :
    identOK p.kw = true ∧ ∀ x, p.e = some x → ELexOK x ∧ x ≠ [] :=
  h.base.fin p.kw p.e rfl

theorem TProg.ewords_spell (p : TProg) (h : p.LexOK) : Spell ((p.e.map ewords).getD []) p.etoks := by
  unfold TProg.etoks
  cases he : p.e with
  | none => exact .nil
  | some x => exact AsmComposeEqu.ewords_spell x (((p.fin_lex h).2 x he).1)

theorem TProg.lexesTo (p : TProg) (h : p.LexOK) :
    ∃ ts, LexesTo p.srcLines ts ∧ ts ++ [Lex.eofTok] = p.toP.tokens :=
  ⟨_, (LexesTo.blank p.lead).append ((eitems_lexesTo p.items h.base.items).append
      (tailLines_lexesTo p.tail p.kw p.trail h.tail (p.fin_lex h).1 (p.ewords_spell h))),
    by simp [TPProg.tokens, TPProg.finTokens, TProg.toP]; rfl⟩

theorem TProg.srcLines_ok (p : TProg) (h : p.LexOK) : ∀ l ∈ p.srcLines, l.ok (some '\n') = true := by
  obtain ⟨_, h1, _⟩ := p.lexesTo h
  exact h1.1

theorem TProg.lex_tokens (p : TProg) (h : p.LexOK) (ls : List SrcLine)
    (hls : ∀ l ∈ ls, l.ok (some '\n') = true) (hsame : SameLines ls p.srcLines) :
    Lex.tokens (renderLines ls) = p.toP.tokens := by
  obtain ⟨_, h1, h2⟩ := p.lexesTo h
  rw [lex_tokens_any_spacing ls hls hsame, h1.2, h2]

theorem core_endLineP (ln : Int) (p : TProg) (h : p.LexOK) :
    core (endLineP ln p.kw p.etoks p.tail) = xendLineT p.kw p.e p.tail :=
  congrArg (fun l : SourceLine => { l with labels := p.tail })
    (core_endLine ln p.kw p.e fun x hx => ((p.fin_lex h).2 x hx).2)

theorem TProg.norm_lines (p : TProg) (h : p.LexOK) (hp : ∀ it ∈ p.items, it.CommentOK) :
    norm p.toP.lines = xrenderT p.body p.kw p.e p.tail := by
  simp only [TPProg.lines, norm_append, norm_blankLines, List.nil_append, TProg.toP, xrenderT]
  have := (norm_eitems_lines p.items h.base.items hp ((1 : Int) + p.lead) 0).1
  simp only [Int.natCast_zero] at this
  rw [this]
  congr 1
  rw [norm_cons_relevant _ _ rfl, norm_nil, core_endLineP _ p h]

theorem TProg.toP_labels_perm (p : TProg) (h : p.LexOK) :
    (pitemsLabels (p.items.map EItem.toP)).Perm (p.labels ++ p.equNames) := by
  unfold TProg.labels
  rw [xlabelsFrom_names]
  exact pitemsLabels_perm p.items h.base.items

theorem TProg.toP_OK (p : TProg) (h : p.LexOK) (hn : p.base.NamesOK)
    (htn : ∀ l ∈ p.tail, IsLabelName l) (hkw : ∀ x ∈ p.xitems, x.KW)
    (hnd : (p.labels ++ p.tail ++ p.equNames ++ constNames).Nodup)
    (hcl : ∀ x ∈ p.names, x ∈ p.labels ∨ x ∈ p.tail ∨ x ∈ p.equNames ∨ x ∈ constNames) :
    p.toP.OK := by
  obtain ⟨s1, s2, s3⟩ := symbols_ok (p.toP_labels_perm h) p.tail hnd
  exact
    { -- `p.base` has the items of `p` and its END line: `p.base.xitems` unfolds to `p.xitems`
      items := p.base.toP_items_OK h.base hn hkw
      tail := htn
      nodup := s1
      notPredefined := s2
      defined := fun x hx =>
        s3 x (by simpa [or_assoc] using hcl x (p.base.toP_refs h.base x hx))
      kw := (hkw _ (List.mem_append_right _ (List.mem_singleton.mpr rfl))).1
      toks := by
        show ∀ t ∈ p.etoks, t.isExpressionTerm = true
        unfold TProg.etoks
        cases he : p.e with
        | none => intro t ht; simp at ht
        | some x => exact toksOf_exprTerm x (((p.fin_lex h).2 x he).1)
      trail := by simp [TProg.toP] }

/-- `assemble_meaning_equ` for programs whose last line is `l1 l2 … END [expr]`.

    `p : TProg` is a program of labelled instructions, ORG lines, EQU lines, `;assert` comment
    lines (`p.body : List AsmLine.XItem`), a last line with the labels `p.tail` (no colons), the
    keyword `p.kw` and the optional argument `p.e`, with a layout: colon suffixes of instruction
    labels, blank lines, comment lines.  `ls` is ANY list of source lines carrying the words of the
    program (`SameLines ls p.srcLines`) with arbitrary leading blanks and separators of blanks and
    tabs (`SrcLine.ok`).  `src` is any byte string the Go reader decodes to that text.

    Then `CompileWarrior` returns the warrior of the reference meaning `Spec.meaningFlatT` — the
    END-line labels stand for the address just after the code, in operands, EQU bodies, asserts,
    ORG and END arguments — or an error exactly when the reference rejects the program. -/
theorem assemble_meaning_equ_tail (cfg : Config) (sc : Spec.Cfg) (p : TProg) (d : String → Nat)
    (hv : cfg.validate = true) (h63 : cfg.coreSize.toNat < 2 ^ 63) (hr : CfgRel cfg sc)
    (hlex : p.LexOK) (hnames : p.base.NamesOK) (htn : ∀ l ∈ p.tail, IsLabelName l)
    (hplain : ∀ cs k, EItem.comment cs k ∈ p.items → plainComment cs)
    (hnd : (p.labels ++ p.tail ++ p.equNames ++ constNames).Nodup)
    (hcl : ∀ x ∈ p.names, x ∈ p.labels ∨ x ∈ p.tail ∨ x ∈ p.equNames ∨ x ∈ constNames)
    (hsmall : xinstrCount p.body < 2 ^ 63)
    (hrk : ERanked (xequs p.body ++ Spec.predefined sc) d) (hlt : ∀ s, d s < 63)
    (hw : XProgWF lexString sc (xtablesT sc p.body p.kw p.e p.tail) 0 p.xitems)
    (ls : List SrcLine) (hls : ∀ l ∈ ls, l.ok (some '\n') = true) (hsame : SameLines ls p.srcLines)
    (src : List UInt8) (hsrc : decodeRunes src = renderLines ls) :
    assemble cfg src =
      match Spec.meaningFlatT sc (p.xitems.map AsmLine.XItem.toItem) p.tail with
      | some m => .ok (toWD p.meta m)
      | none => .err := by
  have hOK : p.toP.OK := p.toP_OK hlex hnames htn hw.kw hnd hcl
  have htok : lexBytes src = p.toP.tokens := by
    unfold lexBytes; rw [hsrc, p.lex_tokens hlex ls hls hsame]
  rw [assemble_stages_tpprog cfg src p.toP hOK htok]
  have hc : Compile.compileX lexString cfg p.toP.lines p.toP.metadata =
      Compile.optM ((Spec.meaningFlatT sc (p.xitems.map AsmLine.XItem.toItem) p.tail).map
        (toWD p.toP.metadata)) := by
    rw [← compileX_norm, p.norm_lines hlex (p.base.commentOK hw hplain)]
    exact compileX_meaning_equ_tail lexString cfg sc p.body p.kw p.e p.tail _ d hv h63 hr hnd hsmall
      hrk hlt hw
  rw [parseCompile_of cfg _ p.toP.lines p.toP.metadata (parse_tpprog p.toP hOK) _ hc]
  cases Spec.meaningFlatT sc (p.xitems.map AsmLine.XItem.toItem) p.tail <;> rfl

theorem assemble_meaning_equ_tail_ascii (cfg : Config) (sc : Spec.Cfg) (p : TProg) (d : String → Nat)
    (hv : cfg.validate = true) (h63 : cfg.coreSize.toNat < 2 ^ 63) (hr : CfgRel cfg sc)
    (hlex : p.LexOK) (hnames : p.base.NamesOK) (htn : ∀ l ∈ p.tail, IsLabelName l)
    (hplain : ∀ cs k, EItem.comment cs k ∈ p.items → plainComment cs)
    (hnd : (p.labels ++ p.tail ++ p.equNames ++ constNames).Nodup)
    (hcl : ∀ x ∈ p.names, x ∈ p.labels ∨ x ∈ p.tail ∨ x ∈ p.equNames ∨ x ∈ constNames)
    (hsmall : xinstrCount p.body < 2 ^ 63)
    (hrk : ERanked (xequs p.body ++ Spec.predefined sc) d) (hlt : ∀ s, d s < 63)
    (hw : XProgWF lexString sc (xtablesT sc p.body p.kw p.e p.tail) 0 p.xitems)
    (ls : List SrcLine) (hls : ∀ l ∈ ls, l.ok (some '\n') = true) (hsame : SameLines ls p.srcLines)
    (hascii : ∀ c ∈ renderLines ls, c.toNat < 128) :
    assemble cfg (asciiBytes (renderLines ls)) =
      match Spec.meaningFlatT sc (p.xitems.map AsmLine.XItem.toItem) p.tail with
      | some m => .ok (toWD p.meta m)
      | none => .err :=
  assemble_meaning_equ_tail cfg sc p d hv h63 hr hlex hnames htn hplain hnd hcl hsmall hrk hlt hw ls hls
    hsame _ (decodeRunes_ascii _ hascii)

theorem assemble_meaning_equ_tail_utf8 (cfg : Config) (sc : Spec.Cfg) (p : TProg) (d : String → Nat)
    (hv : cfg.validate = true) (h63 : cfg.coreSize.toNat < 2 ^ 63) (hr : CfgRel cfg sc)
    (hlex : p.LexOK) (hnames : p.base.NamesOK) (htn : ∀ l ∈ p.tail, IsLabelName l)
    (hplain : ∀ cs k, EItem.comment cs k ∈ p.items → plainComment cs)
    (hnd : (p.labels ++ p.tail ++ p.equNames ++ constNames).Nodup)
    (hcl : ∀ x ∈ p.names, x ∈ p.labels ∨ x ∈ p.tail ∨ x ∈ p.equNames ∨ x ∈ constNames)
    (hsmall : xinstrCount p.body < 2 ^ 63)
    (hrk : ERanked (xequs p.body ++ Spec.predefined sc) d) (hlt : ∀ s, d s < 63)
    (hw : XProgWF lexString sc (xtablesT sc p.body p.kw p.e p.tail) 0 p.xitems)
    (ls : List SrcLine) (hls : ∀ l ∈ ls, l.ok (some '\n') = true) (hsame : SameLines ls p.srcLines) :
    assemble cfg (String.ofList (renderLines ls)).toUTF8.data.toList =
      match Spec.meaningFlatT sc (p.xitems.map AsmLine.XItem.toItem) p.tail with
      | some m => .ok (toWD p.meta m)
      | none => .err :=
  assemble_meaning_equ_tail cfg sc p d hv h63 hr hlex hnames htn hplain hnd hcl hsmall hrk hlt hw ls hls
    hsame _ (decodeRunes_toUTF8 _)

/-- `org last` / `end last` with `last` on the END line: rejected, from bytes, when
    `0 < n < M` (`n` the number of instructions; `M ≤ 2^31` so that the reference evaluator does
    not overflow on `n`) -/
theorem assemble_start_tail_rejected (cfg : Config) (sc : Spec.Cfg) (p : TProg) (d : String → Nat)
    (last : String)
    (hv : cfg.validate = true) (h63 : cfg.coreSize.toNat < 2 ^ 63) (hr : CfgRel cfg sc)
    (hlex : p.LexOK) (hnames : p.base.NamesOK) (htn : ∀ l ∈ p.tail, IsLabelName l)
    (hplain : ∀ cs k, EItem.comment cs k ∈ p.items → plainComment cs)
    (hnd : (p.labels ++ p.tail ++ p.equNames ++ constNames).Nodup)
    (hcl : ∀ x ∈ p.names, x ∈ p.labels ∨ x ∈ p.tail ∨ x ∈ p.equNames ∨ x ∈ constNames)
    (hsmall : xinstrCount p.body < 2 ^ 63)
    (hrk : ERanked (xequs p.body ++ Spec.predefined sc) d) (hlt : ∀ s, d s < 63)
    (hw : XProgWF lexString sc (xtablesT sc p.body p.kw p.e p.tail) 0 p.xitems)
    (ls : List SrcLine) (hls : ∀ l ∈ ls, l.ok (some '\n') = true) (hsame : SameLines ls p.srcLines)
    (src : List UInt8) (hsrc : decodeRunes src = renderLines ls)
    (hl : last ∈ p.tail) (hstart : xstart p.xitems = [.name last])
    (hn : 0 < xinstrCount p.body) (hnM : xinstrCount p.body < sc.M) (h31 : sc.M ≤ 2 ^ 31) :
    assemble cfg src = .err := by
  rw [assemble_meaning_equ_tail cfg sc p d hv h63 hr hlex hnames htn hplain hnd hcl hsmall hrk hlt hw
    ls hls hsame src hsrc]
  unfold TProg.xitems
  rw [meaningFlatT_start_tail sc p.body p.kw p.e p.tail last hnd hl hstart hn hnM h31]

end AsmTail
end Gmars
