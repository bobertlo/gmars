/-
  `exec` in the form the reference has. sim.go distinguishes the eight addressing modes by a
  cascade of tests; here the operand phases are written by the five kinds of mode of the
  reference (`Spec.kind`), with the number an indirect mode goes through as a variable. The
  stores of the arithmetic opcodes become one fold over a list (`Sim.upds`), and `exec_eq`
  restates `Sim.exec` as the operand phases followed by the opcode dispatch `Sim.opPhase`.
-/
import Gmars.Model.Sim
import Gmars.Spec.ICWS94

namespace Gmars
open Spec (Field kind)

def Instr.getN (f : Field) (x : Instr) : UInt64 := match f with | .A => x.a | .B => x.b

def decN (f : Field) (m : UInt64) : Instr → Instr := match f with | .A => decA m | .B => decB m

def incN (f : Field) (m : UInt64) : Instr → Instr := match f with | .A => incA m | .B => incB m

variable (s : Sim) (pc : UInt64) (ir : Instr) (wi : Nat)

def Sim.indir (w : Bool) (f : Field) (rp wp pip : UInt64) :
    Except Panic (Sim × UInt64 × UInt64 × UInt64) :=
  s.rd ((pc + rp) % s.m) >>= fun c =>
  (if w then s.rd ((pc + wp) % s.m) else pure default) >>= fun d =>
  pure (s, s.readFold (rp + c.getN f), s.writeFold (wp + d.getN f), pip)

/-- Operand preparation for a mode and a number, as the reference has it (`Spec.evalOperand`): one
    function for both operands. sim.go spells it out twice; the A-operand has no write pointer, so
    it skips the second read (`w = false`) and starts without a pending post-increment. -/
def Sim.operand (w : Bool) (mode : Mode) (num pip0 : UInt64) :
    Except Panic (Sim × UInt64 × UInt64 × UInt64) :=
  match kind mode with
  | .imm => .ok (s, 0, 0, pip0)
  | .dir => pure (s, s.readFold num, s.writeFold num, pip0)
  | .ind f => s.indir pc w f (s.readFold num) (s.writeFold num) pip0
  | .pre f => do
    let s1 ← (do
      let s' ← s.upd ((pc + s.writeFold num) % s.m) (decN f s.m)
      pure (s'.report (rep .decrement wi ((pc + s.writeFold num) % s.m))))
    s1.indir pc w f (s.readFold num) (s.writeFold num) pip0
  | .post f =>
    s.indir pc w f (s.readFold num) (s.writeFold num) ((pc + s.writeFold num) % s.m)

theorem Sim.aOperand_eq : s.aOperand pc ir wi =
    (fun r => (r.1, r.2.1, r.2.2.2)) <$> s.operand pc wi false ir.am ir.a 0 := by
  unfold Sim.aOperand Sim.operand Sim.indir
  cases ir.am <;> first | rfl | simp [kind, Mode.isA, Mode.isB, decN, Instr.getN]

theorem Sim.bOperand_eq (pip0 : UInt64) :
    s.bOperand pc ir wi pip0 = s.operand pc wi true ir.bm ir.b pip0 := by
  unfold Sim.bOperand Sim.operand Sim.indir
  cases ir.bm <;> simp [kind, Mode.isA, Mode.isB, decN, Instr.getN]

def Sim.post (mode : Mode) (pip : UInt64) : Except Panic Sim :=
  match kind mode with
  | .post f => do
    let s' ← s.upd pip (incN f s.m)
    pure (s'.report (rep .increment wi pip))
  | _ => pure s

theorem Sim.aPost_eq (pip : UInt64) : s.aPost ir pip wi = s.post wi ir.am pip := by
  unfold Sim.aPost Sim.post
  cases ir.am <;> simp [kind, incN]

theorem Sim.bPost_eq (pip : UInt64) : s.bPost ir pip wi = s.post wi ir.bm pip := by
  unfold Sim.bPost Sim.post
  cases ir.bm <;> simp [kind, incN]

/-! The stores of MOV, ADD, SUB, MUL, DIV, MOD: simops.go spells them out modifier by modifier;
    the reference folds over `Spec.arithPairs`. `arithPairsU` is that list on the model's numbers,
    `Sim.upds` the fold, and the three functions are the fold followed by their tail. -/

def Instr.setN (f : Field) (v : UInt64) (c : Instr) : Instr :=
  match f with | .A => { c with a := v } | .B => { c with b := v }

/-- tied to `Spec.arithPairs` by `arithPairsU_abs` (RefineOps.lean) -/
def arithPairsU (md : Modifier) (ira irb : Instr) : List (Field × UInt64 × UInt64) :=
  match md with
  | .a  => [(.A, irb.a, ira.a)]
  | .b  => [(.B, irb.b, ira.b)]
  | .ab => [(.B, irb.b, ira.a)]
  | .ba => [(.A, irb.a, ira.b)]
  | .f | .i => [(.A, irb.a, ira.a), (.B, irb.b, ira.b)]
  | .x  => [(.B, irb.b, ira.a), (.A, irb.a, ira.b)]

/-- guarded updates of one cell in turn (the last one without a trailing `pure`, so that the
    functions of simops.go unfold to this by `rfl`) -/
def Sim.upds (s : Sim) (w : UInt64) : List (Bool × (Instr → Instr)) → Except Panic Sim
  | [] => pure s
  | [(b, f)] => if b then s.upd w f else pure s
  | (b, f) :: fs => do
    let s ← (if b then s.upd w f else pure s)
    s.upds w fs

def stores (ok : UInt64 → Bool) (g : UInt64 → UInt64 → UInt64)
    (ps : List (Field × UInt64 × UInt64)) : List (Bool × (Instr → Instr)) :=
  ps.map fun p => (ok p.2.2, Instr.setN p.1 (g p.2.1 p.2.2))

theorem Sim.upds_cons (w : UInt64) (b : Bool) (f : Instr → Instr)
    (fs : List (Bool × (Instr → Instr))) :
    s.upds w ((b, f) :: fs) = (if b then s.upd w f else pure s) >>= fun s => s.upds w fs := by
  cases fs
  · exact (bind_pure _).symm
  · rfl

theorem Sim.mov_eq (ira irb : Instr) (wab : UInt64) :
    s.mov ir ira wab pc wi = (do
      let s ← s.upds wab (if ir.md = .i then [(true, fun _ => ira)]
        else stores (fun _ => true) (fun _ y => y) (arithPairsU ir.md ira irb))
      s.pushNext wi ((pc + 1) % s.m)) := by
  unfold Sim.mov
  cases ir.md <;> rfl

/-- ADD / SUB / MUL with `.x` store the A-number first, the reference lists it second -/
theorem Sim.arith_eq (g : UInt64 → UInt64 → UInt64) (ira irb : Instr) (wab : UInt64) :
    s.arith g ir ira irb wab pc wi = (do
      let s ← s.upds wab (stores (fun _ => true) g
        (if ir.md = .x then (arithPairsU ir.md ira irb).reverse else arithPairsU ir.md ira irb))
      s.pushNext wi ((pc + 1) % s.m)) := by
  unfold Sim.arith
  cases ir.md <;> rfl

/-- DIV / MOD: a store is skipped when its divisor is zero, and the task ends if any was -/
theorem Sim.divmod_eq (g : UInt64 → UInt64 → UInt64) (ira irb : Instr) (wab : UInt64) :
    s.divmod g ir ira irb wab pc wi = (do
      let s' ← s.upds wab (stores (· != 0) g (arithPairsU ir.md ira irb))
      if (arithPairsU ir.md ira irb).all (fun p => p.2.2 != 0) then
        s'.pushNext wi ((pc + 1) % s'.m)
      else pure (s'.terminate wi pc)) := by
  unfold Sim.divmod
  cases ir.md <;>
    simp only [arithPairsU, stores, Sim.upds, List.map, List.all, Bool.and_true, bind_assoc, bne]
  case a | ab => rcases Bool.eq_false_or_eq_true (ira.a == 0) with ha | ha <;> simp only [ha] <;> rfl
  case b | ba => rcases Bool.eq_false_or_eq_true (ira.b == 0) with hb | hb <;> simp only [hb] <;> rfl
  all_goals
    rcases Bool.eq_false_or_eq_true (ira.a == 0) with ha | ha <;>
    rcases Bool.eq_false_or_eq_true (ira.b == 0) with hb | hb <;>
    simp only [ha, hb] <;> rfl

/-- the opcode dispatch of `exec`, after both operands have been prepared: a copy of the `match`
    that ends `Sim.exec` (Model/Sim.lean), tied to it by the closing `rfl` of `exec_eq`; edit both
    together -/
def Sim.opPhase (s : Sim) (ir ira irb : Instr) (pc rpa rpb wpb : UInt64) (wi : Nat) :
    Except Panic Sim :=
  let wab := (pc + wpb) % s.m
  let rab := (pc + rpa) % s.m
  match ir.op with
  | .dat => pure (s.terminate wi pc)
  | .mov => do let s ← s.mov ir ira wab pc wi; pure (s.report (rep .write wi wab))
  | .add => do let s ← s.arith s.addF ir ira irb wab pc wi; pure (s.report (rep .write wi wab))
  | .sub => do let s ← s.arith s.subF ir ira irb wab pc wi; pure (s.report (rep .write wi wab))
  | .mul => do let s ← s.arith s.mulF ir ira irb wab pc wi; pure (s.report (rep .write wi wab))
  | .div => do let s ← s.divmod (· / ·) ir ira irb wab pc wi; pure (s.report (rep .write wi wab))
  | .mod => do let s ← s.divmod (· % ·) ir ira irb wab pc wi; pure (s.report (rep .write wi wab))
  | .jmp => s.push wi rab
  | .jmz => s.jmz ir irb rab pc wi
  | .jmn => s.jmn ir irb rab pc wi
  | .djn => do let s ← s.djn ir irb rab wab pc wi; pure (s.report (rep .decrement wi wab))
  | .cmp | .seq => do
      let s ← s.skipIf (cmpCond ir ira irb) pc wi; pure (s.reads pc rpa rpb wi)
  | .slt => do
      let s ← s.skipIf (sltCond ir ira irb) pc wi; pure (s.reads pc rpa rpb wi)
  | .sne => do
      let s ← s.skipIf (sneCond ir ira irb) pc wi; pure (s.reads pc rpa rpb wi)
  | .spl => do let s ← s.push wi ((pc + 1) % s.m); s.push wi rab
  | .nop => s.push wi ((pc + 1) % s.m)

theorem exec_eq (s : Sim) (pc : UInt64) (wi : Nat) :
    s.exec pc wi = (do
      if s.m == 0 || s.readLimit == 0 || s.writeLimit == 0 then throw .divZero
      let ir ← s.rd pc
      let (s, rpa, _, pip) ← s.operand pc wi false ir.am ir.a 0
      let ira ← s.rd ((pc + rpa) % s.m)
      let s ← s.post wi ir.am pip
      let (s, rpb, wpb, pip) ← s.operand pc wi true ir.bm ir.b pip
      let irb ← s.rd ((pc + rpb) % s.m)
      let s ← s.post wi ir.bm pip
      s.opPhase ir ira irb pc rpa rpb wpb wi) := by
  unfold Sim.exec
  simp only [Sim.aOperand_eq, Sim.aPost_eq, Sim.bOperand_eq, Sim.bPost_eq, bind_map_left]
  rfl

end Gmars
