/-
  C03 "Redcode source assembles to the instructions it denotes", compiler stage: one assembled
  line.  `assembleLine` is a pure function of the line's text fields (`lineShape`) applied to the
  values of the operand expressions, and that function is the reference's `Spec.instrMeaning`.
-/
import Gmars.Proofs.CompileWF
import Gmars.Proofs.AsmOps

namespace Gmars.AsmLine
open Gmars.Compile

/-- what `reduceMod v m` answers for `m ≠ 0` -/
def redI (v m : Int) : UInt64 :=
  toAddr (if Int.tmod v m < 0 then Int.tmod (wrap64 (m + Int.tmod v m)) m else Int.tmod v m)

theorem reduceMod_eq {v m : Int} (hm : m ≠ 0) : reduceMod v m = .ok (redI v m) := by
  unfold reduceMod redI
  rw [if_neg (by simpa using hm)]

def modeShape (legacy : Bool) (dflt : Mode) (s : String) : Option Mode :=
  if s == "" then some dflt
  else if legacy then getAddressMode88 s.toList else getAddressMode s.toList

def opShape (legacy : Bool) (opS : String) (am bm : Mode) : Option (Op × Modifier) :=
  if legacy then
    match getOpCode88 opS.toList with
    | none => none
    | some op =>
      match getOpModeAndValidate88 op am bm with
      | none => none
      | some md => some (op, md)
  else
    match getOp94 opS.toList with
    | some r => some r
    | none =>
      match getOpCode opS.toList with
      | none => none
      | some op => some (op, getOpMode94 op am bm)

def placeShape (m : Int) (op : Op) (md : Modifier) (am bm : Mode) (hasB : Bool)
    (avO bvO : Option Int) : Option Instr :=
  match avO with
  | none => none
  | some av =>
    if hasB then
      match bvO with
      | none => none
      | some bv => some { op := op, md := md, am := am, a := redI av m, bm := bm, b := redI bv m }
    else if op == .dat then
      some { op := op, md := md, am := .immediate, a := redI 0 m, bm := am, b := redI av m }
    else
      some { op := op, md := md, am := am, a := redI av m, bm := bm, b := redI 0 m }

/-- `lineShape` with optional operand values (`none` = the operand does not evaluate) -/
def lineShapeO (legacy : Bool) (m : Int) (opS amodeS bmodeS : String) (hasB : Bool)
    (avO bvO : Option Int) : Option Instr :=
  let dflt : Mode := if legacy && lowerStr opS == "dat" then .immediate else .direct
  match modeShape legacy dflt amodeS with
  | none => none
  | some am =>
    match modeShape legacy dflt bmodeS with
    | none => none
    | some bm =>
      match opShape legacy opS am bm with
      | none => none
      | some (op, md) => placeShape m op md am bm hasB avO bvO

/-- The instruction a source line assembles to, as a pure function of the dialect, the modulus
    `int(coreSize)`, the three text fields of the line, "there is a B operand", and the values of
    the operand expressions: mode decoding per dialect, default modes (`$`; `#` for an '88 DAT),
    opcode/modifier resolution (`getOpCode88` + `getOpModeAndValidate88`, or `getOp94`, or
    `getOpCode` + `getOpMode94`), the lone-operand rule, reduction modulo `m`. -/
def lineShape (legacy : Bool) (m : Int) (opS amodeS bmodeS : String) (hasB : Bool) (av bv : Int) :
    Option Instr :=
  lineShapeO legacy m opS amodeS bmodeS hasB (some av) (some bv)

theorem modeOf_eq (c : Compiler) (ln : SourceLine) (s : String) :
    modeOf c ln s = optM (modeShape c.legacy (dfltMode c ln) s) := by
  unfold modeOf modeShape Compiler.getAddressMode
  split <;> rfl

theorem opOf_eq (c : Compiler) (ln : SourceLine) (am bm : Mode) :
    opOf c ln am bm = optM (opShape c.legacy ln.op am bm) := by
  unfold opOf opShape
  cases c.legacy
  · simp only [Bool.false_eq_true, if_false]
    cases h1 : getOp94 ln.op.toList with
    | some r => rfl
    | none => cases h2 : getOpCode ln.op.toList <;> simp only [optM, bind, Except.bind]
  · simp only [if_true]
    cases h1 : getOpCode88 ln.op.toList with
    | none => rfl
    | some op =>
      cases h2 : getOpModeAndValidate88 op am bm <;> simp only [h2, optM, bind, Except.bind]

def operandM (c : Compiler) (e : List Token) (line : Int) : M Int :=
  expandExpression c e line >>= evalM

theorem operandM_bind {β : Type} (c : Compiler) (e : List Token) (line : Int) (k : Int → M β) :
    (expandExpression c e line >>= fun x => evalM x >>= k) = operandM c e line >>= k :=
  (bind_assoc ..).symm

/-- General form of `assembleLine_shape`: the operand evaluations may fail with an ordinary
    error (`optM none`), in program order. -/
theorem assembleLine_shapeO (c : Compiler) (ln : SourceLine) (avO bvO : Option Int)
    (hm : mInt c.m ≠ 0)
    (hA : operandM c (ln.a.getD []) ln.codeLine = optM avO)
    (hB : (ln.b.getD []).isEmpty = false → operandM c (ln.b.getD []) ln.codeLine = optM bvO) :
    assembleLine c ln =
      optM (lineShapeO c.legacy (mInt c.m) ln.op ln.amode ln.bmode (!(ln.b.getD []).isEmpty)
        avO bvO) := by
  rw [assembleLine_eq, modeOf_eq, modeOf_eq]
  unfold lineShapeO dfltMode operandsOf
  simp only [operandM_bind]
  generalize (if c.legacy && lowerStr ln.op == "dat" then Mode.immediate else .direct) = dflt
  cases h1 : modeShape c.legacy dflt ln.amode with
  | none => rfl
  | some am =>
    cases h2 : modeShape c.legacy dflt ln.bmode with
    | none => rfl
    | some bm =>
      simp only [optM, bind, Except.bind, opOf_eq]
      cases h3 : opShape c.legacy ln.op am bm with
      | none => rfl
      | some p =>
        obtain ⟨op, md⟩ := p
        simp only [hA]
        unfold placeShape
        cases avO with
        | none => rfl
        | some av =>
          cases hb : (ln.b.getD []).isEmpty with
          | true =>
            cases op == Op.dat <;>
              simp only [optM, Bool.not_true, Bool.false_eq_true, if_false, if_true, reduceMod_eq hm]
          | false =>
            simp only [hB hb]
            cases bvO with
            | none => rfl
            | some bv =>
              simp only [optM, Bool.not_false, if_true, Bool.false_eq_true, if_false,
                reduceMod_eq hm]

/-- `assembleLine` = shape ∘ evaluation (an error of the mode / opcode / '88 validation stage
    being `none`).  `mInt c.m ≠ 0` holds after `Config.validate` (`validate_coreSize`). -/
theorem assembleLine_shape (c : Compiler) (ln : SourceLine) (av bv : Int)
    (hm : mInt c.m ≠ 0)
    (hA : expandExpression c (ln.a.getD []) ln.codeLine >>= evalM = .ok av)
    (hB : (ln.b.getD []).isEmpty = false →
      expandExpression c (ln.b.getD []) ln.codeLine >>= evalM = .ok bv) :
    assembleLine c ln =
      optM (lineShape c.legacy (mInt c.m) ln.op ln.amode ln.bmode (!(ln.b.getD []).isEmpty) av bv) :=
  assembleLine_shapeO c ln (some av) (some bv) hm hA hB

theorem toAddr_of_nonneg {x : Int} (h0 : 0 ≤ x) (h1 : x < 18446744073709551616) :
    toAddr x = UInt64.ofNat x.toNat := by
  unfold toAddr
  rw [Int.emod_eq_of_lt h0 h1]

theorem redI_eq_reduce {M : Nat} (h0 : 0 < M) (h63 : M < 2 ^ 63) (v : Int) :
    redI v (M : Int) = Spec.reduce M v := by
  unfold redI Spec.reduce
  have hM : (0 : Int) < M := by omega
  have h1 := Int.tmod_lt_of_pos v hM
  have h2 := Int.lt_tmod_of_pos v hM
  have key : v % (M : Int) = Int.tmod v M % M := by
    rw [← Int.add_mul_emod_self_left (Int.tmod v M) M (v.tdiv M), Int.tmod_add_mul_tdiv]
  rw [key]
  generalize Int.tmod v M = r at h1 h2
  have fin : ∀ x : Int, 0 ≤ x → x < M → toAddr x = UInt64.ofNat (x % M).toNat := fun x hx0 hxM => by
    rw [toAddr_of_nonneg hx0 (by omega), Int.emod_eq_of_lt hx0 hxM]
  split
  · rw [wrap64_id (by omega) (by omega), Int.tmod_eq_of_lt (by omega) (by omega),
      fin _ (by omega) (by omega), Int.add_comm, Int.add_emod_right]
  · exact fin r (by omega) h1

theorem redI_zero (m : Int) : redI 0 m = 0 := by
  unfold redI
  simp [toAddr]

theorem reduceMod_eq_reduce {M : Nat} (h0 : 0 < M) (h63 : M < 2 ^ 63) (v : Int) :
    reduceMod v (M : Int) = .ok (Spec.reduce M v) := by
  rw [reduceMod_eq (by omega), redI_eq_reduce h0 h63]

theorem modeString_none : modeString none = "" := rfl

theorem modeString_some_ne (m : Mode) : (modeString (some m) == "") = false := by
  cases m <;> decide

theorem modeString_some_toList (m : Mode) : (modeString (some m)).toList = [m.sym] := by
  simp [modeString]

theorem modeShape_modeString (legacy : Bool) (dflt : Mode) (hd : Spec.mode88 dflt = true)
    (mo : Option Mode) :
    modeShape legacy dflt (modeString mo) =
      if legacy && !Spec.mode88 (mo.getD dflt) then none else some (mo.getD dflt) := by
  cases mo with
  | none =>
    simp [modeShape, modeString_none, hd]
  | some m =>
    unfold modeShape
    rw [modeString_some_ne, modeString_some_toList, getAddressMode_sym, getAddressMode88_sym]
    cases legacy <;> cases h : Spec.mode88 m <;> simp [h]

theorem opString_none (opS : String) : opString opS none = opS := by
  simp [opString]

theorem opString_some_toList (opS s : String) :
    (opString opS (some s)).toList = opS.toList ++ '.' :: s.toList := by
  simp [opString, String.toList_append]

/-- the reference's modifier resolution -/
def mdSpec (legacy : Bool) (mdS : Option String) (op : Op) (am bm : Mode) : Option Modifier :=
  if legacy then (if mdS.isSome then none else Spec.implied88 op am bm)
  else
    match mdS with
    | some s => Spec.modOfString s
    | none => some (Spec.defaultMod94 op am bm)

theorem opShape_opString (legacy : Bool) (opS : String) (mdS : Option String) (am bm : Mode)
    (hop : Ascii opS) (hdot : '.' ∉ opS.toList) (hmd : ∀ s, mdS = some s → Ascii s)
    (ha : legacy = true → Spec.mode88 am = true) (hb : legacy = true → Spec.mode88 bm = true) :
    opShape legacy (opString opS mdS) am bm =
      match Spec.opOfString opS with
      | none => none
      | some op =>
        if legacy && !Spec.is88Op op then none
        else (mdSpec legacy mdS op am bm).map (fun md => (op, md)) := by
  unfold opShape mdSpec
  cases legacy with
  | true =>
    simp only [if_true, Bool.true_and]
    cases mdS with
    | some s =>
      rw [getOpCode88_dot (by rw [opString_some_toList]; simp)]
      cases Spec.opOfString opS with
      | none => rfl
      | some op => simp
    | none =>
      rw [opString_none, getOpCode88_eq hop]
      cases h : Spec.opOfString opS with
      | none => rfl
      | some op =>
        cases h8 : Spec.is88Op op with
        | false => simp [Option.filter, h8]
        | true =>
          simp only [Option.filter, h8, if_true, Bool.not_true, Bool.false_eq_true, if_false,
            Option.isSome_none]
          rw [validate88_eq op am bm (ha rfl) (hb rfl)]
          cases Spec.implied88 op am bm <;> rfl
  | false =>
    simp only [Bool.false_eq_true, if_false, Bool.false_and]
    cases mdS with
    | none =>
      rw [opString_none, getOp94_nodot hdot, getOpCode_eq hop]
      cases Spec.opOfString opS with
      | none => rfl
      | some op => simp [getOpMode94_eq]
    | some s =>
      have hs := hmd s rfl
      rw [opString_some_toList]
      have hfall : getOpCode (opS.toList ++ '.' :: s.toList) = none := getOpCode_dot (by simp)
      by_cases hsd : '.' ∈ s.toList
      · have h2 : 2 ≤ (opS.toList ++ '.' :: s.toList).count '.' := by
          rw [List.count_append, List.count_cons_self]
          have := List.count_pos_iff.2 hsd
          omega
        rw [getOp94_many h2, hfall]
        have : Spec.modOfString s = none := by rw [← getOpMode_eq hs]; exact getOpMode_dot hsd
        simp only [this]
        cases Spec.opOfString opS <;> rfl
      · rw [getOp94_two hdot hsd, getOpCode_eq hop, getOpMode_eq hs, hfall]
        cases Spec.opOfString opS with
        | none => rfl
        | some op => cases h : Spec.modOfString s <;> simp [h]

theorem dflt_opString (opS : String) (hop : Ascii opS) :
    (lowerStr (opString opS none) == "dat") = (Spec.opOfString opS == some .dat) := by
  rw [opString_none, lowerStr_dat_iff, getOpCode_eq hop]

theorem reduce_zero (M : Nat) : Spec.reduce M 0 = 0 := by
  simp [Spec.reduce]

theorem placeShape_spec {M : Nat} (h0 : 0 < M) (h63 : M < 2 ^ 63) (op : Op) (md : Modifier)
    (am bm : Mode) (avO bvO : Option Int) (b : Option Spec.POperand) (f : Spec.POperand → Option Int)
    (hB : ∀ bo, b = some bo → bvO = f bo) (hbm : b = none → op ≠ .dat → bm = .direct) :
    placeShape (M : Int) op md am bm b.isSome avO bvO =
      avO.bind fun av =>
        match b with
        | some bo => (f bo).bind fun bv =>
            some { op := op, md := md, am := am, a := Spec.reduce M av, bm := bm, b := Spec.reduce M bv }
        | none =>
          if op == .dat then
            some { op := op, md := md, am := .immediate, a := 0, bm := am, b := Spec.reduce M av }
          else some { op := op, md := md, am := am, a := Spec.reduce M av, bm := .direct, b := 0 } := by
  unfold placeShape
  cases avO with
  | none => rfl
  | some av =>
    cases b with
    | some bo =>
      cases h : f bo <;> simp [hB bo rfl, h, redI_eq_reduce h0 h63]
    | none =>
      by_cases hop : op = .dat
      · subst hop; simp [redI_eq_reduce h0 h63, reduce_zero]
      · have := hbm rfl hop
        subst this
        simp [hop, redI_eq_reduce h0 h63, reduce_zero]

theorem instrMeaning_eq (c : Spec.Cfg) (t : Spec.Tables) (line : Nat) (opS : String)
    (mdS : Option String) (a : Spec.POperand) (b : Option Spec.POperand) :
    Spec.instrMeaning c t line opS mdS a b =
      match Spec.opOfString opS with
      | none => none
      | some op =>
        if c.legacy && !Spec.is88Op op then none
        else
          let D : Mode := if c.legacy && op == .dat then .immediate else .direct
          let am := a.mode.getD D
          let bm := (b.bind (·.mode)).getD D
          if c.legacy && !(Spec.mode88 am && Spec.mode88 bm) then none
          else
            (mdSpec c.legacy mdS op am bm).bind fun md =>
              (Spec.evalAt c t line a.expr).bind fun av =>
                match b with
                | some bo => (Spec.evalAt c t line bo.expr).bind fun bv =>
                    some { op := op, md := md, am := am, a := Spec.reduce c.M av, bm := bm,
                           b := Spec.reduce c.M bv }
                | none =>
                  if op == .dat then
                    some { op := op, md := md, am := .immediate, a := 0, bm := am,
                           b := Spec.reduce c.M av }
                  else some { op := op, md := md, am := am, a := Spec.reduce c.M av,
                              bm := .direct, b := 0 } := by
  unfold Spec.instrMeaning mdSpec
  cases Spec.opOfString opS with
  | none => rfl
  | some op => cases b <;> rfl

theorem lineShapeO_rejected {legacy : Bool} {m : Int} {opS amodeS bmodeS : String} {hasB : Bool}
    {avO bvO : Option Int} (h : ∀ am bm, opShape legacy opS am bm = none) :
    lineShapeO legacy m opS amodeS bmodeS hasB avO bvO = none := by
  unfold lineShapeO
  simp only [h]
  split
  · rfl
  · split <;> rfl

/-- The per-line theorem.  Under ICWS'88 a modifier suffix or an unknown opcode is rejected by both
    sides before anything else matters (`lineShapeO_rejected`).  Otherwise both sides are the same
    chain of guards (default mode `D`, the two modes, opcode and modifier, operand placement); each
    guard of the model is rewritten into the reference's (`modeShape_modeString`,
    `opShape_opString`, `placeShape_spec`) and the remaining `Option` cases close by `rfl`. -/
theorem lineShapeO_meaning (c : Spec.Cfg) (t : Spec.Tables) (line : Nat) (opS : String)
    (mdS : Option String) (a : Spec.POperand) (b : Option Spec.POperand)
    (hM0 : 0 < c.M) (hM : c.M < 2 ^ 63)
    (hop : Ascii opS) (hdot : '.' ∉ opS.toList) (hmd : ∀ s, mdS = some s → Ascii s)
    (bvO : Option Int) (hB : ∀ bo, b = some bo → bvO = Spec.evalAt c t line bo.expr) :
    lineShapeO c.legacy (c.M : Int) (opString opS mdS) (modeString a.mode)
        (modeString (b.bind (·.mode))) b.isSome (Spec.evalAt c t line a.expr) bvO =
      Spec.instrMeaning c t line opS mdS a b := by
  rw [instrMeaning_eq]
  obtain ⟨legacy, M, ml, mp, mdist⟩ := c
  simp only at hM0 hM ⊢
  cases legacy with
  | false =>
    unfold lineShapeO
    simp only [Bool.false_and, Bool.false_eq_true, if_false]
    rw [modeShape_modeString _ _ rfl, modeShape_modeString _ _ rfl]
    simp only [Bool.false_and, Bool.false_eq_true, if_false]
    rw [opShape_opString false opS mdS _ _ hop hdot hmd (by simp) (by simp)]
    cases Spec.opOfString opS with
    | none => rfl
    | some op =>
      simp only [Bool.false_and, Bool.false_eq_true, if_false]
      cases mdSpec false mdS op (a.mode.getD Mode.direct)
          ((b.bind fun x => x.mode).getD Mode.direct) with
      | none => rfl
      | some md =>
        simp only [Option.map_some, Option.bind_some]
        exact placeShape_spec hM0 hM _ _ _ _ _ _ _ _ hB fun hb _ => by subst hb; rfl
  | true =>
    simp only [Bool.true_and]
    cases mdS with
    | some s =>
      rw [lineShapeO_rejected fun am bm => by
        unfold opShape
        rw [if_pos rfl, getOpCode88_dot (by rw [opString_some_toList]; simp)]]
      cases Spec.opOfString opS <;> simp [mdSpec]
    | none =>
      cases hO : Spec.opOfString opS with
      | none =>
        exact lineShapeO_rejected fun am bm => by
          unfold opShape
          rw [if_pos rfl, opString_none, getOpCode88_eq hop, hO]
          rfl
      | some op =>
        unfold lineShapeO
        simp only [Bool.true_and]
        rw [dflt_opString opS hop, hO, Option.some_beq_some]
        generalize hD : (if (op == Op.dat) = true then Mode.immediate else Mode.direct) = D
        have hD88 : Spec.mode88 D = true := by subst hD; split <;> rfl
        rw [modeShape_modeString _ _ hD88, modeShape_modeString _ _ hD88]
        -- without a B operand the B mode is the default, `$` unless the opcode is DAT
        have hbm0 : b = none → op ≠ .dat → (b.bind fun x => x.mode).getD D = .direct := by
          intro hb hne
          subst hb hD
          simp [hne]
        generalize a.mode.getD D = am at *
        generalize (b.bind fun x => x.mode).getD D = bm at *
        cases ha : Spec.mode88 am with
        | false => simp
        | true =>
          cases hb : Spec.mode88 bm with
          | false => simp
          | true =>
            simp only [Bool.true_and, Bool.not_true, Bool.false_eq_true, if_false, Bool.and_self]
            rw [opShape_opString true opS none am bm hop hdot hmd (fun _ => ha) (fun _ => hb), hO]
            simp only [Bool.true_and]
            cases Spec.is88Op op with
            | false => rfl
            | true =>
              simp only [Bool.not_true, Bool.false_eq_true, if_false]
              cases mdSpec true none op am bm with
              | none => rfl
              | some md =>
                simp only [Option.map_some, Option.bind_some]
                exact placeShape_spec hM0 hM _ _ _ _ _ _ _ _ hB hbm0

theorem placeShape_noB (m : Int) (op : Op) (md : Modifier) (am bm : Mode) (avO : Option Int)
    (bv : Int) :
    placeShape m op md am bm false avO (some bv) = placeShape m op md am bm false avO none := by
  unfold placeShape
  cases avO <;> rfl

theorem lineShapeO_noB (legacy : Bool) (m : Int) (opS amodeS bmodeS : String) (avO : Option Int)
    (bv : Int) :
    lineShapeO legacy m opS amodeS bmodeS false avO (some bv) =
      lineShapeO legacy m opS amodeS bmodeS false avO none := by
  unfold lineShapeO
  simp only [placeShape_noB]

/-- For an abstract instruction `Spec.Item.instr labels opS mdS a b` whose source line
    carries the text `opS[.mdS]`, the mode symbols (or nothing) and the operands, the shape
    function is the reference meaning `Spec.instrMeaning`, given the same operand values.

    Restrictions: the opcode and modifier texts are ASCII (see
    `getOpCode_nonascii_counterexample`) and the opcode text has no dot (`mov.i` with no modifier
    is MOV.I for gmars and no opcode for the reference); `0 < M`. -/
theorem lineShape_meaning (c : Spec.Cfg) (t : Spec.Tables) (line : Nat) (opS : String)
    (mdS : Option String) (a : Spec.POperand) (b : Option Spec.POperand) (av bv : Int)
    (hM0 : 0 < c.M) (hM : c.M < 2 ^ 63)
    (hop : Ascii opS) (hdot : '.' ∉ opS.toList) (hmd : ∀ s, mdS = some s → Ascii s)
    (hA : Spec.evalAt c t line a.expr = some av)
    (hB : ∀ bo, b = some bo → Spec.evalAt c t line bo.expr = some bv) :
    lineShape c.legacy (c.M : Int) (opString opS mdS) (modeString a.mode)
        (modeString (b.bind (·.mode))) b.isSome av bv =
      Spec.instrMeaning c t line opS mdS a b := by
  rw [lineShape, ← hA]
  exact lineShapeO_meaning c t line opS mdS a b hM0 hM hop hdot hmd _ fun bo hb => (hB bo hb).symm

end Gmars.AsmLine
