/-
  Statement vocabulary for the step refinement (C01) and the step invariant (C04).
-/
import Gmars.Proofs.Abs

namespace Gmars

/-- the queue of warrior `wi`, if it exists and has been spawned -/
def Sim.pqOf (s : Sim) (wi : Nat) : Option PQ := (s.warriors[wi]?).bind (·.pq)

/-- what one executed task leaves untouched -/
structure Frame (s s' : Sim) (wi : Nat) : Prop where
  m          : s'.m = s.m
  maxProcs   : s'.maxProcs = s.maxProcs
  maxCycles  : s'.maxCycles = s.maxCycles
  readLimit  : s'.readLimit = s.readLimit
  writeLimit : s'.writeLimit = s.writeLimit
  legacy     : s'.legacy = s.legacy
  size       : s'.mem.size = s.mem.size
  wsize      : s'.warriors.size = s.warriors.size
  others     : ∀ j, j ≠ wi → s'.warriors[j]? = s.warriors[j]?
  same       : ∀ w w', s.warriors[wi]? = some w → s'.warriors[wi]? = some w' →
                 w'.data = w.data ∧ w'.index = w.index ∧ w'.state = w.state
  widx       : s'.warriorIndex = s.warriorIndex
  count      : s'.warriorCount = s.warriorCount
  living     : s'.living = s.living
  cycle      : s'.cycleCount = s.cycleCount
  log        : ∃ new : List Report, s'.log.toList = s.log.toList ++ new

/-- hypotheses under which one step of the model is compared with the reference -/
structure StepPre (s : Sim) (pc : UInt64) (wi : Nat) (q : PQ) : Prop where
  wf  : s.WF
  m32 : s.m.toNat ≤ 2 ^ 32
  rl  : s.readLimit.toNat ≤ s.m.toNat
  wl  : s.writeLimit.toNat ≤ s.m.toNat
  pc  : pc < s.m
  pq  : s.pqOf wi = some q
  qinv : q.Inv

end Gmars
