/-
  The FOR pass loop on a program with EQU lines and labels around its blocks, token level.  The top
  level of a program is a list of CHUNKS of complete FOR-free lines and of FOR blocks.  A chunk is
  described by what the two machines of the pass loop do with it (`Chunk ch ch' eq`): the symbol
  scanner reads through it and adds the EQU definitions `eq` to its table; the expander, when the
  chunk stands in front of the block it expands, sends it on as `ch'` (`ch` without the colons behind
  labels).  The count of a block is ANY token the evaluator gives a value with the symbols in front
  of the block.  `for_unroll_all`: the pass loop returns the manual unrolling (`GUnroll`) for up to
  12 expansions and gives up beyond (finding F12, DESIGN.md §6).  `ForPass.FullUnroll` (simple
  lines, literal counts) is `GUnroll []` over `embed` (`gunroll_of_fullUnroll`).
-/
import Gmars.Proofs.ForUnrollDefs

namespace Gmars
namespace AsmComposeAll
open Gmars.ForPass Gmars.ForExpand Gmars.Scan

def Fresh (eq s : SymTab) : Prop := (s.map (·.1) ++ eq.map (·.1)).Nodup

/-- a chunk of complete FOR-free lines, as the scanner and the expander treat it -/
structure Chunk (ch ch' : List Token) (eq : SymTab) : Prop where
  noTerm : ∀ t ∈ ch, t.isTerm = false
  noTerm' : ∀ t ∈ ch', t.isTerm = false
  scan : ∀ (rest : List Token) (s : SymTab), Fresh eq s →
    runScan (ch ++ rest) s = runScan rest (s ++ eq)
  pass : ∀ (e : List Token → SymTab → EvalRes) (sy : SymTab) (y : Token) (ys : List Token) (o : Out),
    runLine e sy (ch ++ y :: ys) o = runLine e sy (y :: ys) (emits o ch')

theorem fresh_append {eq1 eq2 s : SymTab} : Fresh (eq1 ++ eq2) s ↔ Fresh eq2 (s ++ eq1) := by
  simp [Fresh]

theorem Fresh.left {eq1 eq2 s : SymTab} (h : Fresh (eq1 ++ eq2) s) : Fresh eq1 s := by
  unfold Fresh at *
  rw [List.map_append, ← List.append_assoc] at h
  exact (List.nodup_append.1 h).1

theorem Chunk.nil : Chunk [] [] [] :=
  ⟨fun _ h => (by cases h), fun _ h => (by cases h), fun _ _ _ => (by simp), fun _ _ _ _ _ => rfl⟩

theorem Chunk.append {a a' b b' : List Token} {eq1 eq2 : SymTab} (ha : Chunk a a' eq1)
    (hb : Chunk b b' eq2) : Chunk (a ++ b) (a' ++ b') (eq1 ++ eq2) where
  noTerm := List.forall_mem_append.2 ⟨ha.noTerm, hb.noTerm⟩
  noTerm' := List.forall_mem_append.2 ⟨ha.noTerm', hb.noTerm'⟩
  scan := fun rest s hf => by
    rw [List.append_assoc, ha.scan _ s hf.left, hb.scan rest _ (fresh_append.1 hf), List.append_assoc]
  pass := fun e sy y ys o => by
    obtain ⟨x, xs, hx⟩ := exists_cons b y ys
    rw [List.append_assoc, hx, ha.pass, ← hx, hb.pass, emits_append]

/-- everything in front of the block that is expanded next: `P` as it stands, `P'` as the expander
    sends it (a chunk again, now stable); `s` is the symbol table the scanner has built when it
    reaches the block.  The scanner starts every pass with the empty table, so `Chunk.scan` is used
    at `[]`, and `fresh` is its hypothesis there: the names of `s` are distinct. -/
structure Pre (P P' : List Token) (s : SymTab) : Prop where
  chunk : Chunk P P' s
  norm : Chunk P' P' s
  fresh : Fresh s []

theorem Pre.scan {P P' : List Token} {s : SymTab} (hP : Pre P P' s) (rest : List Token) :
    runScan (P ++ rest) [] = runScan rest s := by
  simpa using hP.chunk.scan rest [] hP.fresh

theorem Pre.nil : Pre [] [] [] :=
  ⟨.nil, .nil, List.nodup_nil⟩

theorem Pre.snoc {P P' : List Token} {s : SymTab} {ch ch' : List Token} {eq : SymTab}
    (hP : Pre P P' s) (hc : Chunk ch ch' eq) (hc' : Chunk ch' ch' eq) (hf : Fresh eq s) :
    Pre (P ++ ch) (P' ++ ch') (s ++ eq) :=
  ⟨hP.chunk.append hc, hP.norm.append hc', by simpa [Fresh] using hf⟩

theorem Pre.toNorm {P P' : List Token} {s : SymTab} (hP : Pre P P' s) : Pre P' P' s :=
  ⟨hP.norm, hP.norm, hP.fresh⟩

theorem chunk_line (l : Line) (hwf : l.WF) (hs : ScanSkip l.toks) (hp : PassLine l.toks) :
    Chunk l.flat l.flat [] :=
  ⟨hwf.noTerm, hwf.noTerm, fun rest s _ => by rw [runScan_skipLine l rest s hwf hs, List.append_nil],
    fun e sy y ys o => runLine_passLine e sy l y ys o hwf hp⟩

theorem chunk_simple {l : Line} (h : SimpleLine l) : Chunk l.flat l.flat [] :=
  chunk_line l h.1 (Or.inr (Or.inl h.kind)) (Or.inr (Or.inl h.kind))

theorem chunk_blank : Chunk [⟨.newline, ""⟩] [⟨.newline, ""⟩] [] :=
  chunk_line ⟨[], ⟨.newline, ""⟩⟩ ⟨rfl, fun _ h => by cases h⟩ (Or.inl (fun _ h => by cases h))
    (Or.inl (fun _ h => by cases h))

theorem fresh_nil (s : SymTab) (h : (s.map (·.1)).Nodup) : Fresh [] s := by
  simpa [Fresh] using h

theorem chunk_nls (k : Nat) :
    Chunk (List.replicate k (⟨.newline, ""⟩ : Token)) (List.replicate k ⟨.newline, ""⟩) [] := by
  induction k with
  | zero => exact .nil
  | succ k ih => exact chunk_blank.append ih

theorem loop_block (P P' : List Token) (s : SymTab) (hP : Pre P P' s) (b : Block) (hb : b.WF)
    (q : List Token) (hq : ∀ x ∈ q, x.isTerm = false) (n : Int)
    (hev : expandAndEvaluate (exprToks b.count) s = .ok n) (fuel depth : Nat) :
    forLoop (fuel + 1) depth (P ++ b.flat ++ q ++ [eofTok]) =
      if depth + 1 > 12 then .error .err
      else forLoop fuel (depth + 1) (P' ++ b.unrolled n ++ q ++ [eofTok]) := by
  have hscan : scanInput (P ++ b.flat ++ q ++ [eofTok]) = .ok (some (s, true)) := by
    have hflat : b.flat = (b.labels ++ [b.ctr]) ++ b.forTok ::
        (b.count ++ [b.nl] ++ (flat b.body ++ b.rofLine.flat)) := by
      simp [Block.flat, Block.header]
    rw [scanInput_ne_nil (by simp), List.append_assoc, List.append_assoc, hP.scan, hflat,
      List.append_assoc (b.labels ++ [b.ctr]), List.cons_append, runScan_forLine _ _ _ s
        hb.labels_ctr hb.forTyp hb.forVal]
    rfl
  have hexp := expand_pass_front expandAndEvaluate s P P' b q eofTok [] n hP.chunk.noTerm
    hP.chunk.noTerm' (hP.chunk.pass _ _) hb hq rfl hev
  rw [forLoop]
  simp only [hscan, hexp, Bool.not_true, Bool.false_eq_true, ↓reduceIte]
  rfl

inductive TItem
  | chunk (ch ch' : List Token) (eq : SymTab)
  | block (c f n nl : Token) (body : Prog) (rof : Line)

def TItem.isBlock : TItem → Bool
  | .chunk .. => false
  | .block .. => true

def TItem.toks : TItem → List Token
  | .chunk ch _ _ => ch
  | .block c f n nl body rof => (mkBlock c f n nl body rof).flat

def progToks (p : List TItem) : List Token := p.flatMap TItem.toks

def hasBlock (p : List TItem) : Bool := p.any TItem.isBlock

@[simp] theorem progToks_nil : progToks [] = [] := rfl
@[simp] theorem progToks_cons (i : TItem) (p : List TItem) :
    progToks (i :: p) = i.toks ++ progToks p := rfl
theorem progToks_append (p q : List TItem) : progToks (p ++ q) = progToks p ++ progToks q := by
  simp [progToks]
theorem progToks_flatMap (is : List Nat) (T : Nat → List TItem) :
    progToks (is.flatMap T) = is.flatMap fun i => progToks (T i) := by
  simp [progToks, List.flatMap_assoc]
theorem hasBlock_append (p q : List TItem) : hasBlock (p ++ q) = (hasBlock p || hasBlock q) := by
  simp [hasBlock]

def embed : Prog → List TItem
  | .nil => []
  | .line l r => .chunk l.flat l.flat [] :: embed r
  | .block c f n nl body rof r => .block c f n nl body rof :: embed r

theorem mkBlock_flat (c f n nl : Token) (body : Prog) (rof : Line) :
    (mkBlock c f n nl body rof).flat = flat (Prog.block c f n nl body rof .nil).render := by
  rw [Prog.render_block, flat_append, Block.flat_lines]
  exact (List.append_nil _).symm

theorem progToks_embed (p : Prog) : progToks (embed p) = flat p.render := by
  induction p with
  | nil => rfl
  | line l r ih => simp [embed, Prog.render, TItem.toks, ih]
  | block c f n nl body rof r _ ih =>
    simp [embed, TItem.toks, ih, Prog.render_block, flat_append, Block.flat_lines]

theorem embed_append (p q : Prog) : embed (p.append q) = embed p ++ embed q := by
  induction p with
  | nil => rfl
  | line l r ih => simp [Prog.append, embed, ih]
  | block c f n nl body rof r _ ih => simp [Prog.append, embed, ih]

/-- `GUnroll s p out k`: with the scanner's table `s` in front, the manual unrolling of the top
    level program `p` is the token stream `out`, and it takes `k` block expansions.  The count of a
    block is any token the evaluator gives the value `m` with the symbols in front of the block.
    A chunk in front of a block comes out in its normal form. -/
inductive GUnroll : SymTab → List TItem → List Token → Nat → Prop
  | nil (s : SymTab) : GUnroll s [] [] 0
  | chunk {s : SymTab} {ch ch' : List Token} {eq : SymTab} {r : List TItem} {out : List Token}
      {k : Nat} :
      Chunk ch ch' eq → Chunk ch' ch' eq → Fresh eq s → GUnroll (s ++ eq) r out k →
      GUnroll s (.chunk ch ch' eq :: r) ((if hasBlock r then ch' else ch) ++ out) k
  | block {s : SymTab} {c f n nl : Token} {body : Prog} {rof : Line} {r : List TItem}
      {out : List Token} {k : Nat} (m : Nat) (L : Nat → List Token) (K : Nat → Nat) :
      HeaderOK c f n nl → expandAndEvaluate (exprToks [n]) s = .ok (m : Int) → RofOK rof →
      body.Shape →
      (∀ i, i < m → GUnroll s (embed (body.subst c.val (i + 1))) (L i) (K i)) →
      GUnroll s r out k →
      GUnroll s (.block c f n nl body rof :: r)
        ((List.range m).flatMap L ++ out) (1 + ((List.range m).map K).sum + k)

theorem GUnroll.cast {s : SymTab} {p : List TItem} {o o' : List Token} {k k' : Nat}
    (h : GUnroll s p o k) (e1 : o = o') (e2 : k = k') : GUnroll s p o' k' := by
  subst e1; subst e2; exact h

theorem GUnroll.noTerm {s : SymTab} {p : List TItem} {o : List Token} {k : Nat}
    (h : GUnroll s p o k) : ∀ t ∈ progToks p, t.isTerm = false := by
  induction h with
  | nil s => intro t ht; cases ht
  | chunk hc _ _ _ ih => exact List.forall_mem_append.2 ⟨hc.noTerm, ih⟩
  | block m L K hh _ hrof hbody _ _ _ ih =>
    exact List.forall_mem_append.2 ⟨Block.flat_noTerm _ (mkBlock_WF hh hrof hbody), ih⟩

def Stable : List TItem → Prop
  | [] => True
  | .chunk ch ch' eq :: r => ch' = ch ∧ eq = [] ∧ Stable r
  | .block .. :: r => Stable r

theorem stable_embed (p : Prog) : Stable (embed p) := by
  induction p with
  | nil => trivial
  | line l r ih => exact ⟨rfl, rfl, ih⟩
  | block c f n nl body rof r _ ih => exact ih

theorem stable_append {p q : List TItem} (hp : Stable p) (hq : Stable q) : Stable (p ++ q) := by
  induction p with
  | nil => exact hq
  | cons i r ih =>
    cases i with
    | chunk ch ch' eq => exact ⟨hp.1, hp.2.1, ih hp.2.2⟩
    | block c f n nl body rof => exact ih hp

theorem GUnroll.append {s : SymTab} {p q : List TItem} {lp lq : List Token} {kp kq : Nat}
    (hp : GUnroll s p lp kp) (hst : Stable p) (hq : GUnroll s q lq kq) :
    GUnroll s (p ++ q) (lp ++ lq) (kp + kq) := by
  induction hp with
  | nil s => simpa using hq
  | @chunk s ch ch' eq r out k hc hc' hf _ ih =>
    obtain ⟨rfl, rfl, hr⟩ := hst
    exact (GUnroll.chunk hc hc' hf (ih hr (by rwa [List.append_nil]))).cast (by simp) rfl
  | block m L K hh hev hrof hbody hcopies _ _ ih =>
    exact (GUnroll.block m L K hh hev hrof hbody hcopies (ih hst hq)).cast (by simp) (by omega)

theorem gunroll_flatMap (s : SymTab) (T : Nat → List TItem) (L : Nat → List Token) (K : Nat → Nat)
    (is : List Nat) (h : ∀ i ∈ is, GUnroll s (T i) (L i) (K i)) (hst : ∀ i, Stable (T i)) :
    GUnroll s (is.flatMap T) (is.flatMap L) ((is.map K).sum) ∧ Stable (is.flatMap T) := by
  induction is with
  | nil => exact ⟨GUnroll.nil s, trivial⟩
  | cons i is ih =>
    have ih := ih fun j hj => h j (List.mem_cons_of_mem _ hj)
    exact ⟨(h i (List.mem_cons_self ..)).append (hst i) ih.1, stable_append (hst i) ih.2⟩

/-- **the pass loop follows the manual unrolling**, and gives up at the 13th expansion (finding
    F12).  `tail` is what follows the program in the token stream (nothing, or an END line and
    whatever follows it): the scanner stops there.

    Induction on the fuel, inside it induction on the items: a chunk moves into the prefix
    (`Pre.snoc`), a block costs one pass (one unit of fuel), after which the program is
    `embed copies ++ r` with `ΣK + k' = k - 1` expansions left.  The prefix of that second pass is
    `P'`, which the expander must send on unchanged: hence `Chunk ch' ch'` in `GUnroll.chunk`
    (`Pre.toNorm`), and `Stable` for the copies (they stand in front of `r` and must come out as
    they are, `GUnroll.append`). -/
theorem forLoop_gunroll (tail : List Token) (htail : ∀ t ∈ tail, t.isTerm = false)
    (hscan : ∀ s : SymTab, runScan (tail ++ [eofTok]) s = stop s) (fuel : Nat) :
    ∀ depth, depth ≤ 12 → 13 ≤ fuel + depth →
      ∀ (p : List TItem) (k : Nat) (P P' : List Token) (s : SymTab) (out : List Token),
      Pre P P' s → GUnroll s p out k →
      forLoop fuel depth (P ++ progToks p ++ tail ++ [eofTok]) =
        if depth + k ≤ 12 then .ok ((if hasBlock p then P' else P) ++ out ++ tail ++ [eofTok])
        else .error .err := by
  induction fuel with
  | zero => intro depth hd hf; omega
  | succ fuel IH =>
    intro depth hd hf p
    induction p with
    | nil =>
      intro k P P' s out hP h
      cases h
      have hs : scanInput (P ++ tail ++ [eofTok]) = .ok (some (s, false)) := by
        rw [scanInput_ne_nil (by simp), List.append_assoc, hP.scan, hscan]
        rfl
      rw [if_pos (show depth + 0 ≤ 12 from hd)]
      simpa [hasBlock] using forLoop_done fuel depth _ s hs
    | cons i r ih =>
      intro k P P' s out hP h
      cases h with
      | @chunk _ ch ch' eq _ out' _ hc hc' hfr hr =>
        simp only [progToks_cons, TItem.toks,
          show hasBlock (.chunk ch ch' eq :: r) = hasBlock r from rfl]
        rw [← List.append_assoc P, ih k _ _ _ _ (hP.snoc hc hc' hfr) hr]
        cases hasBlock r <;> simp only [Bool.false_eq_true, ↓reduceIte, List.append_assoc]
      | @block _ c f n nl body rof _ out' k' m L K hh hev hrof hbody hcopies hr =>
        have e1 : P ++ progToks (TItem.block c f n nl body rof :: r) ++ tail ++ [eofTok] =
            P ++ (mkBlock c f n nl body rof).flat ++ (progToks r ++ tail) ++ [eofTok] := by
          simp [TItem.toks]
        rw [e1, loop_block P P' s hP _ (mkBlock_WF hh hrof hbody) _
          (List.forall_mem_append.2 ⟨hr.noTerm, htail⟩) m hev]
        by_cases hdeep : depth + 1 > 12
        · rw [if_pos hdeep, if_neg (by omega)]
        · -- what is left to unroll: the copies of the body, then `r`
          have hcop := gunroll_flatMap s (fun i => embed (body.subst c.val (i + 1))) L K
            (List.range m) (fun i hi => hcopies i (List.mem_range.1 hi)) (fun _ => stable_embed _)
          have e2 : P' ++ (mkBlock c f n nl body rof).unrolled (m : Int) ++ (progToks r ++ tail) ++
              [eofTok] =
              P' ++ progToks ((List.range m).flatMap (fun i => embed (body.subst c.val (i + 1))) ++
                r) ++ tail ++ [eofTok] := by
            rw [mkBlock_unrolled c f n nl m body rof hbody, progToks_append, progToks_flatMap]
            simp only [progToks_embed, Prog.render_subst, flat_map_subst, List.append_assoc]
          rw [if_neg hdeep, e2, IH (depth + 1) (by omega) (by omega) _ _ P' P' s _ hP.toNorm
            (hcop.1.append hcop.2 hr), ite_self]
          simp only [hasBlock, List.any_cons, TItem.isBlock, Bool.true_or, if_true, Nat.add_assoc]

/-- if the manual unrolling of the top level program `p` (chunks of lines
    with labels, EQU definitions, comments …, and FOR blocks whose counts the evaluator can
    evaluate with the EQU symbols in front of them) is `out` and takes at most 12 block expansions,
    the pass loop of `CompileWarrior` returns `out`, followed by the untouched tail; with 13 or more
    it gives up ("for loop depth exceeded"), whatever the program is otherwise. -/
theorem for_unroll_all (p : List TItem) (out : List Token) (k : Nat) (h : GUnroll [] p out k)
    (tail : List Token) (htail : ∀ t ∈ tail, t.isTerm = false)
    (hscan : ∀ s : SymTab, runScan (tail ++ [eofTok]) s = stop s) :
    forLoop 14 0 (progToks p ++ tail ++ [eofTok]) =
      if k ≤ 12 then .ok (out ++ tail ++ [eofTok]) else .error .err := by
  have := forLoop_gunroll tail htail hscan 14 0 (by omega) (by omega) p k [] [] [] out Pre.nil h
  simpa only [List.nil_append, Nat.zero_add, ite_self] using this

theorem tail_nil_scan (s : SymTab) : runScan (([] : List Token) ++ [eofTok]) s = stop s :=
  runScan_term eofTok [] s rfl

theorem tail_end_scan (f : Token) (rest : List Token) (h1 : f.typ = .text)
    (h3 : lowerStr f.val = "end") (s : SymTab) : runScan ((f :: rest) ++ [eofTok]) s = stop s :=
  runScan_endLine [] f (rest ++ [eofTok]) s (fun _ h => by cases h) h1 h3

theorem gunroll_of_fullUnroll {p : Prog} {ls : List Line} {k : Nat} (h : FullUnroll p ls k) :
    GUnroll [] (embed p) (flat ls) k := by
  induction h with
  | nil => exact GUnroll.nil _
  | line hl _ ih =>
    exact (GUnroll.chunk (chunk_simple hl) (chunk_simple hl) (fresh_nil [] List.nodup_nil) ih).cast
      (by simp) rfl
  | @block c f nl body rof r ls k m L K hh hm hrof hbody _ _ ihb ih =>
    have hev : expandAndEvaluate (exprToks [ExprProofs.numTok m]) [] = .ok (m : Int) := by
      rw [exprToks_single _ (by simp [ExprProofs.numTok])]
      exact ExprProofs.eval_numTok m hm
    exact (GUnroll.block m (fun i => flat (L i)) K hh hev hrof hbody ihb ih).cast
      (by simp [flat_append, flat_flatMap]) rfl

end AsmComposeAll

end Gmars
