/-
  C09, loader half, one printed line: what the reader's decoders make of the tokens of a printed
  line (`readAct_instr`, `readAct_org`, `readAct_end`: the `Act` the line was printed from), and the
  load-file text `printLoadG` with free blanks between the fields.
-/
import Gmars.Proofs.LineSyntax
import Gmars.Proofs.LoadOK

namespace Gmars.RoundTrip
open Gmars.GoStr

theorem getOp94_opWord (op : Op) (md : Modifier) :
    getOp94 (toLower (op.name.toList ++ '.' :: md.name.toList)) = some (op, md) := by
  have e : toLower (op.name.toList ++ '.' :: md.name.toList) =
      toLower op.name.toList ++ '.' :: toLower md.name.toList := by
    simp [toLower, show lowerChar '.' = '.' by decide]
  rw [e, AsmLine.getOp94_two (dot_not_mem_lower (op_upper op)) (dot_not_mem_lower (mod_upper md)),
    AsmLine.getOpCode_toLower, AsmLine.getOpMode_toLower, AsmLine.getOpCode_name,
    AsmLine.getOpMode_name]
  rfl

theorem parseAddress_digits (a M : UInt64) (hlt : a < M) (hM : M.toNat < 2 ^ 63) :
    parseAddress (Nat.toDigits 10 a.toNat) M = .ok (some a) := by
  have ha : a.toNat < M.toNat := UInt64.lt_iff_toNat_lt.1 hlt
  have hM0 : ¬ (M = 0) := by intro e; subst e; simp at ha
  unfold parseAddress
  rw [parseInt_toDigits _ 64 (by omega)]
  have e1 : Int.tmod (a.toNat : Int) (M.toNat : Int) = (a.toNat : Int) :=
    Int.tmod_eq_of_lt (by omega) (by omega)
  have e2 : ¬ ((a.toNat : Int) < 0) := by omega
  simp [hM0, e1, e2]

theorem readAct_instr (legacy : Bool) (M : UInt64) (n : Nat) (i : Instr) (hM : M.toNat < 2 ^ 63)
    (ha : i.a < M) (hb : i.b < M) (hl : legacy = true → Spec.Legal88 i = true) :
    readAct legacy M n [toLower (opWord legacy i), [i.am.sym], Nat.toDigits 10 i.a.toNat, [i.bm.sym],
      Nat.toDigits 10 i.b.toNat] true = .ok (.push i) := by
  have pa := parseAddress_digits _ _ ha hM
  have pb := parseAddress_digits _ _ hb hM
  cases legacy
  · simp [readAct, read94, opWord, getOp94_opWord, AsmLine.getAddressMode_sym, pa, pb, bind, Except.bind]
  · have h88 : Spec.implied88 i.op i.am i.bm = some i.md := by simpa [Spec.Legal88] using hl rfl
    obtain ⟨hma, hmb, ho⟩ := implied88_some h88
    simp [readAct, read88, opWord, getOpCode88_name ho, AsmLine.getAddressMode88_sym, hma, hmb,
      pa, pb, validate88_complete' h88, bind, Except.bind]

/-- The loader reads the `ORG` argument with `ParseInt(_, 10, 32)`: an entry point of 2^31 or
    more is refused, whatever the code -/
theorem readAct_org (M : UInt64) (n v : Nat) (c : Bool) :
    readAct false M n ["org".toList, Nat.toDigits 10 v] c =
      .ok (if v < 2 ^ 31 then .org v else .fail) := by
  have h0 : ¬ ((v : Int) < 0) := by omega
  by_cases hv : v < 2 ^ 31 <;>
    simp [readAct, read94, parseInt_digits Nat.toDigits_ne_nil (toDigits_all_isDigit _),
      digitsVal_toDigits, hv, h0]

theorem readAct_end (M : UInt64) (n v : Nat) (c : Bool) (hv : v < 2 ^ 31) (hle : v ≤ n) :
    readAct true M n ["end".toList, Nat.toDigits 10 v] c = .ok (.fin v) := by
  have h1 : ¬ ((v : Int) < 0) := by omega
  have h2 : ¬ ((v : Int) > (n : Int)) := by omega
  simp [readAct, read88, parseInt_toDigits v 32 hv, h1, h2]

def printLoadG (legacy : Bool) (d : DirGaps) (lines : List (Gaps × Instr)) (start : Nat) : Str :=
  (if legacy then [] else dirBody d "ORG".toList start ++ ['\n']) ++
  (lines.map (fun p => instrBody legacy p.1 p.2 ++ ['\n'])).flatten ++
  (if legacy then dirBody d "END".toList start ++ ['\n'] else [])

theorem canonGaps_ok : ({} : Gaps).ok :=
  ⟨blanks_nil, blanks_one, blanks_one, blanks_nil, blanks_one, blanks_one, blanks_nil,
    by decide, by decide, by decide⟩

theorem canonDir_ok : ({} : DirGaps).ok := ⟨blanks_nil, blanks_one, blanks_nil, by decide⟩

theorem printLoad_eq (legacy : Bool) (code : List Instr) (start : Nat) :
    Spec.printLoad legacy code start = printLoadG legacy {} (code.map (fun i => ({}, i))) start := by
  have hi : Spec.printInstr legacy = fun i => instrBody legacy {} i ++ ['\n'] := by
    funext i
    simp [Spec.printInstr, instrBody, opWord]
  unfold Spec.printLoad printLoadG
  rw [List.map_map, hi]
  cases legacy <;> simp [dirBody, Function.comp_def]

structure LineOK (M : UInt64) (legacy : Bool) (p : Gaps × Instr) : Prop where
  gaps : p.1.ok
  a_lt : p.2.a < M
  b_lt : p.2.b < M
  legal : legacy = true → Spec.Legal88 p.2 = true

theorem printLoadG_94 (d : DirGaps) (lines : List (Gaps × Instr)) (start : Nat) :
    printLoadG false d lines start =
      ((dirBody d "ORG".toList start :: lines.map (fun p => instrBody false p.1 p.2)).map
        (· ++ ['\n'])).flatten := by
  simp [printLoadG, List.map_map, Function.comp_def]

theorem printLoadG_88 (d : DirGaps) (lines : List (Gaps × Instr)) (start : Nat) :
    printLoadG true d lines start =
      ((lines.map (fun p => instrBody true p.1 p.2) ++ [dirBody d "END".toList start]).map
        (· ++ ['\n'])).flatten := by
  simp [printLoadG, List.map_map, Function.comp_def]

end Gmars.RoundTrip
