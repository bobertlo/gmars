/-
  What the compiler stage (Gmars/Model/Compile.lean, graph.go) rests on before any expansion is
  looked at: the outcome algebra `NoFault`, look-ups in a symbol table, the reference graph, and
  the rank function the cycle check certifies (`ranked_of_acyclic`), and that a graph with any
  rank passes the check (`graphContainsCycle_ranked`).
-/
import Gmars.Model.Compile
import Gmars.Proofs.Assoc

namespace Gmars

def maxOf {α : Type} (f : α → Nat) (l : List α) : Nat := l.foldr (fun x m => max (f x) m) 0

theorem maxOf_cons {α : Type} (f : α → Nat) (x : α) (l : List α) :
    maxOf f (x :: l) = max (f x) (maxOf f l) := rfl

theorem le_maxOf {α : Type} {f : α → Nat} {l : List α} {x : α} (h : x ∈ l) : f x ≤ maxOf f l := by
  induction l with
  | nil => cases h
  | cons y ys ih =>
    rw [maxOf_cons]
    rcases List.mem_cons.mp h with rfl | h
    · exact Nat.le_max_left ..
    · exact Nat.le_trans (ih h) (Nat.le_max_right ..)

theorem maxOf_le {α : Type} {f : α → Nat} {l : List α} {n : Nat} (h : ∀ x ∈ l, f x ≤ n) :
    maxOf f l ≤ n := by
  induction l with
  | nil => exact Nat.zero_le _
  | cons y ys ih =>
    rw [maxOf_cons]
    exact Nat.max_le.mpr ⟨h y (List.mem_cons_self ..), ih fun x hx => h x (List.mem_cons_of_mem _ hx)⟩

theorem maxOf_congr {α : Type} {f g : α → Nat} {l : List α} (h : ∀ x ∈ l, f x = g x) :
    maxOf f l = maxOf g l := by
  induction l with
  | nil => rfl
  | cons y ys ih =>
    rw [maxOf_cons, maxOf_cons, h y (List.mem_cons_self ..), ih fun x hx => h x (List.mem_cons_of_mem _ hx)]

namespace Compile

theorem optM_eq_ok {α : Type} {o : Option α} {a : α} (h : optM o = .ok a) : o = some a := by
  cases o with
  | none => cases h
  | some x => cases h; rfl

def NoFault {α : Type} (x : M α) : Prop := ∀ f, x ≠ .error (.fault f)

theorem NoFault.ok {α : Type} (a : α) : NoFault (.ok a : M α) := fun _ h => by cases h
theorem NoFault.goErr {α : Type} : NoFault (.error .goErr : M α) := fun _ h => by cases h
theorem NoFault.unmodelled {α : Type} : NoFault (.error .unmodelled : M α) := fun _ h => by cases h

theorem NoFault.bind {α β : Type} {x : M α} {g : α → M β} (hx : NoFault x)
    (hg : ∀ a, x = .ok a → NoFault (g a)) : NoFault (x >>= g) := by
  cases x with
  | error e =>
    intro f h
    have h' : (Except.error e : M β) = .error (.fault f) := h
    cases h'
    exact hx f rfl
  | ok a => exact hg a rfl

theorem NoFault.optM {α : Type} (o : Option α) : NoFault (optM o) := by
  cases o with
  | none => exact NoFault.goErr
  | some a => exact NoFault.ok a

theorem NoFault.evalM (ts : List Token) : NoFault (evalM ts) := by
  unfold Compile.evalM
  split
  · exact NoFault.ok _
  · exact NoFault.goErr
  · exact NoFault.unmodelled

theorem mInt_eq_zero {m : UInt64} (h : mInt m = 0) : m = 0 := by
  have hlt := m.toNat_lt
  unfold mInt wrap64 at h
  simp only [Int.ofNat_eq_natCast] at h
  apply UInt64.toNat_inj.mp
  simp only [UInt64.toNat_zero]
  split at h <;> omega

theorem reduceMod_noFault {v m : Int} (hm : m ≠ 0) : NoFault (reduceMod v m) := by
  unfold reduceMod
  rw [if_neg (by simpa using hm)]
  exact NoFault.ok _

def Ranked (values : SymTab) (d : String → Nat) : Prop :=
  ∀ k v, values.get? k = some v → ∀ t ∈ v, t.typ = .text → d t.val < d k

theorem SymTab.has_eq (m : SymTab) (k : String) : m.has k = (m.get? k).isSome := by
  unfold SymTab.has SymTab.get?
  cases m.find? (·.1 == k) <;> rfl

theorem SymTab.find?_set_map (m : SymTab) (k k' : String) (v : List Token) :
    (m.map fun (x : String × List Token) => if x.1 == k then (x.1, v) else (x.1, x.2)).find?
        (·.1 == k') =
      (m.find? (·.1 == k')).map fun x => if x.1 == k then (x.1, v) else (x.1, x.2) := by
  rw [List.find?_map]
  congr 2
  funext x
  simp only [Function.comp]
  split <;> rfl

theorem SymTab.get?_set_self (m : SymTab) (k : String) (v : List Token) :
    (m.set k v).get? k = some v := by
  unfold SymTab.set SymTab.get? SymTab.has
  split
  · rename_i h
    obtain ⟨x, hx⟩ := Option.isSome_iff_exists.mp h
    rw [SymTab.find?_set_map, hx, Option.map_some, if_pos (List.find?_some hx)]
    rfl
  · rename_i h
    rw [List.find?_append, Option.not_isSome_iff_eq_none.mp h]
    simp

theorem SymTab.get?_set_ne (m : SymTab) {k k' : String} (v : List Token) (hne : k' ≠ k) :
    (m.set k v).get? k' = m.get? k' := by
  unfold SymTab.set SymTab.get?
  split
  · rw [SymTab.find?_set_map]
    cases hfind : m.find? (·.1 == k') with
    | none => rfl
    | some x =>
      rw [Option.map_some, if_neg (by rw [(find?_key_mem hfind).2]; simpa using hne)]
  · rw [List.find?_append, List.find?_singleton, if_neg (by simpa using Ne.symm hne),
      Option.or_none]

theorem SymTab.has_of_get? {m : SymTab} {k : String} {v : List Token} (h : m.get? k = some v) :
    m.has k = true := by
  rw [SymTab.has_eq, h]; rfl

theorem SymTab.get?_of_has {m : SymTab} {k : String} (h : m.has k = true) :
    ∃ v, m.get? k = some v := by
  rw [SymTab.has_eq] at h
  exact Option.isSome_iff_exists.mp h

theorem SymTab.length_pos_of_has {m : SymTab} {k : String} (h : m.has k = true) : 0 < m.length := by
  cases m with
  | nil => cases h
  | cons _ _ => simp

theorem SymTab.set_new (m : SymTab) (k : String) (v : List Token) (h : k ∉ m.map (·.1)) :
    m.set k v = m ++ [(k, v)] := by
  unfold SymTab.set SymTab.has
  rw [find?_key_none h]
  rfl

theorem SymTab.get?_of_mem_nodup {V : SymTab} (hnd : (V.map (·.1)).Nodup) {e : String × List Token}
    (he : e ∈ V) : V.get? e.1 = some e.2 := by
  unfold SymTab.get?
  rw [(find?_key_iff hnd).mpr ⟨he, rfl⟩]
  rfl

/-- the adjacency list `buildReferenceGraph` computes for one value -/
def refsOf (values : SymTab) (toks : List Token) : List String :=
  toks.foldl (fun (acc : List String) t =>
    if t.typ != .text then acc
    else if values.has t.val then (if acc.contains t.val then acc else acc ++ [t.val]) else acc) []

def graphEntry (values : SymTab) (e : String × List Token) : Option (String × List String) :=
  if e.2.isEmpty then none else some (e.1, refsOf values e.2)

theorem buildReferenceGraph_eq (values : SymTab) :
    buildReferenceGraph values = values.filterMap (graphEntry values) := rfl

theorem mem_refsOf_iff {values : SymTab} {toks : List Token} {s : String} :
    s ∈ refsOf values toks ↔ ∃ t ∈ toks, t.typ = .text ∧ values.has t.val = true ∧ t.val = s := by
  have key : ∀ (toks : List Token) (acc : List String),
      s ∈ toks.foldl (fun (acc : List String) t =>
        if t.typ != .text then acc
        else if values.has t.val then (if acc.contains t.val then acc else acc ++ [t.val])
        else acc) acc ↔
      s ∈ acc ∨ ∃ t ∈ toks, t.typ = .text ∧ values.has t.val = true ∧ t.val = s := by
    intro toks
    induction toks with
    | nil => intro acc; simp
    | cons t r ih =>
      intro acc
      rw [List.foldl_cons, ih]
      simp only [List.mem_cons, or_and_right, exists_or, exists_eq_left, ← or_assoc]
      apply or_congr_left
      by_cases htxt : t.typ = .text
      · rw [if_neg (by simpa using htxt)]
        by_cases hh : values.has t.val = true
        · rw [if_pos hh]
          by_cases hc : acc.contains t.val = true
          · rw [if_pos hc]
            refine ⟨Or.inl, fun h => h.elim id ?_⟩
            rintro ⟨_, _, rfl⟩
            exact List.contains_iff_mem.mp hc
          · rw [if_neg hc, List.mem_append, List.mem_singleton]
            exact or_congr_right ⟨fun h => ⟨htxt, hh, h.symm⟩, fun h => h.2.2.symm⟩
        · rw [if_neg hh]
          exact ⟨Or.inl, fun h => h.elim id fun h => absurd h.2.1 hh⟩
      · rw [if_pos (by simpa using htxt)]
        exact ⟨Or.inl, fun h => h.elim id fun h => absurd h.1 htxt⟩
  rw [refsOf, key]
  simp

theorem mem_refsOf {values : SymTab} {toks : List Token} {t : Token} (ht : t ∈ toks)
    (htxt : t.typ = .text) (hhas : values.has t.val = true) : t.val ∈ refsOf values toks :=
  mem_refsOf_iff.mpr ⟨t, ht, htxt, hhas, rfl⟩

theorem graphEntry_eq_some {values : SymTab} {e : String × List Token} {x : String × List String} :
    graphEntry values e = some x ↔ e.2 ≠ [] ∧ x = (e.1, refsOf values e.2) := by
  unfold graphEntry
  cases e.2 with
  | nil => exact ⟨nofun, fun h => absurd rfl h.1⟩
  | cons t r => exact ⟨fun h => ⟨nofun, (Option.some.inj h).symm⟩, fun h => congrArg some h.2.symm⟩

theorem graphEntry_key {values : SymTab} {e : String × List Token} {x : String × List String}
    (h : graphEntry values e = some x) : x.1 = e.1 :=
  (graphEntry_eq_some.mp h).2 ▸ rfl

theorem graph_get?_of_get? {values : SymTab} {key : String} {value : List Token}
    (h : values.get? key = some value) (hne : value ≠ []) :
    (buildReferenceGraph values).get? key = some (refsOf values value) := by
  suffices ∀ l : SymTab, l.get? key = some value →
      Graph.get? (l.filterMap (graphEntry values)) key = some (refsOf values value) from
    this values h
  intro l
  induction l with
  | nil => intro h; cases h
  | cons e l ih =>
    intro h
    unfold SymTab.get? at h
    rw [List.find?_cons] at h
    rw [List.filterMap_cons]
    split at h
    · rename_i hk
      simp only [Option.map_some, Option.some.injEq] at h
      have hg : graphEntry values e = some (e.1, refsOf values value) :=
        graphEntry_eq_some.mpr ⟨h ▸ hne, by rw [h]⟩
      rw [hg]
      unfold Graph.get?
      rw [List.find?_cons_of_pos (by exact hk)]
      rfl
    · rename_i hk
      cases hg : graphEntry values e with
      | none => exact ih h
      | some x =>
        unfold Graph.get?
        rw [List.find?_cons_of_neg (by rw [graphEntry_key hg, hk]; exact Bool.false_ne_true)]
        exact ih h

theorem Graph.mem_of_get? {g : Graph} {k : String} {refs : List String} (h : g.get? k = some refs) :
    (k, refs) ∈ g := by
  obtain ⟨e, hf, rfl⟩ := Option.map_eq_some_iff.mp h
  obtain ⟨hm, rfl⟩ := find?_key_mem hf
  exact hm

theorem mem_of_graph_get? {values : SymTab} {key : String} {refs : List String}
    (h : (buildReferenceGraph values).get? key = some refs) :
    ∃ toks, (key, toks) ∈ values ∧ toks ≠ [] ∧ refs = refsOf values toks := by
  rw [buildReferenceGraph_eq] at h
  obtain ⟨⟨k, toks⟩, hmem, he⟩ := List.mem_filterMap.mp (Graph.mem_of_get? h)
  obtain ⟨hne, hx⟩ := graphEntry_eq_some.mp he
  cases hx
  exact ⟨toks, hmem, hne, rfl⟩

theorem SymTab.has_of_mem {values : SymTab} {x : String × List Token} (hx : x ∈ values) :
    values.has x.1 = true := by
  unfold SymTab.has
  rw [List.find?_isSome]
  exact ⟨x, hx, beq_self_eq_true _⟩

theorem has_of_graph_get? {values : SymTab} {key : String} {refs : List String}
    (h : (buildReferenceGraph values).get? key = some refs) : values.has key = true := by
  obtain ⟨toks, hmem, _⟩ := mem_of_graph_get? h
  exact SymTab.has_of_mem hmem

theorem has_of_graph_ref {values : SymTab} {k : String} {refs : List String}
    (hg : (buildReferenceGraph values).get? k = some refs) {r : String} (hr : r ∈ refs) :
    values.has r = true := by
  obtain ⟨toks, _, _, rfl⟩ := mem_of_graph_get? hg
  obtain ⟨t, _, _, hh, rfl⟩ := mem_refsOf_iff.mp hr
  exact hh

/-- height of a node: the number of nodes on the longest path starting there, cut off at `fuel` -/
def rk (g : Graph) : Nat → String → Nat
  | 0, _ => 0
  | fuel + 1, k =>
    match g.get? k with
    | none => 0
    | some refs => 1 + maxOf (rk g fuel) refs

theorem rk_of_none {g : Graph} {k : String} (h : g.get? k = none) (fuel : Nat) : rk g fuel k = 0 := by
  cases fuel with
  | zero => rfl
  | succ f => unfold rk; rw [h]

theorem rk_of_some {g : Graph} {k : String} {refs : List String} (h : g.get? k = some refs)
    (fuel : Nat) : rk g (fuel + 1) k = 1 + maxOf (rk g fuel) refs := by
  unfold rk; rw [h]

theorem nodeContainsCycle_false {fuel : Nat} {node : String} {g : Graph} {visited : List String}
    (h : nodeContainsCycle (fuel + 1) node g visited = false) {refs : List String}
    (hg : g.get? node = some refs) :
    ∀ r ∈ refs, (visited ++ [node]).contains r = false ∧
      nodeContainsCycle fuel r g (visited ++ [node]) = false := by
  unfold nodeContainsCycle at h
  simp only [hg] at h
  intro r hr
  have := (List.any_eq_false.mp h) r hr
  simpa only [Bool.or_eq_true, not_or, Bool.not_eq_true] using this

/-- a search that ends without finding a cycle has seen the full height of the node -/
theorem rk_stable {g : Graph} :
    ∀ (fuel : Nat) (k : String) (visited : List String),
      nodeContainsCycle fuel k g visited = false → ∀ fuel', fuel ≤ fuel' → rk g fuel' k = rk g fuel k := by
  intro fuel
  induction fuel with
  | zero =>
    intro k visited h
    unfold nodeContainsCycle at h
    cases h
  | succ fuel ih =>
    intro k visited h fuel' hle
    obtain ⟨f', rfl⟩ : ∃ f', fuel' = f' + 1 := ⟨fuel' - 1, by omega⟩
    cases hg : g.get? k with
    | none => rw [rk_of_none hg, rk_of_none hg]
    | some refs =>
      have hrefs := nodeContainsCycle_false h hg
      rw [rk_of_some hg, rk_of_some hg,
        maxOf_congr fun r hr => ih r _ (hrefs r hr).2 f' (by omega)]

/-- the path a depth-first search has walked so far: distinct nodes of the graph -/
def OnPath (g : Graph) (visited : List String) : Prop :=
  visited.Nodup ∧ ∀ x ∈ visited, (g.get? x).isSome = true

theorem OnPath.nil (g : Graph) : OnPath g [] := ⟨List.nodup_nil, fun _ hx => nomatch hx⟩

theorem OnPath.snoc {g : Graph} {visited : List String} {k : String} {refs : List String}
    (h : OnPath g visited) (hk : k ∉ visited) (hg : g.get? k = some refs) :
    OnPath g (visited ++ [k]) := by
  refine ⟨List.nodup_append.mpr ⟨h.1, by simp, fun a ha b hb hab => ?_⟩, fun x hx => ?_⟩
  · exact hk (List.mem_singleton.mp hb ▸ hab ▸ ha)
  · rcases List.mem_append.mp hx with hx | hx
    · exact h.2 x hx
    · rw [List.mem_singleton.mp hx, hg]; rfl

theorem OnPath.length_le {g : Graph} {visited : List String} (h : OnPath g visited) :
    visited.length ≤ g.length := by
  have hsub : visited ⊆ g.map (·.1) := by
    intro x hx
    obtain ⟨rs, hx'⟩ := Option.isSome_iff_exists.mp (h.2 x hx)
    exact List.mem_map.mpr ⟨_, Graph.mem_of_get? hx', rfl⟩
  have := List.Nodup.length_le_of_subset h.1 hsub
  rwa [List.length_map] at this

theorem rk_bound {g : Graph} :
    ∀ (fuel : Nat) (k : String) (visited : List String),
      nodeContainsCycle fuel k g visited = false → OnPath g visited → k ∉ visited →
      rk g fuel k + visited.length ≤ g.length := by
  intro fuel
  induction fuel with
  | zero =>
    intro k visited h
    unfold nodeContainsCycle at h
    cases h
  | succ fuel ih =>
    intro k visited h hp hk
    cases hg : g.get? k with
    | none =>
      rw [rk_of_none hg, Nat.zero_add]
      exact hp.length_le
    | some refs =>
      have hrefs := nodeContainsCycle_false h hg
      have hp' := hp.snoc hk hg
      have hlen := hp'.length_le
      have hmax : maxOf (rk g fuel) refs ≤ g.length - (visited ++ [k]).length :=
        maxOf_le fun r hr => Nat.le_sub_of_add_le
          (ih r _ (hrefs r hr).2 hp' (by simpa using (hrefs r hr).1))
      rw [List.length_append, List.length_singleton] at hlen hmax
      rw [rk_of_some hg]
      omega

def graphRank (g : Graph) (s : String) : Nat := rk g (g.length + 2) s

theorem graph_root {g : Graph} (hc : graphContainsCycle g = false) (k : String) :
    nodeContainsCycle (g.length + 2) k g [] = false := by
  cases hg : g.get? k with
  | none =>
    unfold nodeContainsCycle
    simp only [hg]
  | some refs =>
    unfold graphContainsCycle at hc
    simpa using (List.any_eq_false.mp hc) _ (Graph.mem_of_get? hg)

theorem graphRank_le {g : Graph} (hc : graphContainsCycle g = false) (s : String) :
    graphRank g s ≤ g.length :=
  rk_bound (g.length + 2) s [] (graph_root hc s) (.nil g) (fun hx => by cases hx)

theorem graphRank_pos {g : Graph} {k : String} {refs : List String} (hg : g.get? k = some refs) :
    0 < graphRank g k := by
  unfold graphRank
  rw [rk_of_some hg]
  omega

theorem graphRank_lt {g : Graph} (hc : graphContainsCycle g = false) {k : String}
    {refs : List String} (hg : g.get? k = some refs) {r : String} (hr : r ∈ refs) :
    graphRank g r < graphRank g k := by
  have hroot := graph_root hc k
  have hrefs := nodeContainsCycle_false hroot hg
  have hst := rk_stable (g.length + 1) r _ (hrefs r hr).2 (g.length + 2) (by omega)
  unfold graphRank
  rw [hst, rk_of_some hg]
  have := le_maxOf (f := rk g (g.length + 1)) hr
  omega

theorem ranked_of_acyclic {values : SymTab}
    (hc : graphContainsCycle (buildReferenceGraph values) = false) :
    Ranked values (graphRank (buildReferenceGraph values)) ∧
      ∀ s, graphRank (buildReferenceGraph values) s ≤ values.length := by
  constructor
  · intro k v hv t ht htxt
    have hne : v ≠ [] := by intro h; subst h; cases ht
    have hg := graph_get?_of_get? hv hne
    cases hx : (buildReferenceGraph values).get? t.val with
    | some rs => exact graphRank_lt hc hg (mem_refsOf ht htxt (has_of_graph_get? hx))
    | none =>
      unfold graphRank
      rw [rk_of_none hx]
      exact graphRank_pos hg
  · intro s
    refine Nat.le_trans (graphRank_le hc s) ?_
    rw [buildReferenceGraph_eq]
    exact List.length_filterMap_le _ _

/-- with ranks falling along every edge the search cannot meet its own path again, and the path
    is never longer than the graph, so the fuel lasts -/
theorem nodeContainsCycle_ranked {g : Graph} {d : String → Nat}
    (hd : ∀ k refs, g.get? k = some refs → ∀ r ∈ refs, d r < d k) :
    ∀ (fuel : Nat) (node : String) (visited : List String), OnPath g visited →
      (∀ x ∈ visited, d node < d x) → g.length + 2 ≤ fuel + visited.length →
      nodeContainsCycle fuel node g visited = false := by
  intro fuel
  induction fuel with
  | zero =>
    intro node visited hp _ hf
    have := hp.length_le
    omega
  | succ fuel ih =>
    intro node visited hp hlt hf
    unfold nodeContainsCycle
    cases hg : g.get? node with
    | none => rfl
    | some refs =>
      simp only
      rw [List.any_eq_false]
      intro r hr
      have hdr := hd node refs hg r hr
      have hlt' : ∀ x ∈ visited ++ [node], d r < d x := fun x hx =>
        (List.mem_append.mp hx).elim (fun hx => Nat.lt_trans hdr (hlt x hx))
          fun hx => List.mem_singleton.mp hx ▸ hdr
      have hnot : (visited ++ [node]).contains r = false :=
        Bool.eq_false_iff.2 fun hc => Nat.lt_irrefl _ (hlt' r (List.contains_iff_mem.1 hc))
      rw [hnot, ih r _ (hp.snoc (fun h => Nat.lt_irrefl _ (hlt node h)) hg) hlt'
        (by simp only [List.length_append, List.length_singleton]; omega)]
      decide

theorem graphContainsCycle_ranked {g : Graph} {d : String → Nat}
    (hd : ∀ k refs, g.get? k = some refs → ∀ r ∈ refs, d r < d k) : graphContainsCycle g = false := by
  unfold graphContainsCycle
  rw [List.any_eq_false]
  intro e _
  have := nodeContainsCycle_ranked hd (g.length + 2) e.1 [] (.nil g) (fun x hx => by cases hx) (by simp)
  simp [this]

def MonoGet (res res' : SymTab) : Prop := ∀ k v, res.get? k = some v → res'.get? k = some v

theorem MonoGet.refl (res : SymTab) : MonoGet res res := fun _ _ h => h

theorem MonoGet.trans {a b c : SymTab} (h1 : MonoGet a b) (h2 : MonoGet b c) : MonoGet a c :=
  fun k v h => h2 k v (h1 k v h)

theorem MonoGet.has {res res' : SymTab} (h : MonoGet res res') {k : String}
    (hk : res.has k = true) : res'.has k = true := by
  obtain ⟨v, hv⟩ := SymTab.get?_of_has hk
  exact SymTab.has_of_get? (h k v hv)

end Compile
end Gmars
