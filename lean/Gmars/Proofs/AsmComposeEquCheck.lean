/-
  The hypotheses that `assemble_meaning_equ`, `assemble_meaning_anycase` and (on the unrolled
  program) `assemble_meaning_all` make about the program (`EProg.Hyps`), tested by one evaluation
  (`EProg.okB`).
-/
import Gmars.Proofs.AsmComposeEqu
import Gmars.Proofs.EquCheck

namespace Gmars
namespace AsmComposeEqu
open Gmars.Render Gmars.AsmLine Gmars.AsmCompose Gmars.Spec

/-- the lexer reads `e` from the text of the assert line `cm`: the text behind ";assert" is the
    line `aw cm`, which carries the words of `e` -/
def assertB (aw : String → SrcLine) (cm : String) (e : List ETok) : Bool :=
  decide (ELexOK e) && (aw cm).ok none && (aw cm).comment.isNone &&
    (aw cm).words.map (·.1) == ewords e && cm.toList.drop 7 == (aw cm).chars

theorem assertB_sound {aw : String → SrcLine} (cm : String) (e : List ETok)
    (h : assertB aw cm e = true) :
    ∃ last, lexString (String.ofList (cm.toList.drop 7)) = toksOf e ++ [last] := by
  simp only [assertB, Bool.and_eq_true, decide_eq_true_eq, beq_iff_eq, Option.isNone_iff_eq_none] at h
  obtain ⟨⟨⟨⟨he, hok⟩, hc⟩, hw⟩, hcs⟩ := h
  have := lex_tokens_words_last [] (List.forall_mem_nil _) _ hok
  rw [← ewords_tok e he, ← hw, List.map_map]
  simp only [renderLines, linesToks, SrcLine.toks, hc, List.nil_append, List.append_nil] at this
  exact ⟨_, by unfold lexString; rw [String.toList_ofList, hcs, this]; rfl⟩

def EItem.okB (it : EItem) : Bool :=
  decide it.LexOK && decide it.NamesOK &&
    match it with
    | .comment cs _ => decide (plainComment cs)
    | _ => true

def EProg.linesB (p : EProg) : Bool :=
  p.items.all EItem.okB &&
    p.fin.all fun q => identOK q.1 && q.2.all fun x => decide (ELexOK x ∧ x ≠ [])

theorem EProg.linesB_sound {p : EProg} (h : p.linesB = true) :
    p.LexOK ∧ p.NamesOK ∧ ∀ cs k, EItem.comment cs k ∈ p.items → plainComment cs := by
  simp only [EProg.linesB, Bool.and_eq_true, List.all_eq_true] at h
  have hi := fun it hit => by
    simpa only [EItem.okB, Bool.and_eq_true, decide_eq_true_eq] using h.1 it hit
  refine ⟨⟨fun it hit => (hi it hit).1.1, fun kw e he => ?_⟩, ⟨fun it hit => (hi it hit).1.2⟩,
    fun cs k hit => by simpa using (hi _ hit).2⟩
  have hf := h.2
  simp only [he, Option.all_some, Bool.and_eq_true] at hf
  exact ⟨hf.1, fun x hx => by simpa [hx] using hf.2⟩

/-- `aw` gives the text of each assert line as a line of words -/
def EProg.okB (sc : Cfg) (aw : String → SrcLine) (p : EProg) : Bool :=
  p.linesB &&
    decide ((p.labels ++ p.equNames ++ constNames).Nodup ∧
      (∀ x ∈ p.names, x ∈ p.labels ∨ x ∈ p.equNames ∨ x ∈ constNames) ∧
      xinstrCount p.xitems < 2 ^ 63) &&
    rankB (xequs p.xitems ++ predefined sc) &&
    xprogWFB (assertB aw) sc (xtables sc p.xitems) 0 p.xitems

theorem EProg.okB_sound {sc : Cfg} {aw : String → SrcLine} {p : EProg}
    (h : p.okB sc aw = true) : ∃ d, p.Hyps sc d := by
  simp only [EProg.okB, Bool.and_eq_true, decide_eq_true_eq] at h
  obtain ⟨⟨⟨hl, hn, hc, hs⟩, hr⟩, hw⟩ := h
  obtain ⟨h1, h2, h3⟩ := EProg.linesB_sound hl
  exact ⟨_, h1, h2, h3, hn, hc, hs, (rankB_sound hr).1, (rankB_sound hr).2,
    xprogWFB_sound assertB_sound hw⟩

end AsmComposeEqu
end Gmars
