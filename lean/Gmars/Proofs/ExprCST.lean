/-
  C07 "operand expressions evaluate as integer arithmetic": concrete syntax trees,
  their two token renderings (gmars tokens and reference tokens), precedence
  well-formedness and the exact integer denotation.
-/
import Gmars.Model.Expr
import Gmars.Spec.Program

namespace Gmars.ExprProofs

/-- in `signs ss e` a `true` in `ss` is a minus sign, `false` a plus sign -/
inductive CST
  | num (n : Nat)
  | signs (ss : List Bool) (e : CST)
  | paren (e : CST)
  | bin (op : String) (l r : CST)
  deriving Repr, Inhabited

def signStr (s : Bool) : String := if s then "-" else "+"

def signTok (s : Bool) : Token := { typ := .symbol, val := signStr s }
def numTok (n : Nat) : Token := { typ := .number, val := toString n }
def lpTok : Token := { typ := .parenL, val := "(" }
def rpTok : Token := { typ := .parenR, val := ")" }
def opTok (o : String) : Token := { typ := .symbol, val := o }

def CST.tokens : CST → List Token
  | .num n => [numTok n]
  | .signs ss e => ss.map signTok ++ e.tokens
  | .paren e => lpTok :: (e.tokens ++ [rpTok])
  | .bin op l r => l.tokens ++ opTok op :: r.tokens

def CST.etoks : CST → List Spec.ETok
  | .num n => [.num n]
  | .signs ss e => ss.map (fun s => Spec.ETok.op (signStr s)) ++ e.etoks
  | .paren e => .lp :: (e.etoks ++ [.rp])
  | .bin op l r => l.etoks ++ .op op :: r.etoks

def isArith (op : String) : Prop := op = "+" ∨ op = "-" ∨ op = "*" ∨ op = "/" ∨ op = "%"

instance (op : String) : Decidable (isArith op) := by unfold isArith; infer_instance

/-- 6: tighter than any operator (`prec_arith`) -/
def CST.prec : CST → Nat
  | .bin op _ _ => Spec.Expr.prec op
  | _ => 6

def CST.isAtom : CST → Bool
  | .num _ | .paren _ => true
  | _ => false

/-- the tree is the one precedence climbing with left associativity produces from its own token
    list (hence `≤` on the left, `<` on the right); sign runs are maximal: their operand is a
    number or a parenthesis -/
def WFprec : CST → Prop
  | .num _ => True
  | .signs _ e => e.isAtom = true ∧ WFprec e
  | .paren e => WFprec e
  | .bin op l r => isArith op ∧ WFprec l ∧ WFprec r ∧ Spec.Expr.prec op ≤ l.prec ∧ Spec.Expr.prec op < r.prec

def applySigns (ss : List Bool) (v : Int) : Int := ss.foldr (fun s v => if s then -v else v) v

def binVal (op : String) (a b : Int) : Option Int :=
  match op with
  | "+" => some (a + b)
  | "-" => some (a - b)
  | "*" => some (a * b)
  | "/" => if b = 0 then none else some (Int.tdiv a b)
  | "%" => if b = 0 then none else some (Int.tmod a b)
  | _ => none

def denote : CST → Option Int
  | .num n => some (n : Int)
  | .signs ss e => (denote e).map (applySigns ss)
  | .paren e => denote e
  | .bin op l r =>
    match denote l, denote r with
    | some a, some b => binVal op a b
    | _, _ => none

/-- `GoEval.big = 2^500` bounds the range on which the `go/types.Eval` model `GoEval` answers -/
def NoBigLit : CST → Prop
  | .num n => (n : Int) < GoEval.big
  | .signs _ e => NoBigLit e
  | .paren e => NoBigLit e
  | .bin op l r => NoBigLit l ∧ NoBigLit r ∧
      ∀ v, denote (.bin op l r) = some v → -GoEval.big < v ∧ v < GoEval.big

def CST.ntoks : CST → Nat
  | .num _ => 1
  | .signs ss e => ss.length + e.ntoks
  | .paren e => e.ntoks + 2
  | .bin _ l r => l.ntoks + r.ntoks + 1

theorem CST.tokens_length (c : CST) : c.tokens.length = c.ntoks := by
  induction c with
  | num n => rfl
  | signs ss e ih => simp [CST.tokens, CST.ntoks, ih]
  | paren e ih => simp [CST.tokens, CST.ntoks, ih]
  | bin op l r ihl ihr => simp [CST.tokens, CST.ntoks, ihl, ihr]; omega

theorem CST.etoks_length (c : CST) : c.etoks.length = c.ntoks := by
  induction c with
  | num n => rfl
  | signs ss e ih => simp [CST.etoks, CST.ntoks, ih]
  | paren e ih => simp [CST.etoks, CST.ntoks, ih]
  | bin op l r ihl ihr => simp [CST.etoks, CST.ntoks, ihl, ihr]; omega

theorem CST.ntoks_pos (c : CST) : 1 ≤ c.ntoks := by
  induction c with
  | signs ss e ih => simp only [CST.ntoks]; omega
  | _ => simp only [CST.ntoks]; omega

theorem prec_arith {op : String} (h : isArith op) : 4 ≤ Spec.Expr.prec op ∧ Spec.Expr.prec op ≤ 5 := by
  rcases h with h | h | h | h | h <;> subst h <;> decide

theorem goPrec_arith {op : String} (h : isArith op) : GoEval.prec op = Spec.Expr.prec op := by
  rcases h with h | h | h | h | h <;> subst h <;> decide

theorem CST.prec_le (c : CST) (h : WFprec c) : c.prec ≤ 6 := by
  cases c with
  | bin op l r => simp only [WFprec] at h; have := prec_arith h.1; simp only [CST.prec]; omega
  | _ => simp [CST.prec]

theorem prec_ge_four (e : CST) (hw : WFprec e) : 4 ≤ e.prec := by
  cases e with
  | bin op l r => simp only [WFprec] at hw; have := prec_arith hw.1; simp only [CST.prec]; omega
  | _ => simp [CST.prec]

end Gmars.ExprProofs
