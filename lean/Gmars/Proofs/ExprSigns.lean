/-
  Token level facts about `combineSigns` and `flipDoubleNegatives` (expr.go) and the model's
  `signRun`.  `combineSigns` is read as a transducer with two states that takes one token at a
  time (`signFold`, `combineSigns_eq_signFold`): no fuel, no run of signs has to be named.
-/
import Gmars.Model.Expr

namespace Gmars.ExprProofs

def Chain {α : Type} (R : α → α → Prop) : List α → Prop
  | [] => True
  | [_] => True
  | a :: b :: r => R a b ∧ Chain R (b :: r)

theorem Chain.tail {α : Type} {R : α → α → Prop} {a : α} {l : List α} (h : Chain R (a :: l)) : Chain R l := by
  cases l with
  | nil => trivial
  | cons b r => exact h.2

theorem Chain.cons {α : Type} {R : α → α → Prop} {a : α} {l : List α} (h : Chain R l)
    (hh : ∀ b r, l = b :: r → R a b) : Chain R (a :: l) := by
  cases l with
  | nil => trivial
  | cons b r => exact ⟨hh b r rfl, h⟩

theorem Chain.append {α : Type} {R : α → α → Prop} {l1 l2 : List α} (h1 : Chain R l1) (h2 : Chain R l2)
    (hj : ∀ a b, l1.getLast? = some a → l2.head? = some b → R a b) : Chain R (l1 ++ l2) := by
  induction l1 with
  | nil => simpa using h2
  | cons a l ih =>
    cases l with
    | nil =>
      simp only [List.cons_append, List.nil_append]
      exact h2.cons (fun b r e => hj a b (by simp) (by simp [e]))
    | cons b r =>
      simp only [List.cons_append]
      refine ⟨h1.1, ?_⟩
      have := ih h1.2 (fun x y hx hy => hj x y (by simpa [List.getLast?_cons_cons] using hx) hy)
      simpa using this

theorem Chain.and {α : Type} {R S : α → α → Prop} {l : List α} (h1 : Chain R l) (h2 : Chain S l) :
    Chain (fun a b => R a b ∧ S a b) l := by
  induction l with
  | nil => trivial
  | cons a l ih =>
    cases l with
    | nil => trivial
    | cons b r => exact ⟨⟨h1.1, h2.1⟩, ih h1.2 h2.2⟩

theorem Chain.imp {α : Type} {R S : α → α → Prop} {l : List α} (h : ∀ a b, R a b → S a b) (h1 : Chain R l) :
    Chain S l := by
  induction l with
  | nil => trivial
  | cons a l ih =>
    cases l with
    | nil => trivial
    | cons b r => exact ⟨h _ _ h1.1, ih h1.2⟩

def minusTok : Token := { typ := .symbol, val := "-" }
def plusTok : Token := { typ := .symbol, val := "+" }

def minusParity (b : Bool) (ts : List Token) : Bool :=
  ts.foldl (fun p t => if t.val == "-" then !p else p) b

theorem signRun_all (pre : List Token) (b : Bool) (hpre : ∀ t ∈ pre, isSign t = true) :
    signRun pre b = (minusParity b pre, []) := by
  induction pre generalizing b with
  | nil => rfl
  | cons t r ih =>
    rw [signRun, if_pos (hpre t (List.mem_cons_self ..)), ih _ fun u hu => hpre u (List.mem_cons_of_mem _ hu)]
    rfl

theorem minusParity_count (ts : List Token) (b : Bool) :
    minusParity b ts = (b != decide (ts.countP (·.val == "-") % 2 = 1)) := by
  induction ts generalizing b with
  | nil => simp [minusParity]
  | cons t r ih =>
    unfold minusParity at ih ⊢
    rw [List.foldl_cons, ih, List.countP_cons]
    split
    · rcases Nat.mod_two_eq_zero_or_one (List.countP (fun x => x.val == "-") r) with h' | h' <;>
        cases b <;> simp [h', Nat.add_mod]
    · rfl

/-- the state of `signFold` after copying `t` -/
def afterTok (t : Token) : Option Bool := if t.typ == .symbol then some false else none

/-- `combineSignsAux` without fuel, reading one token at a time (`combineSignsAux_eq`).  State
    `none`: the last token copied is no symbol, every token is copied.  State `some p`: it is a
    symbol and the signs read since contain an odd (`p`) or even number of minus signs; they come
    out as one minus or nothing in front of the next token that is no sign, or at the end. -/
def signFold : Option Bool → List Token → List Token
  | none, [] => []
  | none, t :: r => t :: signFold (afterTok t) r
  | some p, [] => if p then [minusTok] else []
  | some p, t :: r =>
    if isSign t then signFold (some (if t.val == "-" then !p else p)) r
    else (if p then [minusTok] else []) ++ t :: signFold (afterTok t) r

/-- a whole run at once, as `combineSigns` reads it -/
theorem signFold_signRun (ts : List Token) (p : Bool) :
    signFold (some p) ts = (if (signRun ts p).1 then [minusTok] else []) ++
      match (signRun ts p).2 with
      | [] => []
      | x :: r => x :: signFold (afterTok x) r := by
  induction ts generalizing p with
  | nil => cases p <;> rfl
  | cons t r ih =>
    rw [signFold, signRun]
    split
    · exact ih _
    · rfl

/-- the state of `signFold` in which `combineSignsAux` starts with the flag `lastSym = b` -/
def flagState (b : Bool) : Option Bool := if b then some false else none

theorem combineSignsAux_eq (f : Nat) (b : Bool) (ts : List Token) (h : ts.length < f) :
    combineSignsAux f b ts = signFold (flagState b) ts := by
  induction f generalizing b ts with
  | zero => omega
  | succ f ih =>
    cases ts with
    | nil => cases b <;> rfl
    | cons t r =>
      have h := Nat.lt_of_succ_lt_succ h
      cases b with
      | false =>
        rw [combineSignsAux]
        simp only [Bool.false_eq_true, if_false]
        rw [ih _ r h]
        rfl
      | true =>
        have hl := signRun_length (t :: r) false
        rw [combineSignsAux, show flagState true = some false from rfl, signFold_signRun]
        simp only [if_true]
        generalize signRun (t :: r) false = sr at hl
        obtain ⟨neg, rest⟩ := sr
        cases rest with
        | nil => cases neg <;> rfl
        | cons x r' =>
          simp only
          rw [ih _ r' (Nat.lt_of_le_of_lt (Nat.le_of_succ_le_succ hl) h)]
          cases neg <;> cases hx : x.typ == TokType.symbol <;> simp [flagState, afterTok, hx, minusTok]

/-- `combineSigns` continued in state `lastSym = b` -/
def CS (b : Bool) (ts : List Token) : List Token := combineSignsAux (ts.length + 1) b ts

theorem combineSigns_eq_CS (ts : List Token) : combineSigns ts = CS false ts := rfl

theorem CS_nil (b : Bool) : CS b [] = [] := rfl

theorem combineSigns_eq_signFold (ts : List Token) : combineSigns ts = signFold none ts :=
  combineSignsAux_eq _ false ts (Nat.lt_succ_self _)

/-- `prev` = "the previous token is a symbol" -/
def SignsFolded : Bool → List Token → Prop
  | _, [] => True
  | prev, t :: r =>
    (prev = true → isSign t = true → t.val = "-" ∧ ∀ u r', r = u :: r' → isSign u = false) ∧
      SignsFolded (t.typ == .symbol) r

theorem signFold_signsFolded (st : Option Bool) (ts : List Token) : SignsFolded st.isSome (signFold st ts) := by
  have hafter (t : Token) : (t.typ == .symbol) = (afterTok t).isSome := by
    unfold afterTok; split <;> simp [*]
  induction ts generalizing st with
  | nil =>
    match st with
    | none | some false => trivial
    | some true => exact ⟨fun _ _ => ⟨rfl, fun u r' e => by cases e⟩, trivial⟩
  | cons t r ih =>
    match st with
    | none => exact ⟨fun h => (by cases h), hafter t ▸ ih _⟩
    | some p =>
      rw [signFold]
      split
      · exact (ih (some (if t.val == "-" then !p else p)) :)
      · rename_i ht
        have ht : isSign t = false := by simpa using ht
        have hxr : SignsFolded true (t :: signFold (afterTok t) r) :=
          ⟨fun _ h => (by rw [ht] at h; cases h), hafter t ▸ ih _⟩
        cases p
        · exact hxr
        · exact ⟨fun _ _ => ⟨rfl, fun u r' e => by cases e; exact ht⟩, hxr⟩

theorem combineSigns_signsFolded (ts : List Token) : SignsFolded false (combineSigns ts) :=
  combineSigns_eq_signFold ts ▸ signFold_signsFolded none ts

theorem flip_pair (a b : Token) (r : List Token) (ha : a.val = "-") (hb : b.val = "-") :
    flipDoubleNegatives (a :: b :: r) = plusTok :: flipDoubleNegatives r := by
  rw [flipDoubleNegatives]; simp [ha, hb, plusTok]

theorem flip_cons_cons_of_not (a b : Token) (r : List Token)
    (h : ¬(a.val == "-" && b.val == "-") = true) :
    flipDoubleNegatives (a :: b :: r) = a :: flipDoubleNegatives (b :: r) := by
  rw [flipDoubleNegatives, if_neg h]

theorem flip_cons_of_ne (a : Token) (r : List Token) (ha : a.val ≠ "-") :
    flipDoubleNegatives (a :: r) = a :: flipDoubleNegatives r := by
  cases r with
  | nil => simp [flipDoubleNegatives]
  | cons b r => exact flip_cons_cons_of_not a b r (by simp [ha])

theorem flip_cons_cons_of_ne (a b : Token) (r : List Token) (hb : b.val ≠ "-") :
    flipDoubleNegatives (a :: b :: r) = a :: b :: flipDoubleNegatives r := by
  rw [flip_cons_cons_of_not a b r (by simp [hb]), flip_cons_of_ne b r hb]

theorem flip_nil : flipDoubleNegatives [] = [] := by simp [flipDoubleNegatives]

theorem flip_head (ts : List Token) (y : Token) (r : List Token) (h : flipDoubleNegatives ts = y :: r) :
    (∃ r', ts = y :: r') ∨ (y = plusTok ∧ ∃ a b r', ts = a :: b :: r' ∧ a.val = "-" ∧ b.val = "-") := by
  cases ts with
  | nil => rw [flip_nil] at h; cases h
  | cons a l =>
    cases l with
    | nil => simp [flipDoubleNegatives] at h; left; exact ⟨[], by rw [h.1]⟩
    | cons b l =>
      by_cases hab : a.val = "-" ∧ b.val = "-"
      · rw [flip_pair a b l hab.1 hab.2] at h
        right; exact ⟨(List.cons.inj h).1.symm, a, b, l, rfl, hab.1, hab.2⟩
      · rw [flip_cons_cons_of_not a b l (by simpa using hab)] at h
        left; exact ⟨l.cons b, by rw [(List.cons.inj h).1]⟩

theorem chain_flip_short {R : Token → Token → Prop} {l : List Token}
    (hl : ∀ a b r, l ≠ a :: b :: r) : Chain R (flipDoubleNegatives l) := by
  cases l with
  | nil => rw [flip_nil]; trivial
  | cons a l =>
    cases l with
    | nil => simp [flipDoubleNegatives]; trivial
    | cons b l => exact absurd rfl (hl a b l)

theorem flip_noMM (ts : List Token) :
    Chain (fun a b : Token => ¬ (a.val = "-" ∧ b.val = "-")) (flipDoubleNegatives ts) := by
  induction ts using flipDoubleNegatives.induct with
  | case1 a b r hab ih =>
    simp only [Bool.and_eq_true, beq_iff_eq] at hab
    rw [flip_pair a b r hab.1 hab.2]
    exact ih.cons (fun y r' _ h => by simp [plusTok] at h)
  | case2 a b r hab ih =>
    rw [flip_cons_cons_of_not a b r hab]
    refine ih.cons (fun y r' e h => ?_)
    rcases flip_head _ _ _ e with ⟨r'', e'⟩ | ⟨rfl, _⟩
    · cases e'
      exact hab (by simp [h.1, h.2])
    · simp [plusTok] at h
  | case3 l hl => exact chain_flip_short hl

/-- two adjacent `+` could only come from `----`, or from `+` next to a rewritten `--`; in the
    output of `combineSigns` a `--` is a binary minus followed by ONE unary minus
    (`SignsFolded`), so neither occurs -/
theorem flip_noPP (ts : List Token) (prev : Bool) (hf : SignsFolded prev ts)
    (hsym : ∀ t ∈ ts, isSign t = true → t.typ = .symbol) :
    Chain (fun a b : Token => ¬ (a.val = "+" ∧ b.val = "+")) (flipDoubleNegatives ts) := by
  induction ts using flipDoubleNegatives.induct generalizing prev with
  | case1 a b r hab ih =>
    simp only [Bool.and_eq_true, beq_iff_eq] at hab
    rw [flip_pair a b r hab.1 hab.2]
    have hb := hf.2.1
    have hta : (a.typ == .symbol) = true := by
      simp [hsym a (by simp) (by simp [isSign, hab.1])]
    have hbs : isSign b = true := by simp [isSign, hab.2]
    have hnext := (hb hta hbs).2
    refine (ih _ hf.2.2 (fun t ht => hsym t (by simp [ht]))).cons (fun y r' e h => ?_)
    rcases flip_head _ _ _ e with ⟨r'', e'⟩ | ⟨_, a', b', r'', e', ha', _⟩
    · have := hnext y r'' e'
      simp [isSign, h.2] at this
    · have := hnext a' _ e'
      simp [isSign, ha'] at this
  | case2 a b r hab ih =>
    rw [flip_cons_cons_of_not a b r hab]
    refine (ih _ hf.2 (fun t ht => hsym t (by simp [ht]))).cons (fun y r' e h => ?_)
    have hta : (a.typ == .symbol) = true := by
      simp [hsym a (by simp) (by simp [isSign, h.1])]
    rcases flip_head _ _ _ e with ⟨r'', e'⟩ | ⟨_, a', b', r'', e', ha', hb'⟩
    · cases e'
      have := (hf.2.1 hta (by simp [isSign, h.2])).1
      rw [h.2] at this; exact absurd this (by decide)
    · cases e'
      have := (hf.2.1 hta (by simp [isSign, ha'])).2 _ _ rfl
      simp [isSign, hb'] at this
  | case3 l hl => exact chain_flip_short hl

end Gmars.ExprProofs
