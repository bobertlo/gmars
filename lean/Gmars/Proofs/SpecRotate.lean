/-
  C12 at the level of the reference semantics: a battle does not depend on where
  in the (circular) core it is placed.  Rotation of a core by `k`, and equivariance of
  one task, loading, spawning, a cycle and a run under it.
-/
import Gmars.Proofs.SpecSched
import Gmars.Proofs.SpecLocal

namespace Gmars.Spec

def unsh (M k a : Nat) : Nat := (a + M - k % M) % M

theorem unsh_lt {M : Nat} (hM : 0 < M) (k a : Nat) : unsh M k a < M := Nat.mod_lt _ hM

theorem add_sub_mod {M : Nat} (hM : 0 < M) (k x : Nat) : (x + k + (M - k % M)) % M = x % M := by
  rw [Nat.add_assoc, ← Nat.add_mod_mod, ← Nat.mod_add_mod k,
    Nat.add_sub_cancel' (Nat.le_of_lt (Nat.mod_lt k hM)), Nat.mod_self, Nat.add_zero]

theorem unsh_shift {M : Nat} (k : Nat) {a : Nat} (ha : a < M) : unsh M k ((a + k) % M) = a := by
  have hM : 0 < M := by omega
  unfold unsh
  rw [Nat.add_sub_assoc (Nat.le_of_lt (Nat.mod_lt k hM)), Nat.mod_add_mod, add_sub_mod hM,
    Nat.mod_eq_of_lt ha]

theorem shift_unsh {M : Nat} (k : Nat) {a : Nat} (ha : a < M) : (unsh M k a + k) % M = a := by
  have hM : 0 < M := by omega
  unfold unsh
  rw [Nat.mod_add_mod, Nat.add_sub_assoc (Nat.le_of_lt (Nat.mod_lt k hM)), Nat.add_right_comm,
    add_sub_mod hM, Nat.mod_eq_of_lt ha]

theorem shift_inj {M : Nat} (k : Nat) {a b : Nat} (ha : a < M) (hb : b < M)
    (h : (a + k) % M = (b + k) % M) : a = b := by
  rw [← unsh_shift k ha, ← unsh_shift k hb, h]

/-- the arithmetic heart: PC-relative addressing commutes with the shift -/
theorem add_shift (M a k x : Nat) : ((a + k) % M + x) % M = ((a + x) % M + k) % M := by
  rw [Nat.mod_add_mod, Nat.mod_add_mod, Nat.add_right_comm]

theorem Core.at_eq_getElem (c : Core) {i : Nat} (h : i < c.length) : c.at i = c[i] := by
  simp [Core.at, List.getD_eq_getElem?_getD, List.getElem?_eq_getElem h]

theorem Core.ext {c d : Core} (hl : c.length = d.length)
    (h : ∀ a, a < c.length → c.at a = d.at a) : c = d := by
  apply List.ext_getElem hl
  intro i h1 h2
  rw [← Core.at_eq_getElem c h1, ← Core.at_eq_getElem d h2]
  exact h i h1

def rot (k : Nat) (c : Core) : Core :=
  (List.range c.length).map (fun a => c.at ((a + c.length - k % c.length) % c.length))

@[simp] theorem rot_length (k : Nat) (c : Core) : (rot k c).length = c.length := by
  simp [rot]

theorem rot_at_lt (k : Nat) (c : Core) {a : Nat} (ha : a < c.length) :
    (rot k c).at a = c.at (unsh c.length k a) := by
  rw [Core.at_eq_getElem _ (by simpa using ha)]
  simp [rot, unsh]

theorem rot_at {M : Nat} (k : Nat) (c : Core) (hc : c.length = M) {a : Nat} (ha : a < M) :
    (rot k c).at ((a + k) % M) = c.at a := by
  subst hc
  rw [rot_at_lt k c (Nat.mod_lt _ (by omega)), unsh_shift k ha]

theorem rot_eq {M : Nat} (k : Nat) (c d : Core) (hc : c.length = M) (hd : d.length = M)
    (h : ∀ a, a < M → d.at ((a + k) % M) = c.at a) : rot k c = d := by
  subst hc
  apply Core.ext (by rw [rot_length, hd])
  intro a ha
  rw [rot_length] at ha
  rw [rot_at_lt k c ha, ← h _ (unsh_lt (by omega) k a), shift_unsh k ha]

theorem rot_set {M : Nat} (k : Nat) (c : Core) (hc : c.length = M) {a : Nat} (ha : a < M)
    (v : SInstr) : rot k (c.set a v) = (rot k c).set ((a + k) % M) v := by
  apply rot_eq k _ _ (by simpa using hc) (by simpa using hc)
  intro b hb
  by_cases hab : a = b
  · subst hab
    rw [Core.at_set_self _ _ _ (by rw [rot_length, hc]; exact Nat.mod_lt _ (by omega)),
      Core.at_set_self _ _ _ (hc ▸ ha)]
  · rw [Core.at_set_ne _ _ _ _ (fun h => hab (shift_inj k ha hb h)), Core.at_set_ne _ _ _ _ hab,
      rot_at k c hc hb]

theorem rot_modF {M : Nat} (k : Nat) (c : Core) (hc : c.length = M) {a : Nat} (ha : a < M)
    (f : Field) (g : Nat → Nat) :
    rot k (c.modF a f g) = (rot k c).modF ((a + k) % M) f g := by
  unfold Core.modF
  rw [rot_set k c hc ha, rot_at k c hc ha]

/-- `rp`, `wp` are offsets from the PC and stay; `pip`, `dec` are cells and move -/
def Operand.rot (M k : Nat) (o : Operand) : Operand :=
  { core := Spec.rot k o.core, rp := o.rp, wp := o.wp,
    pip := o.pip.map (fun p => ((p.1 + k) % M, p.2)),
    dec := o.dec.map (fun a => (a + k) % M) }

theorem evalOperand_pip_lt {M : Nat} (hM : 0 < M) (R W pc : Nat) (c : Core) (mode : Mode)
    (num : Nat) : ∀ p, (evalOperand M R W pc c mode num).pip = some p → p.1 < M := by
  cases mode <;> simp only [evalOperand, kind, reduceCtorEq, false_imp_iff, implies_true,
    Option.some.injEq, forall_eq', Nat.mod_lt _ hM]

theorem evalOperand_rotate {M : Nat} (R W : Nat) (k : Nat) (c : Core) (hc : c.length = M)
    (hM : 0 < M) (pc : Nat) (mode : Mode) (num : Nat) :
    evalOperand M R W ((pc + k) % M) (rot k c) mode num
      = (evalOperand M R W pc c mode num).rot M k := by
  have hlt : ∀ x, (pc + x) % M < M := fun x => Nat.mod_lt _ hM
  unfold evalOperand Operand.rot
  cases mode <;> simp only [kind, add_shift M pc k, rot_at k c hc (hlt _), Option.map_none,
    Option.map_some, ← rot_modF k c hc (hlt _),
    rot_at k (c.modF _ _ _) ((Core.modF_length ..).trans hc) (hlt _)]

theorem postInc_rotate {M : Nat} (k : Nat) (c : Core) (hc : c.length = M)
    (p : Option (Nat × Field)) (hp : ∀ q, p = some q → q.1 < M) :
    postInc M (rot k c) (p.map (fun p => ((p.1 + k) % M, p.2))) = rot k (postInc M c p) := by
  cases p with
  | none => rfl
  | some q =>
    obtain ⟨i, f⟩ := q
    simp only [Option.map_some, postInc]
    rw [rot_modF k c hc (hp _ rfl)]

/-- the operand stage shared by `step` and `mayTouch` (instruction register, A operand,
    post-increment, B operand, post-increment) commutes with rotation -/
theorem operands_rotate {M : Nat} (R W : Nat) (k : Nat) (c : Core) (hc : c.length = M)
    {pc : Nat} (hpc : pc < M) :
    let ir := c.at pc
    let oa := evalOperand M R W pc c ir.am ir.a
    let c1 := postInc M oa.core oa.pip
    let ob := evalOperand M R W pc c1 ir.bm ir.b
    (rot k c).at ((pc + k) % M) = ir ∧
    evalOperand M R W ((pc + k) % M) (rot k c) ir.am ir.a = oa.rot M k ∧
    postInc M (rot k oa.core) (oa.pip.map (fun p => ((p.1 + k) % M, p.2))) = rot k c1 ∧
    evalOperand M R W ((pc + k) % M) (rot k c1) ir.bm ir.b = ob.rot M k ∧
    postInc M (rot k ob.core) (ob.pip.map (fun p => ((p.1 + k) % M, p.2)))
      = rot k (postInc M ob.core ob.pip) ∧
    oa.core.length = M ∧ ob.core.length = M := by
  intro ir oa c1 ob
  have hM : 0 < M := by omega
  have hoa : oa.core.length = M := (evalOperand_eqOff ..).1.trans hc
  have hc1 : c1.length = M := (postInc_eqOff ..).1.trans hoa
  have hob : ob.core.length = M := (evalOperand_eqOff ..).1.trans hc1
  exact ⟨rot_at k c hc hpc, evalOperand_rotate R W k c hc hM pc _ _,
    postInc_rotate k oa.core hoa oa.pip (evalOperand_pip_lt hM R W pc c _ _),
    evalOperand_rotate R W k c1 hc1 hM pc _ _,
    postInc_rotate k ob.core hob ob.pip (evalOperand_pip_lt hM R W pc c1 _ _), hoa, hob⟩

theorem foldl_rotate {α : Type} {M : Nat} (k : Nat) (f g : Core → α → Core)
    (hlen : ∀ c x, (f c x).length = c.length)
    (h : ∀ c x, c.length = M → g (rot k c) x = rot k (f c x))
    (xs : List α) (c : Core) (hc : c.length = M) :
    xs.foldl g (rot k c) = rot k (xs.foldl f c) := by
  induction xs generalizing c with
  | nil => rfl
  | cons x xs ih =>
    rw [List.foldl_cons, List.foldl_cons, h c x hc, ih _ ((hlen c x).trans hc)]

theorem applyPairs_rotate {M : Nat} (k : Nat) (c : Core) (hc : c.length = M) {w : Nat}
    (hw : w < M) (ps : List (Field × Nat × Nat)) (ok : Nat → Bool) (g : Nat → Nat → Nat) :
    applyPairs (rot k c) ((w + k) % M) ps ok g = rot k (applyPairs c w ps ok g) := by
  refine foldl_rotate k _ _ (fun c p => ?_) (fun c p hc => ?_) ps c hc
  · dsimp only
    rw [apply_ite List.length, Core.modF_length, ite_self]
  · dsimp only
    rw [apply_ite (rot k), rot_modF k c hc hw]

theorem djnFold_rotate {M : Nat} (k : Nat) (c : Core) (hc : c.length = M) {w : Nat}
    (hw : w < M) (fs : List Field) :
    fs.foldl (fun c f => c.modF ((w + k) % M) f (fun v => (v + M - 1) % M)) (rot k c)
      = rot k (fs.foldl (fun c f => c.modF w f (fun v => (v + M - 1) % M)) c) :=
  foldl_rotate k _ _ (fun _ _ => Core.modF_length ..)
    (fun c _ hc => (rot_modF k c hc hw ..).symm) fs c hc

theorem opStep_rotate {M : Nat} (k : Nat) (op : Op) (md : Modifier) (ira irb : SInstr)
    (c2 : Core) (hc : c2.length = M) {wt : Nat} (hw : wt < M) (jt nxt skp : Nat) :
    opStep M op md ira irb (rot k c2) ((wt + k) % M) ((jt + k) % M) ((nxt + k) % M)
        ((skp + k) % M)
      = ⟨rot k (opStep M op md ira irb c2 wt jt nxt skp).core,
         (opStep M op md ira irb c2 wt jt nxt skp).succ.map (fun a => (a + k) % M)⟩ := by
  unfold opStep
  cases op <;> simp only [applyPairs_rotate k c2 hc hw, djnFold_rotate k c2 hc hw,
    List.map_nil, List.map_cons, apply_ite (List.map _), apply_ite (fun a => (a + k) % M)]
  -- what is left is MOV, whose `.i` stores a whole instruction
  split
  · simp only [rot_set k c2 hc hw, List.map_cons, List.map_nil]
  · rfl

/-- C12 for one task: all effective addresses are PC-relative modulo `M` and folding does not
    depend on the PC. -/
theorem step_rotate {M : Nat} (R W : Nat) (k : Nat) (c : Core) (hc : c.length = M)
    {pc : Nat} (hpc : pc < M) :
    step M R W (rot k c) ((pc + k) % M)
      = ⟨rot k (step M R W c pc).core,
         (step M R W c pc).succ.map (fun a => (a + k) % M)⟩ := by
  have hlt : ∀ x, (pc + x) % M < M := fun x => Nat.mod_lt _ (by omega)
  obtain ⟨e1, e2, e3, e4, e5, hoa, hob⟩ := operands_rotate R W k c hc hpc
  rw [step_eq, step_eq]
  simp only [e1, e2, e3, e4, e5, Operand.rot, add_shift M pc k, rot_at k _ hoa (hlt _),
    rot_at k _ hob (hlt _)]
  exact opStep_rotate k _ _ _ _ _ ((postInc_eqOff ..).1.trans hob) (hlt _) _ _ _

theorem loadAt_length (M : Nat) (c : Core) (off : Nat) (code : List SInstr) :
    (loadAt M c off code).length = c.length := by
  unfold loadAt
  generalize List.range code.length = js
  induction js generalizing c with
  | nil => rfl
  | cons j js ih => simp only [List.foldl_cons]; rw [ih]; simp

theorem loadAt_rotate {M : Nat} (k : Nat) (c : Core) (hc : c.length = M) (hM : 0 < M)
    (off : Nat) (code : List SInstr) :
    loadAt M (rot k c) ((off + k) % M) code = rot k (loadAt M c off code) := by
  refine foldl_rotate k _ _ (fun _ _ => List.length_set) (fun c j hc => ?_) _ c hc
  rw [rot_set k c hc (Nat.mod_lt _ hM), add_shift]

theorem loadAt_congr (M : Nat) (c : Core) (off j : Nat) (code : List SInstr) :
    loadAt M c (off + j * M) code = loadAt M c off code := by
  rw [← loadAt_mod M c (off + j * M), Nat.add_mul_mod_self_right, loadAt_mod]

theorem spawn_congr (s : Api) (i : Int) (off j : Nat) :
    s.spawn i (off + j * s.M) = s.spawn i off := by
  rw [← Api.spawn_mod s i (off + j * s.M), Nat.add_mul_mod_self_right, Api.spawn_mod]

def rotSW (M k : Nat) (w : SW) : SW := { w with q := w.q.map (fun a => (a + k) % M) }

/-- the API state with the whole battle moved `k` cells up the core -/
def rotApi (k : Nat) (s : Api) : Api :=
  { s with core := rot k s.core, ws := s.ws.map (rotSW s.M k) }

structure Api.WFs (s : Api) : Prop where
  len : s.core.length = s.M
  hM : 0 < s.M
  hR : 0 < s.R ∧ s.R ≤ s.M
  hW : 0 < s.W ∧ s.W ≤ s.M
  q_lt : ∀ w ∈ s.ws, ∀ a ∈ w.q, a < s.M

@[simp] theorem rotApi_living (k : Nat) (s : Api) : (rotApi k s).living = s.living := by
  unfold Api.living rotApi
  simp only [List.filter_map, List.length_map]
  rfl

@[simp] theorem rotApi_ws_length (k : Nat) (s : Api) : (rotApi k s).ws.length = s.ws.length := by
  simp [rotApi]

theorem rotApi_ws_getElem? (k : Nat) (s : Api) (i : Nat) :
    (rotApi k s).ws[i]? = (s.ws[i]?).map (rotSW s.M k) := List.getElem?_map ..

@[simp] theorem rotApi_finished (k : Nat) (s : Api) : (rotApi k s).finished = s.finished := by
  unfold Api.finished
  rw [rotApi_living, rotApi_ws_length]
  rfl

theorem Api.WFs.set {s : Api} (h : s.WFs) (c : Core) (hc : c.length = s.M) (i : Nat) (w : SW)
    (hq : ∀ a ∈ w.q, a < s.M) : ({ s with core := c, ws := s.ws.set i w } : Api).WFs := by
  refine ⟨hc, h.hM, h.hR, h.hW, fun w' hw' a ha => ?_⟩
  rcases List.mem_or_eq_of_mem_set hw' with h1 | rfl
  · exact h.q_lt w' h1 a ha
  · exact hq a ha

theorem WFs_turn (s : Api) (h : s.WFs) (i : Nat) : (s.turn i).1.WFs := by
  rcases s.turn_cases i with e | ⟨w, hw, -, ⟨-, e⟩ | ⟨pc, rest, hq, e⟩⟩ <;> rw [e]
  · exact h
  · exact h.set s.core h.len i _ (h.q_lt w (List.mem_of_getElem? hw))
  · refine h.set _ ((step_length ..).trans h.len) i _ (fun a ha => ?_)
    rcases enqueue_mem _ _ _ a ha with h1 | h1
    · exact h.q_lt w (List.mem_of_getElem? hw) a (by rw [hq]; exact List.mem_cons_of_mem _ h1)
    · exact succ_lt _ _ _ _ _ h.hM a h1

theorem WFs_turns (is : List Nat) (s : Api) (h : s.WFs) : (s.turns is).1.WFs := by
  induction is generalizing s with
  | nil => exact h
  | cons i is ih =>
    rw [Api.turns_cons_fst]
    split
    · exact WFs_turn s h i
    · exact ih _ (WFs_turn s h i)

theorem WFs_cycle (s : Api) (h : s.WFs) : s.cycle.1.WFs := by
  unfold Api.cycle
  split
  · exact h
  · simp only
    have h' := WFs_turns (List.range s.ws.length) s h
    split
    · exact h'
    · exact ⟨h'.len, h'.hM, h'.hR, h'.hW, h'.q_lt⟩

theorem WFs_run (fuel : Nat) (s : Api) (h : s.WFs) : (s.run fuel).1.WFs := by
  induction fuel generalizing s with
  | zero => exact h
  | succ fuel ih =>
    unfold Api.run
    split
    · exact h
    · exact ih _ (WFs_cycle s h)

/-- program counters and touched cells are shifted; the (ascending) list of changed cells is the
    shifted set, listed ascending again -/
def Ev.shift (M k : Nat) : Ev → Ev
  | .exec wi pc changed touch =>
    .exec wi ((pc + k) % M) ((List.range M).filter (fun a => decide (unsh M k a ∈ changed)))
      (touch.map (fun a => (a + k) % M))
  | .taskDied wi pc => .taskDied wi ((pc + k) % M)
  | .warriorDied wi pc => .warriorDied wi ((pc + k) % M)

theorem changed_rotate {M : Nat} (k : Nat) (c c' : Core) (hc : c.length = M) (hc' : c'.length = M) :
    (List.range M).filter (fun a => (rot k c).at a != (rot k c').at a)
      = (List.range M).filter (fun a => decide (unsh M k a ∈
          (List.range M).filter (fun b => c.at b != c'.at b))) := by
  apply List.filter_congr
  intro a ha
  rw [List.mem_range] at ha
  rw [rot_at_lt k c (hc ▸ ha), rot_at_lt k c' (hc' ▸ ha), hc, hc']
  simp only [List.mem_filter, List.mem_range, unsh_lt (Nat.zero_lt_of_lt ha), true_and,
    Bool.decide_eq_true]

theorem mayTouch_rotate {M : Nat} (R W : Nat) (k : Nat) (c : Core) (hc : c.length = M)
    {pc : Nat} (hpc : pc < M) :
    mayTouch M R W (rot k c) ((pc + k) % M) = (mayTouch M R W c pc).map (fun a => (a + k) % M) := by
  obtain ⟨e1, e2, e3, e4, -, -, -⟩ := operands_rotate R W k c hc hpc
  unfold mayTouch
  simp only [e1, e2, e3, e4, Operand.rot, add_shift M pc k, List.map_append, Option.toList_map,
    Option.map_map, List.map_map, apply_ite (List.map _), List.map_cons, List.map_nil]
  rfl

theorem turn_rotate_ev (k : Nat) (s : Api) (h : s.WFs) (i : Nat) :
    (rotApi k s).turn i = (rotApi k (s.turn i).1, (s.turn i).2.map (Ev.shift s.M k)) := by
  have hws := rotApi_ws_getElem? k s i
  cases hw : s.ws[i]? with
  | none =>
    unfold Api.turn
    rw [hws, hw]
    rfl
  | some w =>
    rw [hw] at hws
    by_cases hst : w.st = .alive
    · cases hq : w.q with
      | nil =>
        rw [Api.turn_stuck _ i _ hws hst (by simp [rotSW, hq]), Api.turn_stuck s i w hw hst hq]
        simp only [rotApi, List.map_set]
        rfl
      | cons pc rest =>
        have hpc : pc < s.M := h.q_lt w (List.mem_of_getElem? hw) pc (by simp [hq])
        have hq' : (rotSW s.M k w).q = ((pc + k) % s.M) :: rest.map (fun a => (a + k) % s.M) := by
          simp [rotSW, hq]
        rw [Api.turn_alive _ i _ hws hst _ _ hq', Api.turn_alive s i w hw hst pc rest hq]
        have hchg := changed_rotate k s.core (step s.M s.R s.W s.core pc).core h.len
          ((step_length ..).trans h.len)
        unfold Core.at at hchg
        unfold Api.turned Api.turnEvs
        simp only [rotApi, step_rotate s.R s.W k s.core h.len hpc,
          mayTouch_rotate s.R s.W k s.core h.len hpc, hchg, enqueue_map, List.isEmpty_map,
          List.map_append, List.map_cons, List.map_nil, apply_ite (List.map (Ev.shift s.M k)),
          Ev.shift, List.map_set]
        rfl
    · rw [Api.turn_skip _ i _ hws hst, Api.turn_skip s i w hw hst]
      rfl

theorem turns_rotate_ev (k : Nat) (is : List Nat) (s : Api) (h : s.WFs) :
    (rotApi k s).turns is
      = (rotApi k (s.turns is).1, (s.turns is).2.1.map (Ev.shift s.M k), (s.turns is).2.2) := by
  induction is generalizing s with
  | nil => rfl
  | cons i is ih =>
    unfold Api.turns
    simp only
    rw [turn_rotate_ev k s h i]
    simp only [rotApi_living, rotApi_ws_length]
    split
    · rfl
    · rw [ih _ (WFs_turn s h i), (s.turn_sameSig i).M]
      simp only [List.map_append]

theorem cycle_rotate_ev (k : Nat) (s : Api) (h : s.WFs) :
    (rotApi k s).cycle = (rotApi k s.cycle.1, s.cycle.2.1.map (Ev.shift s.M k), s.cycle.2.2) := by
  unfold Api.cycle
  rw [rotApi_finished, rotApi_ws_length]
  split
  · rfl
  · simp only
    rw [turns_rotate_ev k _ s h]
    simp only [rotApi_living]
    split <;> rfl

theorem run_rotate_ev (k : Nat) (fuel : Nat) (s : Api) (h : s.WFs) :
    (rotApi k s).run fuel = (rotApi k (s.run fuel).1, (s.run fuel).2.map (Ev.shift s.M k)) := by
  induction fuel generalizing s with
  | zero => rfl
  | succ fuel ih =>
    unfold Api.run
    rw [rotApi_finished]
    split
    · rfl
    · simp only
      rw [cycle_rotate_ev k s h]
      simp only
      rw [ih _ (WFs_cycle s h), s.cycle_sameSig.M]
      simp only [List.map_append]

theorem cycle_rotate (k : Nat) (s : Api) (h : s.WFs) :
    ((rotApi k s).cycle).1 = rotApi k s.cycle.1 ∧
    ((rotApi k s).cycle).2.2 = s.cycle.2.2 := by
  rw [cycle_rotate_ev k s h]
  exact ⟨rfl, rfl⟩

theorem run_rotate (k : Nat) (fuel : Nat) (s : Api) (h : s.WFs) :
    ((rotApi k s).run fuel).1 = rotApi k (s.run fuel).1 := by
  rw [run_rotate_ev k fuel s h]

theorem spawn_rotate (k : Nat) (s : Api) (h : s.WFs) (i : Int) (off : Nat) :
    (rotApi k s).spawn i ((off + k) % s.M) = (s.spawn i off).map (rotApi k) := by
  unfold Api.spawn
  split
  · rfl
  · rw [rotApi_ws_getElem?]
    cases s.ws[i.toNat]? with
    | none => rfl
    | some w =>
      simp only [Option.map_some, rotSW]
      split
      · rfl
      · simp only [Option.map_some, rotApi, rotSW, loadAt_rotate k s.core h.len h.hM,
          add_shift s.M off k, ← enqueue_map, List.map_nil, List.map_cons, List.map_set]

theorem WFs_spawn (s s' : Api) (h : s.WFs) (i : Int) (off : Nat) (hs : s.spawn i off = some s') :
    s'.WFs := by
  obtain ⟨w, -, -, rfl⟩ := Api.spawn_some hs
  refine h.set _ ((loadAt_length ..).trans h.len) _ _ (fun a ha => ?_)
  rcases enqueue_mem _ _ _ a ha with h2 | h2
  · cases h2
  · rw [List.mem_singleton.mp h2]
    exact Nat.mod_lt _ h.hM

theorem WFs_rotApi (k : Nat) (s : Api) (h : s.WFs) : (rotApi k s).WFs := by
  refine ⟨by simp only [rotApi, rot_length]; exact h.len, h.hM, h.hR, h.hW, ?_⟩
  intro w hw a ha
  simp only [rotApi, List.mem_map] at hw
  obtain ⟨w0, -, rfl⟩ := hw
  simp only [rotSW, List.mem_map] at ha
  obtain ⟨b, -, rfl⟩ := ha
  exact Nat.mod_lt _ h.hM

theorem rot_replicate_default (k M : Nat) :
    rot k (List.replicate M (default : SInstr)) = List.replicate M default := by
  apply Core.ext (by simp)
  intro a ha
  have ha' : a < M := by simpa using ha
  have hM : 0 < M := by omega
  rw [rot_at_lt k _ (by simpa using ha'), Core.at_eq_getElem _ (by simpa using unsh_lt hM k a),
    Core.at_eq_getElem _ (by simpa using ha')]
  simp

/-- a fresh simulator has an empty core and no queues; no hypothesis -/
theorem rotApi_fresh (k M R W P C : Nat) (sig : List (List SInstr × Nat)) :
    rotApi k (Spec.Api.freshWith M R W P C sig) = Spec.Api.freshWith M R W P C sig := by
  rw [Api.freshWith_eq]
  simp only [rotApi, rot_replicate_default, List.map_map]
  congr 1

end Gmars.Spec
