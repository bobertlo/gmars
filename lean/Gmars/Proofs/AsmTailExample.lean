/-
  The hypotheses of `assemble_meaning_equ_tail` are satisfiable: a program whose END line carries
  two labels, one of them used as an operand, from bytes, in an odd spacing:

      "a jmp last\n\tdat  last\nlast   fin\tend a\n"

  `last` and `fin` are 2 (the number of instructions): `jmp last` on line 0 is `jmp 2`, `dat last`
  on line 1 is `dat 1`; the entry point is `a` = 0 (what `Spec.meaningFlatT` gives; `example_assemble`
  states agreement with it and does not evaluate it).
-/
import Gmars.Proofs.AsmTailCompose
import Gmars.Proofs.EquExample
import Gmars.Proofs.AsmComposeEquCheck

namespace Gmars.AsmTail.Example
open Gmars.Render Gmars.AsmLine Gmars.AsmCompose Gmars.AsmComposeEqu
open Gmars.AsmLine.EquExample

open Spec.ETok in
def progT : TProg :=
  { items := [
      .instr [("a", false)] "jmp" none ⟨none, [name "last"]⟩ none 0,
      .instr [] "dat" none ⟨none, [name "last"]⟩ none 0 ],
    tail := ["last", "fin"], kw := "end", e := some [name "a"] }

def idw (s : String) : Word :=
  match s.toList with
  | c :: cs => .ident c cs
  | [] => .sym ' '

def lsT : List SrcLine := [
  { words := [(idw "a", " ".toList), (idw "jmp", " ".toList), (idw "last", [])] },
  { lead := "\t".toList, words := [(idw "dat", "  ".toList), (idw "last", [])] },
  { words := [(idw "last", "   ".toList), (idw "fin", "\t".toList), (idw "end", " ".toList),
              (idw "a", [])] } ]

theorem lsT_text : String.ofList (renderLines lsT) = "a jmp last\n\tdat  last\nlast   fin\tend a\n" := by
  decide +kernel

theorem lsT_ok : (∀ l ∈ lsT, l.ok (some '\n') = true) ∧ SameLines lsT progT.srcLines ∧
    ∀ c ∈ renderLines lsT, c.toNat < 128 := by decide +kernel

theorem example_assemble :
    assemble cfgE (asciiBytes (renderLines lsT)) =
      match Spec.meaningFlatT scE (progT.xitems.map XItem.toItem) progT.tail with
      | some m => .ok (toWD progT.meta m)
      | none => .err := by
  have ht := EProg.linesB_sound (p := progT.base) (by decide +kernel)
  have hr := rankB_sound (tab := xequs progT.body ++ Spec.predefined scE) (by decide +kernel)
  rw [assemble_meaning_equ_tail_ascii cfgE scE progT _ cfgE_valid cfgE_size cfgE_rel ⟨ht.1, by decide⟩
    ht.2.1 (by decide) ht.2.2 (by decide) (by decide) (by decide) hr.1 hr.2
    (xprogWFB_sound (la := assertB fun _ => emptySrcLine) assertB_sound (by decide +kernel))
    lsT lsT_ok.1 lsT_ok.2.1 lsT_ok.2.2]
  -- the two `match`es are different constants: `rfl` alone would evaluate the reference
  cases Spec.meaningFlatT scE _ progT.tail <;> rfl

end Gmars.AsmTail.Example
