/-
  C09, loader half, layout perturbations, one line at a time. The reader looks at a raw line only
  through
    * its first character (a `;` makes it a comment / metadata line), and
    * `lowerOf raw = toLower (raw.takeWhile (· != ';'))`, of which it takes `fields ∘ replaceComma`
      and "contains a comma" (`lineOf_eq`).
  Hence a trailing comment, trailing white space (a CR before the LF) and a missing LF do not
  change what a line is read as (`lineOf_body`; letter case goes with `toLower_recase`), and
  white-space-only lines, indented comments and full-line comments are skipped, the latter
  through `metaLine` (`lineOf_filler`).
  What the skipped lines do to name, author and strategy is a function of the raw line alone:
  `Meta.step` on the triple `Meta` (`metaOf_stepMeta`; `metaOf` forgets the rest of the reader's
  state).  A `PlainLine` leaves the triple alone; `meta_step_name`, `_author`, `_strategy` say what
  the three keyword lines do.
-/
import Gmars.Proofs.RoundTripA

namespace Gmars.LoadLayout
open Gmars.GoStr Gmars.RoundTrip

/-- the canonical words `MOV.AB`, `ORG`, `END` are upper case, so lowering under a mask reaches
    every upper/lower-case spelling -/
def recase : List Bool → Str → Str
  | b :: m, c :: w => (if b then lowerChar c else c) :: recase m w
  | _, w => w

theorem recase_nil (w : Str) : recase [] w = w := by cases w <;> rfl

theorem toLower_recase (m : List Bool) (w : Str) : toLower (recase m w) = toLower w := by
  induction w generalizing m with
  | nil => cases m <;> rfl
  | cons c w ih =>
    cases m with
    | nil => rfl
    | cons b m =>
      have := ih m
      unfold toLower at this ⊢
      cases b
      · simp only [recase, Bool.false_eq_true, if_false, List.map_cons, this]
      · simp only [recase, if_true, List.map_cons, this, lowerChar_idem]

theorem recase_ascii (mask : List Bool) (l : Str) (h : ∀ c ∈ l, c.toNat < 128) :
    ∀ c ∈ recase mask l, c.toNat < 128 := by
  induction l generalizing mask with
  | nil => cases mask <;> exact h
  | cons c cs ih =>
    cases mask with
    | nil => exact h
    | cons b bs =>
      intro x hx
      simp only [recase, List.mem_cons] at hx
      rcases hx with rfl | hx
      · cases b
        · simpa using h c (by simp)
        · simpa using lowerChar_toNat_lt (h c (by simp))
      · exact ih bs (fun y hy => h y (by simp [hy])) x hx

theorem recase_append (m : List Bool) (a b : Str) :
    recase m (a ++ b) = recase (m.take a.length) a ++ recase (m.drop a.length) b := by
  induction a generalizing m with
  | nil => simp [recase_nil]
  | cons c a ih =>
    cases m with
    | nil => simp [recase_nil]
    | cons x m =>
      simp only [List.cons_append, recase, List.length_cons, List.take_succ_cons,
        List.drop_succ_cons, ih m]

theorem recase_empty (m : List Bool) : recase m [] = [] := by cases m <;> rfl

theorem recase_take (m : List Bool) (w : Str) : recase (m.take w.length) w = recase m w := by
  have := recase_append m w []
  rw [List.append_nil, recase_empty, List.append_nil] at this
  exact this.symm

theorem recase_dot (m : List Bool) (b : Str) : recase m ('.' :: b) = '.' :: recase m.tail b := by
  cases m with
  | nil => simp [recase_nil]
  | cons x m =>
    cases x
    · rfl
    · simp only [recase, if_true, List.tail_cons]
      congr 1

theorem _root_.Gmars.RoundTrip.Word.recase {w : Str} (h : Word w) (mask : List Bool) :
    Word (recase mask w) := by
  induction w generalizing mask with
  | nil => exact absurd rfl h.1
  | cons c w ih =>
    cases mask with
    | nil => exact h
    | cons b m =>
      refine ⟨List.cons_ne_nil _ _, List.forall_mem_cons.2 ⟨?_, ?_⟩⟩
      · have := h.2 c (List.mem_cons_self ..)
        cases b
        · exact this
        · exact this.lower
      · cases w with
        | nil => cases m <;> exact nofun
        | cons d w => exact (ih ⟨List.cons_ne_nil _ _, fun x hx => h.2 x (List.mem_cons_of_mem _ hx)⟩ m).2

def TailOK (T : Str) : Prop := AllSpace T ∨ ∃ r, T = ';' :: r

theorem takeWhile_semi_append (B r : Str) (hB : ∀ c ∈ B, c ≠ ';') :
    (B ++ ';' :: r).takeWhile (· != ';') = B := by
  rw [List.takeWhile_append_of_pos (by intro c hc; simp [hB c hc])]
  simp

theorem lowerOf_tail (B T : Str) (hB : ∀ c ∈ B, c ≠ ';') (hT : TailOK T) :
    ∃ ws, AllSpace ws ∧ lowerOf (B ++ T) = toLower B ++ ws := by
  rcases hT with hT | ⟨r, rfl⟩
  · refine ⟨T, hT, ?_⟩
    unfold lowerOf
    rw [takeWhile_ne_self ';' (B ++ T), toLower_append, toLower_allSpace hT]
    intro c hc
    rcases List.mem_append.1 hc with hc | hc
    · exact hB c hc
    · exact allSpace_ne hT (by decide) c hc
  · refine ⟨[], allSpace_nil, ?_⟩
    unfold lowerOf
    rw [takeWhile_semi_append B r hB, List.append_nil]

theorem key_tail (B T : Str) (hB : ∀ c ∈ B, c ≠ ';') (hT : TailOK T) :
    fieldsOf (B ++ T) = fields (replaceComma (toLower B)) ∧
      commaOf (B ++ T) = containsChar (toLower B) ',' := by
  obtain ⟨ws, hws, e⟩ := lowerOf_tail B T hB hT
  rw [fieldsOf, commaOf, e, replaceComma_append, replaceComma_allSpace hws,
    fields_append_space _ _ hws, contains_append_space _ _ hws]
  exact ⟨rfl, rfl⟩

theorem head_append_ne_semi {B T : Str} (hne : B ≠ []) (hB : ∀ c ∈ B, c ≠ ';') :
    ((B ++ T).head? == some ';') = false := by
  cases B with
  | nil => exact absurd rfl hne
  | cons c r =>
    have := hB c (by simp)
    simp [this]

theorem lineOf_body (legacy : Bool) (M : UInt64) (st : LoadState) {B T : Str} (hne : B ≠ [])
    (hB : ∀ c ∈ B, c ≠ ';') (hT : TailOK T) :
    lineOf legacy M st (B ++ T) =
      (readAct legacy M st.code.size (fields (replaceComma (toLower B)))
        (containsChar (toLower B) ',')).map st.act := by
  have k := key_tail B T hB hT
  rw [lineOf_eq, head_append_ne_semi hne hB, k.1, k.2]
  rfl

section
variable {g : Gaps} {tok A B : Str} (am bm : Mode) {d : DirGaps} {kw N : Str}

theorem head_itext (h : Spelt g tok A B) (T : Str) :
    ((itext g tok am A bm B ++ T).head? == some ';') = false :=
  head_append_ne_semi (itext_ne_nil am bm h.B) fun c hc => (itext_plain am bm h comma_one c hc).1

theorem head_dtext (hd : d.ok) (hk : Word kw) (hN : Word N) (T : Str) :
    ((dtext d kw N ++ T).head? == some ';') = false :=
  head_append_ne_semi (dtext_ne_nil hN) fun c hc => (dtext_plain hd hk hN c hc).1

theorem lineOf_itext (legacy : Bool) (M : UInt64) (st : LoadState) (h : Spelt g tok A B) {T : Str}
    (hT : TailOK T) :
    lineOf legacy M st (itext g tok am A bm B ++ T) =
      (readAct legacy M st.code.size [toLower tok, [am.sym], toLower A, [bm.sym], toLower B]
        true).map st.act := by
  rw [lineOf_body legacy M st (itext_ne_nil am bm h.B)
      (fun c hc => (itext_plain am bm h comma_one c hc).1) hT,
    fields_norm_itext am bm h comma_one
      (List.append_ne_nil_of_left_ne_nil (List.append_ne_nil_of_right_ne_nil _ (List.cons_ne_nil _ _)) _),
    lower_has_comma (comma_mem_itext am bm)]

theorem lineOf_dtext (legacy : Bool) (M : UInt64) (st : LoadState) (hd : d.ok) (hk : Word kw)
    (hN : Word N) {T : Str} (hT : TailOK T) :
    lineOf legacy M st (dtext d kw N ++ T) =
      (readAct legacy M st.code.size [toLower kw, toLower N]
        (containsChar (toLower (dtext d kw N)) ',')).map st.act := by
  rw [lineOf_body legacy M st (dtext_ne_nil hN) (fun c hc => (dtext_plain hd hk hN c hc).1) hT,
    fields_norm_dtext hd hk hN]

end

def stepMeta (st : LoadState) (raw : Str) : LoadState :=
  if raw.head? == some ';' then metaLine st raw (toLower raw) else st

theorem key_blank (ws T : Str) (hws : AllSpace ws) (hT : TailOK T) :
    fieldsOf (ws ++ T) = [] ∧ commaOf (ws ++ T) = false := by
  have k := key_tail ws T (allSpace_ne hws (by decide)) hT
  rw [k.1, k.2, toLower_allSpace hws, replaceComma_allSpace hws, fields_allSpace hws]
  exact ⟨rfl, by simp only [containsChar, List.contains_eq_mem, comma_not_mem hws, decide_false]⟩

theorem lineOf_filler (legacy : Bool) (M : UInt64) (st : LoadState) {ws T : Str} (hws : AllSpace ws)
    (hT : TailOK T) : lineOf legacy M st (ws ++ T) = .ok (.cont (stepMeta st (ws ++ T))) := by
  rw [lineOf_eq, stepMeta]
  split
  · rfl
  · have k := key_blank ws T hws hT
    rw [k.1, k.2]
    cases legacy <;> rfl

theorem stepMeta_of_head {st : LoadState} {raw : Str} (h : (raw.head? == some ';') = false) :
    stepMeta st raw = st := by
  simp [stepMeta, h]

structure Meta where
  name : Str := "Unknown".toList
  author : Str := "Anonymous".toList
  strategy : Str := []
  deriving DecidableEq, Repr

/-- `metaLine` (the `;name` / `;author` / `;strategy` branch of load.go) on the triple alone; `raw`
    comes with its line end.  The keywords are matched as prefixes of the lower-cased line;
    `;strategy` drops one character behind the keyword, whatever it is, and keeps the line end -/
def Meta.step (m : Meta) (raw : Str) : Meta :=
  if hasPrefix (toLower raw) ";name".toList then { m with name := trimSpace (raw.drop 5) }
  else if hasPrefix (toLower raw) ";author".toList then { m with author := trimSpace (raw.drop 7) }
  else if hasPrefix (toLower raw) ";strategy".toList && raw.length > 10 then
    { m with strategy := m.strategy ++ raw.drop 10 }
  else m

def metaOf (st : LoadState) : Meta := ⟨st.name, st.author, st.strategy⟩

theorem hasPrefix_semi {raw p : Str} (h : (raw.head? == some ';') = false)
    (hp : p.head? = some ';') : hasPrefix (toLower raw) p = false := by
  cases p with
  | nil => cases hp
  | cons x p =>
    cases hp
    cases raw with
    | nil => rfl
    | cons c r =>
      have hc : (c == ';') = false := by simpa using h
      simp only [hasPrefix, toLower, List.map_cons, List.isPrefixOf_cons_cons]
      rw [show (';' == lowerChar c) = (lowerChar c == ';') from Bool.beq_comm ..,
        lowerChar_beq c (by decide), hc, Bool.false_and]

theorem isPrefixOf_append_single (p c : Str) (x : Char) (hx : x ∉ p) :
    p.isPrefixOf (c ++ [x]) = p.isPrefixOf c := by
  rw [Bool.eq_iff_iff, List.isPrefixOf_iff_prefix, List.isPrefixOf_iff_prefix, List.prefix_concat_iff]
  exact ⟨fun h => h.resolve_left fun e => hx (e ▸ List.mem_concat_self), .inr⟩

theorem hasPrefix_lineEnd (c p : Str) (hp : '\n' ∉ p) :
    hasPrefix (toLower (c ++ ['\n'])) p = hasPrefix (toLower c) p := by
  rw [toLower_append]
  exact isPrefixOf_append_single p (toLower c) '\n' hp

/-- `c` is without its line end; `;redcode-94`, `; text`, blank lines and indented comments are
    all plain -/
def PlainLine (c : Str) : Prop :=
  hasPrefix (toLower c) ";name".toList = false ∧ hasPrefix (toLower c) ";author".toList = false ∧
    hasPrefix (toLower c) ";strategy".toList = false

theorem meta_step_of_plain {m : Meta} {c : Str} (h : PlainLine c) : m.step c = m := by
  simp only [Meta.step, h.1, h.2.1, h.2.2, Bool.false_eq_true, if_false, Bool.false_and]

theorem meta_step_plain {m : Meta} {c e : Str} (h : PlainLine c) (he : e = [] ∨ e = ['\n']) :
    m.step (c ++ e) = m := by
  rcases he with rfl | rfl
  · rw [List.append_nil]
    exact meta_step_of_plain h
  · refine meta_step_of_plain ⟨?_, ?_, ?_⟩
    · exact (hasPrefix_lineEnd c _ (by decide)).trans h.1
    · exact (hasPrefix_lineEnd c _ (by decide)).trans h.2.1
    · exact (hasPrefix_lineEnd c _ (by decide)).trans h.2.2

theorem plain_of_head {c : Str} (h : (c.head? == some ';') = false) : PlainLine c :=
  ⟨hasPrefix_semi h rfl, hasPrefix_semi h rfl, hasPrefix_semi h rfl⟩

theorem metaOf_stepMeta (st : LoadState) (raw : Str) :
    metaOf (stepMeta st raw) = (metaOf st).step raw ∧ (stepMeta st raw).code = st.code ∧
      (stepMeta st raw).start = st.start := by
  unfold stepMeta
  split
  · refine ⟨?_, (metaLine_code _ _ _).1, (metaLine_code _ _ _).2⟩
    unfold metaLine Meta.step
    simp only [apply_ite metaOf]
    rfl
  · rename_i h
    exact ⟨(meta_step_of_plain (plain_of_head (by simpa using h))).symm, rfl, rfl⟩

theorem isPrefixOf_append_left {p a b : Str} (h : p.length ≤ a.length) :
    p.isPrefixOf (a ++ b) = p.isPrefixOf a := by
  rw [Bool.eq_iff_iff, List.isPrefixOf_iff_prefix, List.isPrefixOf_iff_prefix]
  exact ⟨fun hp => List.prefix_of_prefix_length_le hp (List.prefix_append a b) h,
    fun hp => hp.trans (List.prefix_append a b)⟩

theorem hasPrefix_kw {kw k : Str} (hk : toLower kw = k) (x p : Str) {b : Bool}
    (hl : p.length ≤ k.length) (hb : p.isPrefixOf k = b) :
    hasPrefix (toLower (kw ++ x)) p = b := by
  subst hk
  rw [toLower_append]
  exact (isPrefixOf_append_left hl).trans hb

theorem kw_length {kw k : Str} (hk : toLower kw = k) : kw.length = k.length := by
  rw [← hk]; simp [toLower]

theorem meta_step_name (m : Meta) (kw x : Str) (hk : toLower kw = ";name".toList) :
    m.step (kw ++ x) = { m with name := trimSpace x } := by
  have hl : kw.length = 5 := kw_length hk
  have hp := hasPrefix_kw hk x ";name".toList (b := true) (by decide) (by decide)
  have hd : (kw ++ x).drop 5 = x := by rw [← hl]; simp
  simp only [Meta.step, hp, if_true, hd]

theorem meta_step_author (m : Meta) (kw x : Str) (hk : toLower kw = ";author".toList) :
    m.step (kw ++ x) = { m with author := trimSpace x } := by
  have hl : kw.length = 7 := kw_length hk
  have hp := hasPrefix_kw hk x ";author".toList (b := true) (by decide) (by decide)
  have hn := hasPrefix_kw hk x ";name".toList (b := false) (by decide) (by decide)
  have hd : (kw ++ x).drop 7 = x := by rw [← hl]; simp
  simp only [Meta.step, hp, hn, Bool.false_eq_true, if_false, if_true, hd]

/-- `x` includes the line end: `;strategy` + LF changes nothing, `;strategy` + blank + LF appends
    the LF (`len(raw_line) > 10` in load.go) -/
theorem meta_step_strategy (m : Meta) (kw : Str) (sep : Char) (x : Str)
    (hk : toLower kw = ";strategy".toList) :
    m.step (kw ++ sep :: x) = if x = [] then m else { m with strategy := m.strategy ++ x } := by
  have hl : kw.length = 9 := kw_length hk
  have hp := hasPrefix_kw hk (sep :: x) ";strategy".toList (b := true) (by decide) (by decide)
  have hn := hasPrefix_kw hk (sep :: x) ";name".toList (b := false) (by decide) (by decide)
  have ha := hasPrefix_kw hk (sep :: x) ";author".toList (b := false) (by decide) (by decide)
  have hd : (kw ++ sep :: x).drop 10 = x := by
    rw [show (10 : Nat) = kw.length + 1 by omega, List.drop_append]; simp
  have hlen : (kw ++ sep :: x).length = 10 + x.length := by
    simp only [List.length_append, List.length_cons, hl]; omega
  simp only [Meta.step, hp, hn, ha, Bool.false_eq_true, if_false, Bool.true_and, hd, hlen]
  cases x with
  | nil => simp
  | cons y x => simp

end Gmars.LoadLayout
