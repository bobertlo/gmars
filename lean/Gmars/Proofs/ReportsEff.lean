/-
  C15, model level: the exact effect of every phase of `exec` on the log, the
  core and the queue of the executing warrior.

  `Eff wi s s' L p pend` says: `s'` is `s` with the reports `L` appended, every
  core cell that differs is named in a write / increment / decrement report of
  `L` or is listed in `pend` (cells already changed whose report is still to be
  appended), and the queue of warrior `wi` was pushed onto (`p = true`) or is
  untouched (`p = false`).  `L` is written out, phase by phase, as a function of the
  values the task computes (`preRep`, `postRep`, `opReports`); the properties read it
  through `namedOf` (which cells) and `endOf` (does the task end).

  Everything here is partial correctness (`Post`): no hypothesis on the core
  size, the limits or well-formedness is needed.
-/
import Gmars.Proofs.RefineMem
import Gmars.Proofs.ExecForm

namespace Gmars

def namedOf (L : List Report) : List Nat :=
  (L.filter (fun r => r.typ = .write ∨ r.typ = .increment ∨ r.typ = .decrement)).map (·.addr.toNat)

theorem mem_namedOf {L : List Report} {a : Nat} :
    a ∈ namedOf L ↔
      ∃ r ∈ L, (r.typ = .write ∨ r.typ = .increment ∨ r.typ = .decrement) ∧ r.addr.toNat = a := by
  simp only [namedOf, List.mem_map, List.mem_filter, decide_eq_true_eq, and_assoc]

theorem namedOf_append (L1 L2 : List Report) : namedOf (L1 ++ L2) = namedOf L1 ++ namedOf L2 := by
  simp only [namedOf, List.filter_append, List.map_append]

def QR (p : Bool) (q q' : PQ) : Prop :=
  q'.size = q.size ∧ q.length ≤ q'.length ∧
    (p = true → q.length < q.size → q.length < q'.length) ∧ (p = false → q' = q)

theorem QR.refl (q : PQ) : QR false q q :=
  ⟨rfl, UInt64.le_refl _, fun h => (by cases h), fun _ => rfl⟩

theorem QR.trans {p1 p2 : Bool} {q q1 q2 : PQ} (h1 : QR p1 q q1) (h2 : QR p2 q1 q2) :
    QR (p1 || p2) q q2 := by
  obtain ⟨a1, a2, a3, a4⟩ := h1
  obtain ⟨b1, b2, b3, b4⟩ := h2
  refine ⟨b1.trans a1, UInt64.le_trans a2 b2, ?_, ?_⟩
  · intro hp hroom
    cases p1
    · have e := a4 rfl
      subst e
      exact b3 (by simpa using hp) hroom
    · exact UInt64.lt_of_lt_of_le (a3 rfl hroom) b2
  · intro hp
    simp only [Bool.or_eq_false_iff] at hp
    rw [b4 hp.2, a4 hp.1]

theorem PQ.push_QR (q : PQ) (a : UInt64) : Post (q.push a) (QR true q) := by
  unfold PQ.push
  split
  · rename_i hfull
    exact Post.ok ⟨rfl, UInt64.le_refl _, fun _ hroom => absurd hroom (UInt64.not_lt.mpr hfull),
      fun h => by cases h⟩
  · rename_i hroom
    have hgrow : q.length < q.length + 1 := by
      have h64 := q.size.toNat_lt
      rw [UInt64.not_le, UInt64.lt_iff_toNat_lt] at hroom
      rw [UInt64.lt_iff_toNat_lt, UInt64.toNat_add, UInt64.toNat_one, Nat.mod_eq_of_lt (by omega)]
      omega
    split
    · exact Post.ok ⟨rfl, UInt64.le_of_lt hgrow, fun _ _ => hgrow, fun h => by cases h⟩
    · exact Post.error

structure Eff (wi : Nat) (s s' : Sim) (L : List Report) (p : Bool) (pend : List Nat) : Prop where
  log   : s'.log.toList = s.log.toList ++ L
  m     : s'.m = s.m
  rl    : s'.readLimit = s.readLimit
  wl    : s'.writeLimit = s.writeLimit
  size  : s'.mem.size = s.mem.size
  chg   : ∀ a, s'.mem[a]? ≠ s.mem[a]? → a ∈ namedOf L ∨ a ∈ pend
  queue : ∀ q, s.pqOf wi = some q → ∃ q', s'.pqOf wi = some q' ∧ QR p q q'

section eff
variable {wi : Nat} {s s1 s2 s' : Sim}

theorem Eff.refl (wi : Nat) (s : Sim) {pend : List Nat} : Eff wi s s [] false pend where
  log := by simp
  m := rfl
  rl := rfl
  wl := rfl
  size := rfl
  chg := fun a h => absurd rfl h
  queue := fun q hq => ⟨q, hq, QR.refl q⟩

theorem Eff.trans {L1 L2 : List Report} {p1 p2 : Bool} {pend1 pend2 : List Nat}
    (h1 : Eff wi s s1 L1 p1 pend1) (h2 : Eff wi s1 s2 L2 p2 pend2) :
    Eff wi s s2 (L1 ++ L2) (p1 || p2) (pend1 ++ pend2) where
  log := by rw [h2.log, h1.log, List.append_assoc]
  m := h2.m.trans h1.m
  rl := h2.rl.trans h1.rl
  wl := h2.wl.trans h1.wl
  size := h2.size.trans h1.size
  chg := by
    intro a ha
    rw [namedOf_append, List.mem_append, List.mem_append]
    by_cases e : s1.mem[a]? = s.mem[a]?
    · rw [← e] at ha
      exact (h2.chg a ha).elim (fun h => Or.inl (Or.inr h)) (fun h => Or.inr (Or.inr h))
    · exact (h1.chg a e).elim (fun h => Or.inl (Or.inl h)) (fun h => Or.inr (Or.inl h))
  queue := by
    intro q hq
    obtain ⟨q1, hq1, r1⟩ := h1.queue q hq
    obtain ⟨q2, hq2, r2⟩ := h2.queue q1 hq1
    exact ⟨q2, hq2, r1.trans r2⟩

theorem Eff.pend {L : List Report} {p : Bool} {pend pend' : List Nat}
    (h : Eff wi s s' L p pend) (hpend : ∀ a ∈ pend, a ∈ namedOf L ∨ a ∈ pend') :
    Eff wi s s' L p pend' :=
  ⟨h.log, h.m, h.rl, h.wl, h.size,
    fun a ha => (h.chg a ha).elim Or.inl (hpend a), h.queue⟩

theorem Eff.seq {L1 L2 : List Report} {p1 p2 : Bool} {pend pend2 : List Nat}
    (h1 : Eff wi s s1 L1 p1 pend) (h2 : Eff wi s1 s2 L2 p2 pend2) (hsub : pend2 ⊆ pend) :
    Eff wi s s2 (L1 ++ L2) (p1 || p2) pend :=
  (h1.trans h2).pend (fun _ ha => Or.inr ((List.mem_append.mp ha).elim id (hsub ·)))

theorem eff_report (wi : Nat) (s : Sim) (r : Report) : Eff wi s (s.report r) [r] false [] where
  log := by simp [Sim.report]
  m := rfl
  rl := rfl
  wl := rfl
  size := rfl
  chg := fun a h => absurd rfl h
  queue := fun q hq => ⟨q, hq, QR.refl q⟩

theorem namedOf_rep (t : RType) (ht : t = .write ∨ t = .increment ∨ t = .decrement) (wi : Nat)
    (i : UInt64) : namedOf [rep t wi i] = [i.toNat] := by
  rcases ht with rfl | rfl | rfl <;> rfl

theorem Eff.name {L : List Report} {p : Bool} {i : UInt64} (h : Eff wi s s1 L p [i.toNat])
    (t : RType) (ht : t = .write ∨ t = .increment ∨ t = .decrement) :
    Eff wi s (s1.report (rep t wi i)) (L ++ [rep t wi i]) p [] := by
  have h2 := (h.trans (eff_report wi s1 (rep t wi i))).pend (pend' := []) (fun a ha => Or.inl ?_)
  · rwa [Bool.or_false] at h2
  · rw [List.append_nil] at ha
    rw [namedOf_append, namedOf_rep t ht]
    exact List.mem_append_right _ ha

theorem eff_upd (wi : Nat) (s : Sim) (i : UInt64) (f : Instr → Instr) :
    Post (s.upd i f) (fun s' => Eff wi s s' [] false [i.toNat]) := by
  unfold Sim.upd
  split
  · rename_i hi
    refine Post.ok ⟨by simp, rfl, rfl, rfl, by simp, fun a ha => Or.inr ?_,
      fun q hq => ⟨q, hq, QR.refl q⟩⟩
    rw [List.mem_singleton]
    exact Decidable.by_contra fun hne => ha (Array.getElem?_set_ne hi (Ne.symm hne))
  · exact Post.error

theorem eff_push (wi : Nat) (s : Sim) (a : UInt64) :
    Post (s.push wi a) (fun s' => Eff wi s s' [] true []) := by
  unfold Sim.push
  split
  · dsimp only
    split
    · exact Post.error
    · rename_i q0 hq0
      refine Post.bind (PQ.push_QR q0 a) (fun q1 hq1 => Post.ok ?_)
      refine ⟨by simp, rfl, rfl, rfl, rfl, fun _ h => absurd rfl h, ?_⟩
      intro q hq
      obtain ⟨_, hq'⟩ := pqOf_some hq
      rw [hq0] at hq'
      cases hq'
      exact ⟨q1, pqOf_setPq s wi _ q1, hq1⟩
  · exact Post.error

end eff

/-- what of a task's reports decides its fate for the scheduler: the terminate reports (and the
    `taskPop` reports, of which a task appends none) -/
def endOf (L : List Report) : List Report :=
  L.filter fun r => r.typ = .taskTerminate ∨ r.typ = .taskPop

theorem mem_endOf {L : List Report} {r : Report} :
    r ∈ endOf L ↔ r ∈ L ∧ (r.typ = .taskTerminate ∨ r.typ = .taskPop) := by
  simp only [endOf, List.mem_filter, decide_eq_true_eq]

theorem endOf_append (L1 L2 : List Report) : endOf (L1 ++ L2) = endOf L1 ++ endOf L2 :=
  List.filter_append ..

/-- the hypothesis is `endOf L` in the form in which `eff_exec` gives it -/
theorem mem_of_endOf {L : List Report} {p : Bool} {r0 r : Report}
    (h : endOf L = if p then [] else [r0]) (hr : r ∈ L)
    (ht : r.typ = .taskTerminate ∨ r.typ = .taskPop) : r = r0 ∧ p = false := by
  have hm := mem_endOf.mpr ⟨hr, ht⟩
  rw [h] at hm
  cases p
  · exact ⟨List.mem_singleton.mp hm, rfl⟩
  · cases hm

theorem endOf_mem {L : List Report} {p : Bool} {r0 : Report}
    (h : endOf L = if p then [] else [r0]) (hp : p = false) : r0 ∈ L :=
  (mem_endOf.mp (by rw [h, hp]; exact List.mem_singleton_self r0)).1

def preRep (wi : Nat) (mode : Mode) (a : UInt64) : List Report :=
  match Spec.kind mode with
  | .pre _ => [rep .decrement wi a]
  | _ => []

def postRep (wi : Nat) (mode : Mode) (a : UInt64) : List Report :=
  match Spec.kind mode with
  | .post _ => [rep .increment wi a]
  | _ => []

theorem endOf_preRep (wi : Nat) (mode : Mode) (a : UInt64) : endOf (preRep wi mode a) = [] := by
  unfold preRep
  cases Spec.kind mode <;> rfl

theorem endOf_postRep (wi : Nat) (mode : Mode) (a : UInt64) : endOf (postRep wi mode a) = [] := by
  unfold postRep
  cases Spec.kind mode <;> rfl

theorem eff_updRep (wi : Nat) (s : Sim) {i : UInt64} {f : Instr → Instr} {t : RType}
    (ht : t = .write ∨ t = .increment ∨ t = .decrement) :
    Post (do let s' ← s.upd i f; pure (s'.report (rep t wi i)))
      (fun s' => Eff wi s s' [rep t wi i] false []) :=
  (eff_upd wi s i f).map fun _ h => h.name t ht

section operands
variable (wi : Nat) (s : Sim) (pc : UInt64)

theorem eff_operand (w : Bool) (mode : Mode) (num pip0 : UInt64) :
    Post (s.operand pc wi w mode num pip0) (fun r =>
      Eff wi s r.1 (preRep wi mode ((pc + s.writeFold num) % s.m)) false []) := by
  have ind : ∀ {s1 : Sim} {f rp wp pip L}, Eff wi s s1 L false [] →
      Post (s1.indir pc w f rp wp pip) (fun r => Eff wi s r.1 L false []) := fun h1 =>
    Post.bind (Post.triv _) fun _ _ => (Post.triv _).map fun _ _ => h1
  unfold Sim.operand preRep
  cases Spec.kind mode <;> dsimp only
  case imm | dir => exact Post.ok (Eff.refl wi s)
  case ind f | post f => exact ind (Eff.refl wi s)
  case pre f =>
    exact Post.bind (eff_updRep wi s (Or.inr (Or.inr rfl))) fun _ h1 => ind h1

theorem eff_post (mode : Mode) (pip : UInt64) :
    Post (s.post wi mode pip) (fun s' => Eff wi s s' (postRep wi mode pip) false []) := by
  unfold Sim.post postRep
  cases Spec.kind mode
  case post f => exact eff_updRep wi s (Or.inr (Or.inl rfl))
  all_goals exact Post.ok (Eff.refl wi s)

end operands

section ops
variable {wi : Nat} {s s1 : Sim}

theorem eff_pushNext (wi : Nat) (s : Sim) (a : UInt64) :
    Post (s.pushNext wi a) (fun s' => Eff wi s s' [rep .taskPush wi a] true []) := by
  unfold Sim.pushNext
  exact (eff_push wi _ a).mono (fun _ h => (eff_report wi s _).trans h)

theorem eff_terminate (wi : Nat) (s : Sim) (pc : UInt64) :
    Eff wi s (s.terminate wi pc) [rep .taskTerminate wi pc] false [] :=
  eff_report wi s _

theorem eff_upds (wi : Nat) (s : Sim) (w : UInt64) (l : List (Bool × (Instr → Instr))) :
    Post (s.upds w l) (fun s' => Eff wi s s' [] false [w.toNat]) := by
  induction l generalizing s with
  | nil => exact Post.ok (Eff.refl wi s)
  | cons p l ih =>
    rw [Sim.upds_cons]
    refine Post.bind (P := fun s1 => Eff wi s s1 [] false [w.toNat])
      (Post.ite (fun _ => eff_upd wi s w p.2) (fun _ => Post.ok (Eff.refl wi s)))
      (fun s1 h1 => (ih s1).mono (fun _ h2 => h1.seq h2 (List.Subset.refl _)))

theorem Eff.next {pend : List Nat} (h1 : Eff wi s s1 [] false pend) (pc : UInt64) :
    Post (s1.pushNext wi ((pc + 1) % s1.m))
      (fun s' => Eff wi s s' [rep .taskPush wi ((pc + 1) % s.m)] true pend) := by
  rw [h1.m]
  exact (eff_pushNext wi s1 _).mono (fun _ h2 => h1.seq h2 (List.nil_subset _))

theorem Eff.pushNextAny {pend : List Nat} (h1 : Eff wi s s1 [] false pend) (a : UInt64) :
    Post (s1.pushNext wi a) (fun s' => ∃ t, Eff wi s s' [rep .taskPush wi t] true pend) :=
  (eff_pushNext wi s1 a).mono (fun _ h2 => ⟨a, h1.seq h2 (List.nil_subset _)⟩)

theorem eff_mov (wi : Nat) (s : Sim) (ir ira : Instr) (wab pc : UInt64) :
    Post (s.mov ir ira wab pc wi)
      (fun s' => Eff wi s s' [rep .taskPush wi ((pc + 1) % s.m)] true [wab.toNat]) := by
  rw [Sim.mov_eq _ _ _ _ ira ira]
  exact Post.bind (eff_upds wi s wab _) (fun _ h1 => h1.next pc)

theorem eff_arith (wi : Nat) (s : Sim) (g : UInt64 → UInt64 → UInt64) (ir ira irb : Instr)
    (wab pc : UInt64) :
    Post (s.arith g ir ira irb wab pc wi)
      (fun s' => Eff wi s s' [rep .taskPush wi ((pc + 1) % s.m)] true [wab.toNat]) := by
  rw [Sim.arith_eq]
  exact Post.bind (eff_upds wi s wab _) (fun _ h1 => h1.next pc)

/-- the divisor test of DIV / MOD (the divisor is the A-operand) -/
def dmZero (md : Modifier) (ira : Instr) : Bool :=
  match md with
  | .a | .ab => ira.a == 0
  | .b | .ba => ira.b == 0
  | .f | .i | .x => ira.a == 0 || ira.b == 0

def dmLog (z : Bool) (wi : Nat) (pc nxt : UInt64) : List Report :=
  if z then [rep .taskTerminate wi pc] else [rep .taskPush wi nxt]

theorem dmZero_eq (md : Modifier) (ira irb : Instr) :
    (arithPairsU md ira irb).all (fun p => p.2.2 != 0) = !dmZero md ira := by
  cases md <;> simp only [arithPairsU, dmZero, List.all_cons, List.all_nil, Bool.and_true, bne,
    Bool.not_or]

theorem eff_divmod (wi : Nat) (s : Sim) (g : UInt64 → UInt64 → UInt64) (ir ira irb : Instr)
    (wab pc : UInt64) :
    Post (s.divmod g ir ira irb wab pc wi)
      (fun s' => Eff wi s s' (dmLog (dmZero ir.md ira) wi pc ((pc + 1) % s.m))
        (!dmZero ir.md ira) [wab.toNat]) := by
  rw [Sim.divmod_eq, dmZero_eq]
  refine Post.bind (eff_upds wi s wab _) (fun s1 h1 => ?_)
  cases dmZero ir.md ira
  · exact Post.ite (fun _ => h1.next pc) (fun hc => absurd rfl hc)
  · exact Post.ite (fun hc => by cases hc)
      (fun _ => Post.ok (h1.seq (eff_terminate wi s1 pc) (List.nil_subset _)))

theorem eff_jmz (wi : Nat) (s : Sim) (ir irb : Instr) (rab pc : UInt64) :
    Post (s.jmz ir irb rab pc wi) (fun s' => Eff wi s s' [] true []) := by
  unfold Sim.jmz
  dsimp only
  exact Post.ite (fun _ => eff_push _ _ _) (fun _ => eff_push _ _ _)

theorem eff_jmn (wi : Nat) (s : Sim) (ir irb : Instr) (rab pc : UInt64) :
    Post (s.jmn ir irb rab pc wi) (fun s' => ∃ t, Eff wi s s' [rep .taskPush wi t] true []) := by
  unfold Sim.jmn
  dsimp only
  exact (Eff.refl wi s).pushNextAny _

theorem eff_skipIf (wi : Nat) (s : Sim) (c : Bool) (pc : UInt64) :
    Post (s.skipIf c pc wi) (fun s' => ∃ t, Eff wi s s' [rep .taskPush wi t] true []) := by
  unfold Sim.skipIf
  exact (Eff.refl wi s).pushNextAny _

theorem eff_djn (wi : Nat) (s : Sim) (ir irb : Instr) (rab wab pc : UInt64) :
    Post (s.djn ir irb rab wab pc wi)
      (fun s' => ∃ t, Eff wi s s' [rep .taskPush wi t] true [wab.toNat]) := by
  unfold Sim.djn
  apply Post.bind (P := fun r => Eff wi s r.1 [] false [wab.toNat])
  · cases ir.md <;> dsimp only
    case a | ba | b | ab => exact (eff_upd _ _ _ _).map (fun _ h1 => h1)
    case f | x | i =>
      exact Post.bind (eff_upd _ _ _ _) (fun _ h1 => (eff_upd _ _ _ _).map (fun _ h2 =>
        h1.seq h2 (List.Subset.refl _)))
  · rintro ⟨s1, nz⟩ h1
    dsimp only at h1 ⊢
    exact h1.pushNextAny _

theorem eff_reads (wi : Nat) (s : Sim) (pc rpa rpb : UInt64) :
    Eff wi s (s.reads pc rpa rpb wi)
      [rep .read wi ((pc + rpa) % s.m), rep .read wi ((pc + rpb) % s.m)] false [] := by
  unfold Sim.reads
  exact (eff_report wi s _).trans (eff_report wi _ _)

end ops

def noPush (ir ira : Instr) : Bool :=
  match ir.op with
  | .dat => true
  | .div | .mod => dmZero ir.md ira
  | _ => false

/-- The reports of the opcode phase, by opcode: `w` the write target, `n` the next instruction, `t`
    the address queued by JMN, DJN and the skips, `x`, `y` the cells the skips report as read. -/
def opReports (ir ira : Instr) (wi : Nat) (pc w n t x y : UInt64) : List Report :=
  match ir.op with
  | .dat => [rep .taskTerminate wi pc]
  | .mov | .add | .sub | .mul => [rep .taskPush wi n, rep .write wi w]
  | .div | .mod => dmLog (dmZero ir.md ira) wi pc n ++ [rep .write wi w]
  | .jmp | .jmz | .spl | .nop => []
  | .jmn => [rep .taskPush wi t]
  | .djn => [rep .taskPush wi t, rep .decrement wi w]
  | .cmp | .seq | .slt | .sne => [rep .taskPush wi t, rep .read wi x, rep .read wi y]

section opReports
variable (ir ira : Instr) (wi : Nat) (pc w n t x y : UInt64)

theorem namedOf_opReports : namedOf (opReports ir ira wi pc w n t x y) =
    if Spec.writesTarget ir.op then [w.toNat] else [] := by
  unfold opReports dmLog
  cases ir.op
  case div | mod => cases dmZero ir.md ira <;> rfl
  all_goals rfl

theorem endOf_opReports : endOf (opReports ir ira wi pc w n t x y) =
    if noPush ir ira then [rep .taskTerminate wi pc] else [] := by
  unfold opReports noPush dmLog
  cases ir.op
  case div | mod => cases dmZero ir.md ira <;> rfl
  all_goals rfl

end opReports

theorem eff_opPhase (wi : Nat) (s : Sim) (ir ira irb : Instr) (pc rpa rpb wpb : UInt64) :
    Post (s.opPhase ir ira irb pc rpa rpb wpb wi) (fun s' => ∃ t x y,
      Eff wi s s' (opReports ir ira wi pc ((pc + wpb) % s.m) ((pc + 1) % s.m) t x y)
        (!noPush ir ira) []) := by
  have rds : ∀ c, Post (do let s1 ← s.skipIf c pc wi; pure (s1.reads pc rpa rpb wi)) (fun s' =>
      ∃ t x y, Eff wi s s' [rep .taskPush wi t, rep .read wi x, rep .read wi y] true []) :=
    fun c => (eff_skipIf wi s c pc).map (fun s1 ⟨t, h1⟩ =>
      ⟨t, _, _, h1.trans (eff_reads wi s1 pc rpa rpb)⟩)
  -- with the opcode a constructor, `Sim.opPhase`, `opReports` and `noPush` compute
  obtain ⟨op, md, a, am, b, bm⟩ := ir
  cases op
  case dat => exact Post.ok ⟨0, 0, 0, eff_terminate wi s pc⟩
  case mov => exact (eff_mov wi s _ ira _ pc).map fun _ h => ⟨0, 0, 0, h.name .write (Or.inl rfl)⟩
  case add | sub | mul =>
    exact (eff_arith wi s _ _ ira irb _ pc).map fun _ h => ⟨0, 0, 0, h.name .write (Or.inl rfl)⟩
  case div | mod =>
    exact (eff_divmod wi s _ _ ira irb _ pc).map fun _ h => ⟨0, 0, 0, h.name .write (Or.inl rfl)⟩
  case jmp | nop => exact (eff_push wi s _).mono fun _ h => ⟨0, 0, 0, h⟩
  case jmz => exact (eff_jmz wi s _ irb _ pc).mono fun _ h => ⟨0, 0, 0, h⟩
  case jmn => exact (eff_jmn wi s _ irb _ pc).mono fun _ ⟨t, h⟩ => ⟨t, 0, 0, h⟩
  case djn =>
    exact (eff_djn wi s _ irb _ _ pc).map fun _ ⟨t, h⟩ =>
      ⟨t, 0, 0, h.name .decrement (Or.inr (Or.inr rfl))⟩
  case cmp | seq | sne | slt => exact rds _
  case spl =>
    exact Post.bind (eff_push wi s _) fun s1 h1 => (eff_push wi s1 _).mono fun _ h2 =>
      ⟨0, 0, 0, h1.trans h2⟩

/-- The effect of one task: every changed cell is named, and of terminate and `taskPop` reports it
    appends just the terminate report for the executed cell, exactly when nothing is pushed. -/
theorem eff_exec (wi : Nat) (s : Sim) (pc : UInt64) :
    Post (s.exec pc wi) (fun s' => ∃ L p, Eff wi s s' L p [] ∧
      endOf L = if p then [] else [rep .taskTerminate wi pc]) := by
  rw [exec_eq]
  dsimp only
  apply Post.ite
  · intro _; exact Post.error
  intro _
  apply Post.bind (Post.triv _); intro ir _
  apply Post.bind (eff_operand wi s pc false ir.am ir.a 0); rintro ⟨s1, rpa, wpa, pip⟩ h1
  dsimp only at h1 ⊢
  apply Post.bind (Post.triv _); intro ira _
  apply Post.bind (eff_post wi s1 ir.am pip); intro s2 h2
  apply Post.bind (eff_operand wi s2 pc true ir.bm ir.b pip); rintro ⟨s3, rpb, wpb, pip2⟩ h3
  dsimp only at h3 ⊢
  apply Post.bind (Post.triv _); intro irb _
  apply Post.bind (eff_post wi s3 ir.bm pip2); intro s4 h4
  refine (eff_opPhase wi s4 ir ira irb pc rpa rpb wpb).mono ?_
  rintro s' ⟨t, x, y, hop⟩
  refine ⟨_, _, (((h1.trans h2).trans h3).trans h4).trans hop, ?_⟩
  simp only [endOf_append, endOf_preRep, endOf_postRep, endOf_opReports, List.nil_append]
  cases noPush ir ira <;> rfl

theorem exec_log (s s' : Sim) (pc : UInt64) (wi : Nat) (h : s.exec pc wi = .ok s') :
    ∃ new : List Report, s'.log.toList = s.log.toList ++ new ∧ ∀ r ∈ new, r.typ ≠ .taskPop := by
  obtain ⟨L, p, he, hl⟩ := (eff_exec wi s pc).out s' h
  refine ⟨L, he.log, fun r hr ht => ?_⟩
  rw [(mem_of_endOf hl hr (Or.inr ht)).1] at ht
  cases ht

end Gmars
