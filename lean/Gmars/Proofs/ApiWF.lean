/-
  C04 / C13, the part that needs no reference: what a changed warrior entry does to `Sim.WF`
  (`Sim.WF.of_set`), creation, `AddWarrior` and `Reset` keep `WF ∧ CodeOK`, an alive warrior has a
  task to pop, and the closed form of one iteration of the warrior loop (`runWarrior_skip`,
  `runWarrior_alive`).  `SpawnWarrior`, `RunCycle` and `Run` follow in Sched and ApiRel.
-/
import Gmars.Proofs.WFExec

namespace Gmars

/-- what carries `CodeOK`, `StartsOK` and `DataRel` from `s` over to `s'` -/
structure Keep (s s' : Sim) : Prop where
  m         : s'.m = s.m
  maxCycles : s'.maxCycles = s.maxCycles
  data      : s'.warriors.map (·.data) = s.warriors.map (·.data)

theorem Keep.refl (s : Sim) : Keep s s := ⟨rfl, rfl, rfl⟩

theorem Keep.trans {s1 s2 s3 : Sim} (h : Keep s1 s2) (h' : Keep s2 s3) : Keep s1 s3 :=
  ⟨h'.m.trans h.m, h'.maxCycles.trans h.maxCycles, h'.data.trans h.data⟩

theorem Keep.wsize {s s' : Sim} (h : Keep s s') : s'.warriors.size = s.warriors.size := by
  have := congrArg Array.size h.data
  simpa only [Array.size_map] using this

theorem Keep.codeOK {s s' : Sim} (h : Keep s s') (hc : s.CodeOK) : s'.CodeOK := by
  intro i hi c hcm
  have hi' : i < s.warriors.size := by rw [← h.wsize]; exact hi
  have hd : s'.warriors[i].data = s.warriors[i].data := by
    have h1 : (s'.warriors.map (·.data))[i]'(by simpa using hi) =
        (s.warriors.map (·.data))[i]'(by simpa using hi') := by
      simp only [h.data]
    simpa only [Array.getElem_map] using h1
  rw [h.m]
  rw [hd] at hcm
  exact hc i hi' c hcm

theorem map_data_set {ws : Array Warrior} {i : Nat} {h : i < ws.size} {w' : Warrior}
    (hd : w'.data = ws[i].data) : (ws.set i w' h).map (·.data) = ws.map (·.data) := by
  rw [Array.map_set]
  simp only [hd]
  have : (ws.map (·.data))[i]'(by simpa using h) = ws[i].data := by simp only [Array.getElem_map]
  rw [← this, Array.set_getElem_self]

def isAlive (w : Warrior) : Bool := w.state == .alive

theorem Sim.aliveCount_eq (s : Sim) : s.aliveCount = s.warriors.toList.countP isAlive := by
  unfold Sim.aliveCount isAlive
  rw [List.countP_eq_length_filter]

theorem aliveCount_set (ws : Array Warrior) (i : Nat) (h : i < ws.size) (w' : Warrior) :
    ((ws.set i w' h).toList.countP isAlive : Int) =
      (ws.toList.countP isAlive : Int) - (if isAlive ws[i] then 1 else 0)
        + (if isAlive w' then 1 else 0) := by
  rw [Array.toList_set, List.countP_set (by simpa using h), Array.getElem_toList]
  have hle : (if isAlive ws[i] = true then 1 else 0) ≤ ws.toList.countP isAlive := by
    split
    · exact List.countP_pos_iff.mpr ⟨ws[i], by simp, ‹_›⟩
    · exact Nat.zero_le _
  rw [Int.natCast_add, Int.natCast_sub hle]
  split <;> split <;> rfl

theorem Sim.WarriorOK.congr {s s' : Sim} {j : Nat} {w : Warrior} (hm : s'.m = s.m)
    (hp : s'.maxProcs = s.maxProcs) (h : s.WarriorOK j w) : s'.WarriorOK j w := by
  unfold Sim.WarriorOK at h ⊢
  rw [hm, hp]; exact h

/-- `s'` differs from the well-formed `s` in warrior `i` (now `w'`), in memory contents and
    in the log -/
theorem Sim.WF.of_set {s s' : Sim} (hwf : s.WF) (i : Nat) (hi : i < s.warriors.size)
    {w' : Warrior}
    (hm : s'.m = s.m) (hmp : s'.maxProcs = s.maxProcs) (hmc : s'.maxCycles = s.maxCycles)
    (hrl : s'.readLimit = s.readLimit) (hwl : s'.writeLimit = s.writeLimit)
    (hsize : s'.mem.size = s.mem.size) (hf : s'.FieldsOK)
    (hw : s'.warriors = s.warriors.set i w' hi) (hok : s.WarriorOK i w')
    (hcount : s'.warriorCount = s.warriorCount) (hwidx : s'.warriorIndex = s.warriorIndex)
    (hcyc : s'.cycleCount = s.cycleCount)
    (hliving : s'.living = s.living - (if isAlive s.warriors[i] then 1 else 0)
        + (if isAlive w' then 1 else 0)) : s'.WF := by
  have hws : s'.warriors.size = s.warriors.size := by rw [hw, Array.size_set]
  refine ⟨?_, ?_, ?_, ?_, ?_, ?_, hf, ?_, ?_, ?_, ?_, ?_⟩
  · rw [hsize, hm]; exact hwf.size
  · rw [hm]; exact hwf.m3
  · rw [hrl]; exact hwf.rl
  · rw [hwl]; exact hwf.wl
  · rw [hmp]; exact hwf.procs
  · rw [hmc]; exact hwf.cycles
  · rw [hcount, hws]; exact hwf.count
  · rw [hwidx]; exact hwf.widx
  · intro j hj
    have hj' : j < s.warriors.size := by rw [← hws]; exact hj
    have hget : s'.warriors[j] = (s.warriors.set i w' hi)[j]'(by simpa using hj') := by
      simp only [hw]
    rw [hget, Array.getElem_set]
    split
    · subst_vars; exact hok.congr hm hmp
    · exact (hwf.warriors j hj').congr hm hmp
  · rw [hliving, hwf.living, Sim.aliveCount_eq, Sim.aliveCount_eq, hw]
    exact (aliveCount_set s.warriors i hi w').symm
  · rw [hcyc, hmc]; exact hwf.cycle

theorem Sim.WF.report {s : Sim} (h : s.WF) (r : Report) : (s.report r).WF :=
  ⟨h.size, h.m3, h.rl, h.wl, h.procs, h.cycles, h.fields, h.count, h.widx, h.warriors,
    h.living, h.cycle⟩

theorem Keep.report (s : Sim) (r : Report) : Keep s (s.report r) := ⟨rfl, rfl, rfl⟩

theorem default_fields (m : UInt64) (hm : 0 < m.toNat) :
    (default : Instr).a < m ∧ (default : Instr).b < m := by
  have h0 : (0 : UInt64) < m := by rw [UInt64.lt_iff_toNat_lt]; exact hm
  exact ⟨h0, h0⟩

theorem clampLimit_pos (l m : UInt64) (hl : 1 ≤ l.toNat) (hm : 3 ≤ m.toNat) :
    1 ≤ (clampLimit l m).toNat := by
  unfold clampLimit; split <;> omega

theorem clampLimit_le (l m : UInt64) : (clampLimit l m).toNat ≤ m.toNat := by
  unfold clampLimit
  split
  · exact Nat.le_refl _
  · exact UInt64.le_iff_toNat_le.mp (UInt64.not_lt.mp ‹_›)

theorem clampLimit_of_le (l m : UInt64) (h : l.toNat ≤ m.toNat) : clampLimit l m = l :=
  if_neg (UInt64.not_lt.mpr (UInt64.le_iff_toNat_le.mpr h))

theorem ite_false_eq_true {p : Prop} [Decidable p] {b : Bool}
    (h : (if p then false else b) = true) : ¬ p ∧ b = true := by
  split at h
  · cases h
  · exact ⟨‹_›, h⟩

/-- what `Validate` checks of the fields the simulator divides by or allocates with -/
theorem Config.validate_true {c : Config} (h : c.validate = true) :
    3 ≤ c.coreSize.toNat ∧ 1 ≤ c.processes.toNat ∧ 1 ≤ c.readLimit.toNat ∧
      1 ≤ c.writeLimit.toNat ∧ 1 ≤ c.cycles.toNat := by
  unfold Config.validate at h
  obtain ⟨h1, h⟩ := ite_false_eq_true h
  obtain ⟨h2, h⟩ := ite_false_eq_true h
  obtain ⟨h3, h⟩ := ite_false_eq_true h
  obtain ⟨h4, h⟩ := ite_false_eq_true h
  obtain ⟨h5, -⟩ := ite_false_eq_true h
  have le := fun {a b : UInt64} (h : ¬ a < b) => UInt64.le_iff_toNat_le.mp (UInt64.not_lt.mp h)
  exact ⟨le h1, le h2, le h3, le h4, le h5⟩

theorem new_some {c : Config} (h : c.validate = true) : ∃ s, Sim.new c = some s := by
  unfold Sim.new; rw [if_pos h]; exact ⟨_, rfl⟩

theorem new_none {c : Config} (h : c.validate = false) : Sim.new c = none := by
  unfold Sim.new; rw [h]; rfl

theorem new_eq {c : Config} {s : Sim} (h : Sim.new c = some s) :
    c.validate = true ∧
      s = { m := c.coreSize, maxProcs := c.processes, maxCycles := c.cycles,
            readLimit := clampLimit c.readLimit c.coreSize,
            writeLimit := clampLimit c.writeLimit c.coreSize,
            mem := Array.replicate c.coreSize.toNat default, legacy := c.mode == .icws88 } := by
  unfold Sim.new at h
  split at h
  · exact ⟨‹_›, (Option.some.inj h).symm⟩
  · cases h

theorem new_spec {c : Config} {s : Sim} (h : Sim.new c = some s) :
    s.WF ∧ s.CodeOK ∧ s.m = c.coreSize := by
  obtain ⟨hv, rfl⟩ := new_eq h
  obtain ⟨h3, hp, hr, hw, hc⟩ := Config.validate_true hv
  refine ⟨⟨Array.size_replicate, h3, clampLimit_pos _ _ hr h3, clampLimit_pos _ _ hw h3, hp, hc,
    ?_, rfl, rfl, fun i hi => absurd hi (Nat.not_lt_zero i), rfl, ?_⟩,
    fun i hi => absurd hi (Nat.not_lt_zero i), rfl⟩
  · intro i hi
    simp only [Array.getElem_replicate]
    exact default_fields _ (by omega)
  · exact UInt64.le_iff_toNat_le.mpr (Nat.zero_le _)

theorem new_wf {c : Config} {s : Sim} (h : Sim.new c = some s) : s.WF ∧ s.CodeOK :=
  ⟨(new_spec h).1, (new_spec h).2.1⟩

theorem addWarrior_spec {s : Sim} (d : WarriorData) (hwf : s.WF) (hc : s.CodeOK)
    (hd : ∀ c ∈ d.code.toList, c.a < s.m ∧ c.b < s.m) :
    (s.addWarrior d).WF ∧ (s.addWarrior d).CodeOK ∧ (s.addWarrior d).m = s.m := by
  refine ⟨⟨hwf.size, hwf.m3, hwf.rl, hwf.wl, hwf.procs, hwf.cycles, hwf.fields, ?_, hwf.widx,
    ?_, ?_, hwf.cycle⟩, ?_, rfl⟩
  · simp only [Sim.addWarrior, Array.size_push, hwf.count]
    rfl
  · intro i hi
    simp only [Sim.addWarrior, Array.size_push] at hi
    simp only [Sim.addWarrior, Array.getElem_push]
    split
    · rename_i h1
      exact (hwf.warriors i h1).congr rfl rfl
    · have : i = s.warriors.size := by omega
      subst this
      exact ⟨rfl, rfl⟩
  · rw [Sim.aliveCount_eq]
    simp only [Sim.addWarrior, Array.toList_push, List.countP_append, List.countP_cons,
      List.countP_nil]
    rw [hwf.living, Sim.aliveCount_eq]
    simp [isAlive]
  · intro i hi c hcm
    simp only [Sim.addWarrior, Array.size_push] at hi
    simp only [Sim.addWarrior, Array.getElem_push] at hcm
    show c.a < s.m ∧ c.b < s.m
    split at hcm
    · rename_i h1
      exact hc i h1 c hcm
    · exact hd c hcm

theorem addWarrior_wf {s : Sim} {d : WarriorData} (hwf : s.WF) (hc : s.CodeOK)
    (hd : ∀ c ∈ d.code.toList, c.a < s.m ∧ c.b < s.m) :
    (s.addWarrior d).WF ∧ (s.addWarrior d).CodeOK :=
  ⟨(addWarrior_spec d hwf hc hd).1, (addWarrior_spec d hwf hc hd).2.1⟩

theorem Sim.WF.reset {s : Sim} (hwf : s.WF) : s.reset.WF := by
  refine ⟨?_, hwf.m3, hwf.rl, hwf.wl, hwf.procs, hwf.cycles, ?_, ?_, hwf.widx, ?_, ?_, ?_⟩
  · simp only [Sim.reset, Sim.report, Array.size_replicate]
  · intro i hi
    simp only [Sim.reset, Sim.report, Array.getElem_replicate]
    exact default_fields _ (by have := hwf.m3; omega)
  · simp only [Sim.reset, Sim.report, Array.size_map]
    exact hwf.count
  · intro i hi
    simp only [Sim.reset, Sim.report, Array.size_map] at hi
    simp only [Sim.reset, Sim.report, Array.getElem_map]
    obtain ⟨hidx, h2⟩ := hwf.warriors i hi
    refine ⟨hidx, ?_⟩
    dsimp only
    cases hpq : s.warriors[i].pq with
    | none => rfl
    | some q =>
      rw [hpq] at h2
      exact ⟨h2.1, h2.2.1, h2.2.2.1, nofun, nofun⟩
  · rw [Sim.aliveCount_eq]
    simp only [Sim.reset, Sim.report, Array.toList_map, List.countP_map]
    have : (isAlive ∘ fun w : Warrior => { w with state := WState.added }) = fun _ => false := by
      funext w; simp [isAlive]
    rw [this]
    simp
  · show (0 : UInt64) ≤ s.maxCycles
    rw [UInt64.le_iff_toNat_le]; simp

theorem reset_spec {s : Sim} (hwf : s.WF) (hc : s.CodeOK) :
    s.reset.WF ∧ s.reset.CodeOK ∧ s.reset.m = s.m := by
  refine ⟨hwf.reset, fun i hi c hcm => ?_, rfl⟩
  simp only [Sim.reset, Sim.report, Array.size_map] at hi
  simp only [Sim.reset, Sim.report, Array.getElem_map] at hcm
  exact hc i hi c hcm

theorem reset_wf {s : Sim} (hwf : s.WF) (hc : s.CodeOK) : s.reset.WF ∧ s.reset.CodeOK :=
  ⟨(reset_spec hwf hc).1, (reset_spec hwf hc).2.1⟩

theorem spawn_queue (mp a m : UInt64) (hmp : 1 ≤ mp.toNat) (ha : a < m) :
    Ok ((PQ.new mp).push a) (fun q => q.Inv ∧ q.size = mp ∧ (∀ x ∈ q.toList, x < m) ∧
      q.length ≠ 0 ∧ q.toList = [a]) := by
  obtain ⟨hinv, hnil, hsz⟩ := PQ.new_inv mp (by omega)
  obtain ⟨q, hpush, hqinv, hqsz, hql⟩ := PQ.push_ok (PQ.new mp) a hinv
  rw [hnil, hsz, if_pos (by exact hmp), List.nil_append] at hql
  refine ⟨q, hpush, hqinv, hqsz.trans hsz, ?_, ?_, hql⟩
  · intro x hx
    rw [hql, List.mem_singleton] at hx
    exact hx ▸ ha
  · intro h0
    rw [(PQ.length_eq_zero_iff q).mp h0] at hql
    cases hql


theorem alive_pop {s : Sim} (hwf : s.WF) {i : Nat} (hi : i < s.warriors.size)
    (halive : s.warriors[i].state = .alive) :
    ∃ q pc q', s.warriors[i].pq = some q ∧ q.pop = .ok (some pc, q') ∧
      q.toList = pc :: q'.toList ∧ pc < s.m ∧ q'.Inv ∧ q'.size = s.maxProcs ∧
      ∀ a ∈ q'.toList, a < s.m := by
  have hok := (hwf.warriors i hi).2
  cases hpq : s.warriors[i].pq with
  | none =>
    rw [hpq, halive] at hok
    cases hok
  | some q =>
    rw [hpq] at hok
    obtain ⟨hinv, hsz, hent, hne, _⟩ := hok
    obtain ⟨q', hpop, hinv', hsz', hl'⟩ := PQ.pop_ok q hinv
    cases hl : q.toList with
    | nil => exact absurd ((PQ.length_eq_zero_iff q).mpr hl) (hne halive)
    | cons pc tl =>
      rw [hl] at hpop hent
      rw [hl, List.tail_cons] at hl'
      exact ⟨q, pc, q', rfl, hpop, hl' ▸ hl, hent pc List.mem_cons_self, hinv', hsz'.trans hsz,
        fun a ha => hent a (List.mem_cons_of_mem _ (hl' ▸ ha))⟩


/-- the `zombie` branch of `runWarrior` cannot be reached from a well-formed state -/
theorem zombie_unreachable {s : Sim} (hwf : s.WF) {i : Nat} (hi : i < s.warriors.size)
    (halive : s.warriors[i].state = .alive) {q : PQ} (hq : s.warriors[i].pq = some q) :
    ∃ pc q', q.pop = .ok (some pc, q') := by
  obtain ⟨q0, pc, q', hq0, hpop, _⟩ := alive_pop hwf hi halive
  cases hq0.symm.trans hq
  exact ⟨pc, q', hpop⟩

def Sim.popped (s : Sim) (i : Nat) (h : i < s.warriors.size) (q' : PQ) (pc : UInt64) : Sim :=
  ({ s with warriors := s.warriors.set i { s.warriors[i] with pq := some q' } h } : Sim).report
    { typ := .taskPop, cycle := s.cycleCount.toNat, wi := i, addr := pc }

def Sim.killed (s : Sim) (i : Nat) (h : i < s.warriors.size) (pc : UInt64) : Sim :=
  { s with warriors := s.warriors.set i { s.warriors[i] with state := .dead } h,
           living := s.living - 1,
           log := s.log.push { typ := .warriorTerminate, cycle := s.cycleCount.toNat, wi := i, addr := pc } }

theorem runWarrior_skip (s : Sim) (i : Nat) (hi : i < s.warriors.size)
    (h : s.warriors[i].state ≠ .alive) : s.runWarrior i = .ok (s, none) := by
  unfold Sim.runWarrior
  rw [dif_pos hi]
  have : (s.warriors[i].state == WState.alive) = false := by simpa using h
  simp only [this, Bool.false_eq_true, if_false]

theorem runWarrior_alive (s : Sim) (i : Nat) (hi : i < s.warriors.size) (q q' : PQ) (pc : UInt64)
    (hst : s.warriors[i].state = .alive) (hpq : s.warriors[i].pq = some q)
    (hpop : q.pop = .ok (some pc, q')) (s2 : Sim) (hex : (s.popped i hi q' pc).exec pc i = .ok s2)
    (h2 : i < s2.warriors.size) (q2 : PQ) (hpq2 : s2.warriors[i].pq = some q2) :
    s.runWarrior i = .ok (
      if q2.length = 0 then
        (s2.killed i h2 pc,
          if (s2.killed i h2 pc).warriorCount > 1 ∧ (s2.killed i h2 pc).living = 1
          then some (s2.killed i h2 pc).living else none)
      else (s2, none)) := by
  unfold Sim.runWarrior
  rw [dif_pos hi]
  have hb : (s.warriors[i].state == WState.alive) = true := by rw [hst]; rfl
  simp only [hb, if_true, hpq, hpop, bind, Except.bind]
  dsimp only [Sim.popped] at hex
  rw [hex]
  simp only [dif_pos h2, hpq2]
  by_cases hz : q2.length = 0
  · simp only [hz, beq_self_eq_true, if_true]
    unfold Sim.killed Sim.report
    simp only [Bool.and_eq_true, decide_eq_true_eq, beq_iff_eq]
    split <;> simp only [hpq2]
  · have : (q2.length == 0) = false := by simpa using hz
    simp only [this, hz, Bool.false_eq_true, if_false]

theorem not_finished {s : Sim} (h : s.finished = false) :
    s.cycleCount < s.maxCycles ∧ 1 ≤ s.living ∧ ¬ (s.warriorCount > 1 ∧ s.living = 1) := by
  unfold Sim.finished at h
  split at h
  · cases h
  · rename_i h1
    simp only [ge_iff_le, Bool.or_eq_true, decide_eq_true_eq, not_or, UInt64.not_le,
      Int.not_lt] at h1
    refine ⟨h1.1, h1.2, ?_⟩
    intro hc
    simp [hc.1, hc.2] at h

theorem finished_of {s : Sim} (h : s.living < 1 ∨ (s.warriorCount > 1 ∧ s.living = 1)) :
    s.finished = true := by
  unfold Sim.finished
  split
  · rfl
  · rcases h with h | h
    · rename_i h1
      exfalso; apply h1
      simp [h]
    · simp [h.1, h.2]

end Gmars
