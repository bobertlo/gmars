/-
  C05 "assembling any input terminates cleanly": faults (panic / endless loop) are unreachable
  from real input, for the whole assembler `assemble : Config → List UInt8 → AsmRes`. Every stage
  is handed a token stream that ends with its only tokEOF / tokError (`Terminated`) and hands on
  one of the same kind. On such a stream scanner and parser neither hang nor panic. The FOR expander
  does hang when the first token is the terminating one (`expand_first_terminal_hangs`), but it runs
  only after the scanner has reported a `for`, and the scanner reports none on a stream that starts
  with its terminating token (`scanInput_forSeen`). The compiler stage takes the parser's lines.
-/
import Gmars.Model.Assemble
import Gmars.Proofs.AsmTermScan
import Gmars.Proofs.AsmTermExpand
import Gmars.Proofs.AsmCostParse
import Gmars.Proofs.CompileWF

namespace Gmars

/-- `evaluateAssertion`'s lexer call never returns an empty token list -/
theorem lexString_ne_nil (s : String) : lexString s ≠ [] :=
  (lexTokens_terminated s.toList).ne_nil

/-- one round of the pass loop. Either it stops, with a result that does not depend on the fuel
    left: the tokens as they are (no `for` seen), an error, or a fault that scanner or expander
    reported on `ts`; or it goes round again on the expansion, which it does only below depth 12. -/
theorem forLoop_succ (depth : Nat) (ts : List Token) :
    (∃ x, (∀ fuel, forLoop (fuel + 1) depth ts = x) ∧
      (x = .ok ts ∨ x = .error .err ∨ x = .error .unmodelled ∨
        ∃ f, x = .error (.fault f) ∧ (scanInput ts = .error f ∨
          ∃ syms, scanInput ts = .ok (some (syms, true)) ∧
            forExpandWith expandAndEvaluate ts syms = .error f))) ∨
    ∃ syms expanded, scanInput ts = .ok (some (syms, true)) ∧
      forExpandWith expandAndEvaluate ts syms = .ok (some expanded, false) ∧ depth + 1 ≤ 12 ∧
      ∀ fuel, forLoop (fuel + 1) depth ts = forLoop fuel (depth + 1) expanded := by
  cases hs : scanInput ts with
  | error f => exact .inl ⟨_, fun _ => by rw [forLoop, hs], .inr (.inr (.inr ⟨f, rfl, .inl rfl⟩))⟩
  | ok o =>
    obtain _ | ⟨syms, _ | _⟩ := o
    · exact .inl ⟨_, fun _ => by rw [forLoop, hs], .inr (.inl rfl)⟩
    · exact .inl ⟨_, fun _ => by rw [forLoop, hs]; rfl, .inl rfl⟩
    · cases he : forExpandWith expandAndEvaluate ts syms with
      | error f =>
        exact .inl ⟨_, fun _ => by rw [forLoop, hs]; simp only [he]; rfl,
          .inr (.inr (.inr ⟨f, rfl, .inr ⟨syms, rfl, he⟩⟩))⟩
      | ok r =>
        obtain ⟨x, _ | _⟩ := r
        · cases x with
          | none => exact .inl ⟨_, fun _ => by rw [forLoop, hs]; simp only [he]; rfl, .inr (.inl rfl)⟩
          | some expanded =>
            by_cases hd : depth + 1 > 12
            · exact .inl ⟨_, fun _ => by rw [forLoop, hs]; simp only [he, hd]; rfl, .inr (.inl rfl)⟩
            · exact .inr ⟨syms, expanded, rfl, he, by omega,
                fun _ => by rw [forLoop, hs]; simp only [he, hd]; rfl⟩
        · exact .inl ⟨_, fun _ => by rw [forLoop, hs]; simp only [he]; rfl, .inr (.inr (.inl rfl))⟩

/-- `depth ≤ 12` and `13 ≤ fuel + depth` hold for the `forLoop 14 0` of `assemble`. -/
theorem forLoop_good : ∀ (fuel depth : Nat) (ts : List Token), Terminated ts → depth ≤ 12 →
    13 ≤ fuel + depth →
    (∀ f, forLoop fuel depth ts ≠ .error (.fault f)) ∧
    (∀ ts', forLoop fuel depth ts = .ok ts' → Terminated ts') := by
  intro fuel
  induction fuel with
  | zero => intro depth ts _ h1 h2; omega
  | succ fuel ih =>
    intro depth ts hts hd hf
    rcases forLoop_succ depth ts with ⟨x, hx, h⟩ | ⟨syms, expanded, _, he, _, hrec⟩
    · rw [hx fuel]
      rcases h with rfl | rfl | rfl | ⟨f, rfl, h⟩
      · exact ⟨fun f h => (by cases h), fun ts' h => (by cases h; exact hts)⟩
      · exact ⟨fun f h => (by cases h), fun ts' h => (by cases h)⟩
      · exact ⟨fun f h => (by cases h), fun ts' h => (by cases h)⟩
      · rcases h with hscan | ⟨syms, hscan, hexp⟩
        · exact absurd hscan (scan_no_fault hts f)
        · exact absurd hexp (expand_no_fault hts (scanInput_forSeen hscan) f)
    · rw [hrec fuel]
      exact ih (depth + 1) expanded (expand_terminated he) (by omega) (by omega)

/-- `forLoop`'s fuel counts passes (one symbol scan + one expansion each); 13 of them always
    suffice: at depth 12 the loop stops with "too many passes" instead of going round again. -/
theorem forLoop_fuel : ∀ (fuel depth : Nat) (ts : List Token), depth ≤ 12 → 13 ≤ fuel + depth →
    forLoop fuel depth ts = forLoop (13 - depth) depth ts := by
  intro fuel
  induction fuel with
  | zero => intro depth ts h1 h2; omega
  | succ fuel ih =>
    intro depth ts hd hf
    rw [show 13 - depth = (12 - depth) + 1 by omega]
    rcases forLoop_succ depth ts with ⟨x, hx, _⟩ | ⟨_, expanded, _, _, _, hrec⟩
    · rw [hx, hx]
    · rw [hrec, hrec, ih (depth + 1) _ (by omega) (by omega),
        show 13 - (depth + 1) = 12 - depth by omega]

/-- `CompileWarrior` performs at most 13 scan/expand passes: more fuel than 13 changes nothing,
    in particular the 14 of `assemble` is never used up -/
theorem passes_bounded (ts : List Token) (fuel : Nat) (h : 13 ≤ fuel) :
    forLoop fuel 0 ts = forLoop 13 0 ts :=
  forLoop_fuel fuel 0 ts (by omega) (by omega)

/-- for every byte string and every configuration the assembler returns: no panic, no endless
    loop, no blocked `Tokens()` -/
theorem assemble_no_fault (cfg : Config) (src : List UInt8) (f : Fault) :
    assemble cfg src ≠ .fault f := by
  have hlex := lexBytes_terminated src
  obtain ⟨hloop, hout⟩ := forLoop_good 14 0 (lexBytes src) hlex (by omega) (by omega)
  unfold assemble
  dsimp only
  split
  · rename_i r hr
    intro h; subst h
    exact hloop f hr
  · rename_i tokens hr
    have ht := hout tokens hr
    split
    · rename_i f' hp
      exact absurd hp (parse_no_fault ht f')
    · intro h; cases h
    · split
      · intro h; cases h
      · split
        · rename_i f' hc
          exact absurd hc (Compile.compile_no_fault' lexString_ne_nil f')
        · intro h; cases h
        · intro h; cases h

/-- C05 `assemble_err_xor_result`: exactly one of a warrior, an error, "outside the modelled subset" -/
theorem assemble_err_xor (cfg : Config) (src : List UInt8) :
    ((∃ w, assemble cfg src = .ok w) ∧ assemble cfg src ≠ .err ∧ assemble cfg src ≠ .unmodelled) ∨
    ((∀ w, assemble cfg src ≠ .ok w) ∧ assemble cfg src = .err ∧ assemble cfg src ≠ .unmodelled) ∨
    ((∀ w, assemble cfg src ≠ .ok w) ∧ assemble cfg src ≠ .err ∧ assemble cfg src = .unmodelled) := by
  cases h : assemble cfg src with
  | ok w => exact Or.inl ⟨⟨w, rfl⟩, by simp, by simp⟩
  | err => exact Or.inr (Or.inl ⟨by simp, rfl, by simp⟩)
  | unmodelled => exact Or.inr (Or.inr ⟨by simp, by simp, rfl⟩)
  | fault f => exact absurd h (assemble_no_fault cfg src f)

/-- `forLoop : Except AsmRes _` reports its failures in the error slot, as the `AsmRes` that
    `assemble` then returns; that slot never holds a warrior -/
theorem forLoop_error_not_ok (fuel depth : Nat) (ts : List Token) (w : WarriorData) :
    forLoop fuel depth ts ≠ .error (.ok w) := by
  induction fuel generalizing depth ts with
  | zero => simp [forLoop]
  | succ f ih =>
    rcases forLoop_succ depth ts with ⟨x, hx, h⟩ | ⟨_, _, _, _, _, hrec⟩
    · rw [hx f]
      rcases h with rfl | rfl | rfl | ⟨_, rfl, _⟩ <;> simp
    · rw [hrec f]
      exact ih _ _

/-- an accepted program went through all three stages: pass loop, parser, compiler -/
theorem assemble_ok_stages {cfg : Config} {src : List UInt8} {w : WarriorData}
    (h : assemble cfg src = .ok w) :
    ∃ toks lines ameta, forLoop 14 0 (lexBytes src) = .ok toks ∧
      parse toks = .ok (some (lines, ameta)) ∧ compile lexString cfg lines ameta = .ok (some w) := by
  unfold assemble at h
  dsimp only at h
  split at h
  · rename_i r heq
    subst h
    exact absurd heq (forLoop_error_not_ok _ _ _ _)
  · rename_i toks hloop
    split at h
    · cases h
    · cases h
    · rename_i lines ameta hp
      split at h
      · cases h
      · split at h
        · cases h
        · cases h
        · rename_i w' hc
          cases h
          exact ⟨toks, lines, ameta, hloop, hp, hc⟩

/-- C06 at the level of the whole assembler: an accepted program comes from the compiler stage -/
theorem assemble_ok_from_compile {cfg : Config} {src : List UInt8} {w : WarriorData}
    (h : assemble cfg src = .ok w) :
    ∃ lines ameta, compile lexString cfg lines ameta = .ok (some w) :=
  let ⟨_, lines, ameta, _, _, hc⟩ := assemble_ok_stages h
  ⟨lines, ameta, hc⟩

end Gmars
