/-
  The parsed lines of a source program `EProg`, as the compiler reads them, are the lines
  `AsmLine.xrender 0 p.xitems` of `compile_meaning_equ`.
-/
import Gmars.Proofs.AsmComposeEquBridge

namespace Gmars
namespace AsmComposeEqu
open Gmars.Render Gmars.AsmLine Gmars.AsmCompose

theorem xwOperand_mode (o : XOperand) :
    (xwOperand o).toOperand.mode.getD "" = modeString o.mode := by
  cases h : o.mode <;> simp [xwOperand, WOperand.toOperand, modeString, h]

theorem xwOperand_toks (o : XOperand) (h : ELexOK o.expr) :
    (xwOperand o).toOperand.toks = toksOf o.expr := by
  simp [xwOperand, WOperand.toOperand, ewords_tok o.expr h]

theorem core_xinstrLine {ls : List (String × Bool)} {op : String} {md : Option String}
    {a : XOperand} {b : Option XOperand} {k : Nat} (h : (EItem.instr ls op md a b k).LexOK)
    (ln : Int) (j : Nat) :
    core (((xwStmt ls op md a b).toStmt k).instrLine ln (j : Int)) =
      (AsmLine.XItem.instr (ls.map (·.1)) op md a b).toLine j := by
  obtain ⟨hl, hop, ha, hb⟩ := h
  have e1 : ((xwStmt ls op md a b).toStmt k).labelNames = ls.map (·.1) := by
    simp only [Stmt.labelNames, WStmt.toStmt, xwStmt, labels_val ls hl]
  have e2 : ((xwStmt ls op md a b).toStmt k).op = opString op md := by
    simp only [WStmt.toStmt, xwStmt, identWord_val hop]
  have e3 : ((xwStmt ls op md a b).toStmt k).a = (xwOperand a).toOperand := rfl
  have e4 : ((xwStmt ls op md a b).toStmt k).b = b.map (fun o => (xwOperand o).toOperand) := by
    simp only [WStmt.toStmt, xwStmt, Option.map_map]; rfl
  simp only [core, Stmt.instrLine, AsmLine.XItem.toLine, e1, e2, e3, e4, xwOperand_mode,
    xwOperand_toks a ha.1]
  cases b with
  | none => rfl
  | some bo =>
    simp only [Option.map_some, xwOperand_mode, xwOperand_toks bo (hb bo rfl).1, Option.bind_some]

def EItem.CommentOK : EItem → Prop
  | .comment cs _ => plainComment cs
  | .assert cs _ _ => Compile.assertPrefix.isPrefixOf (';' :: cs) = true
  | _ => True

theorem norm_assert_lines (cs : List Char) (k : Nat) (ln cl : Int)
    (h : Compile.assertPrefix.isPrefixOf (';' :: cs) = true) :
    norm ((WItem.comment cs k).toItem.lines ln cl) =
      [{ typ := .comment, comment := String.ofList (';' :: cs) }] := by
  simp only [WItem.toItem, Item.lines]
  rw [norm_cons_relevant _ _ (by
    simp only [relevant, commentLine, String.toList_ofList]
    rw [h]; rfl), norm_blankLines]
  rfl

theorem norm_eitem_lines {it : EItem} (h : it.LexOK) (hp : it.CommentOK) (ln : Int) (j : Nat) :
    norm (it.toP.lines ln (j : Int)) = (it.toX.toList).map (fun l => l.toLine j) := by
  cases it with
  | instr ls op md a b k =>
    simp only [EItem.toP, PItem.lines, AsmCompose.XItem.lines, WItem.toItem, Item.lines,
      norm_stmt_lines, core_xinstrLine h, EItem.toX, Option.toList_some, List.map_cons, List.map_nil]
  | comment cs k =>
    simp only [EItem.toP, PItem.lines, AsmCompose.XItem.lines, norm_comment_lines cs k ln j hp,
      EItem.toX, Option.toList_none, List.map_nil]
  | assert cs e k =>
    simp only [EItem.toP, PItem.lines, AsmCompose.XItem.lines, norm_assert_lines cs k ln j hp,
      EItem.toX, Option.toList_some, List.map_cons, List.map_nil, AsmLine.XItem.toLine]
  | org kw e k =>
    simp only [EItem.toP, PItem.lines, AsmCompose.XItem.lines, EItem.toX, Option.toList_some,
      List.map_cons, List.map_nil]
    rw [norm_cons_relevant _ _ rfl, norm_blankLines]
    rfl
  | equ n kw e k =>
    simp only [EItem.toP, PItem.lines, EItem.toX, Option.toList_some, List.map_cons, List.map_nil]
    rw [norm_cons_relevant _ _ rfl, norm_blankLines]
    rfl

theorem EItem.codeLines_eq (it : EItem) :
    it.toP.codeLines = if (it.toX.map AsmLine.XItem.isInstr).getD false then 1 else 0 := by
  cases it <;> rfl

theorem xinstrCount_cons (it : AsmLine.XItem) (r : List AsmLine.XItem) :
    xinstrCount (it :: r) = (if it.isInstr then 1 else 0) + xinstrCount r := by
  unfold xinstrCount
  rw [List.filter_cons]
  cases it.isInstr <;> simp <;> omega

theorem norm_eitems_lines (items : List EItem) (h : ∀ it ∈ items, it.LexOK)
    (hp : ∀ it ∈ items, it.CommentOK) (ln : Int) (j : Nat) :
    norm (pitemsLines (items.map EItem.toP) ln (j : Int)) = xrender j (items.filterMap EItem.toX) ∧
      pitemsEndCode (items.map EItem.toP) (j : Int) =
        ((j + xinstrCount (items.filterMap EItem.toX) : Nat) : Int) := by
  induction items generalizing ln j with
  | nil => exact ⟨rfl, by simp [pitemsEndCode, xinstrCount]⟩
  | cons it r ih =>
    have hr := fun x hx => h x (List.mem_cons_of_mem _ hx)
    have hpr := fun x hx => hp x (List.mem_cons_of_mem _ hx)
    simp only [List.map_cons, pitemsLines, pitemsEndCode, norm_append, it.codeLines_eq,
      norm_eitem_lines (h it (List.mem_cons_self ..)) (hp it (List.mem_cons_self ..)),
      List.filterMap_cons]
    -- the item is no line of the abstract program, or one that counts or does not count as code
    cases it.toX with
    | none => simpa using ih hr hpr (ln + 1 + it.toP.blanks) j
    | some x =>
      simp only [Option.map_some, Option.getD_some, Option.toList_some, List.map_cons, List.map_nil,
        List.cons_append, List.nil_append, xrender, xinstrCount_cons]
      by_cases hi : x.isInstr = true
      · have := ih hr hpr (ln + 1 + it.toP.blanks) (j + 1)
        simp only [if_pos hi, Int.natCast_add, Int.natCast_one] at this ⊢
        exact ⟨by rw [this.1], by rw [this.2]; omega⟩
      · have := ih hr hpr (ln + 1 + it.toP.blanks) j
        simp only [if_neg hi, Int.add_zero, Nat.zero_add] at this ⊢
        exact ⟨by rw [this.1], this.2⟩

/-- the END line the parser records, as the compiler reads it; an argument `e` has a token, so the
    parser's `a` field is `some` of its tokens -/
theorem core_endLine (ln : Int) (kw : String) (e : Option (List Spec.ETok))
    (he : ∀ x, e = some x → x ≠ []) :
    core (endLine ln kw ((e.map toksOf).getD [])) = (AsmLine.XItem.end_ kw e).toLine 0 := by
  cases e with
  | none => rfl
  | some x =>
    have : (toksOf x).isEmpty = false := List.isEmpty_eq_false_iff.2 (toksOf_ne_nil (he x rfl))
    simp [core, endLine, AsmLine.XItem.toLine, this]

theorem EProg.norm_lines (p : EProg) (h : p.LexOK) (hp : ∀ it ∈ p.items, it.CommentOK) :
    norm p.toP.lines = xrender 0 p.xitems := by
  simp only [PProg.lines, norm_append, norm_blankLines, List.nil_append, EProg.toP, EProg.xitems,
    xrender_app]
  have := (norm_eitems_lines p.items h.items hp ((1 : Int) + p.lead) 0).1
  simp only [Int.natCast_zero] at this
  rw [this]
  congr 1
  unfold PProg.finLines EProg.finX
  cases hf : p.fin with
  | none => rfl
  | some q =>
    obtain ⟨kw, e⟩ := q
    simp only [Option.map_some, xrender]
    rw [norm_cons_relevant _ _ rfl, norm_nil]
    exact congrArg (· :: []) (core_endLine _ kw e fun x hx => ((h.fin kw e hf).2 x hx).2)

end AsmComposeEqu
end Gmars
