/-
  C03, compiler stage: programs with labels (no EQUs).  Operand expressions are templates `NT`
  (trees over numbers and label names).  Such a program is a program with EQUs (`LItem.toX`) that
  has no EQU and no assert line, so `compile_meaning_labels` is `compile_meaning_equ` for it.
  The programs over numbers (`CItem`) are read the same way (`CItem.toX`, `compile_meaning`).

  The hypothesis "every label is defined once and is none of the predefined constants" is
  necessary: on
      x jmp x / x dat 0            (duplicate label)
      CORESIZE jmp CORESIZE        (label named like a constant)
  the model of `compile()` (like Go: `labels` is a map, `values` is looked up first) ACCEPTS the
  program (jmp 1 resp. jmp 0), `Spec.meaningFlat` rejects it (checked with #eval).
-/
import Gmars.Proofs.AsmEqu

namespace Gmars.AsmLine
open Gmars.Compile Gmars.ExprProofs

/-- a sign run in front of a tree (sign runs stay maximal) -/
def mkSigns (ss : List Bool) : CST → CST
  | .signs ss' e => .signs (ss ++ ss') e
  | c => .signs ss c

/-- the tree a template stands for once its names have values; `none` = an unknown name -/
def NT.inst (σ : String → Option Int) : NT → Option CST
  | .num n => some (.num n)
  | .name s => (σ s).map valCST
  | .signs ss e => (e.inst σ).map (mkSigns ss)
  | .paren e => (e.inst σ).map .paren
  | .bin op l r => (l.inst σ).bind fun a => (r.inst σ).map fun b => .bin op a b

theorem mkSigns_etoks (ss : List Bool) (c : CST) :
    (mkSigns ss c).etoks = ss.map (fun s => Spec.ETok.op (signStr s)) ++ c.etoks := by
  cases c <;> simp [mkSigns, CST.etoks]

theorem signToks_notext (ss : List Bool) : ∀ t ∈ ss.map signTok, t.typ ≠ .text := by
  intro t ht
  obtain ⟨s, _, rfl⟩ := List.mem_map.1 ht
  simp [signTok]

theorem substE_append (σ : String → Option Int) (a b : List Spec.ETok) :
    substE σ (a ++ b) = (substE σ a).bind fun x => (substE σ b).map fun y => x ++ y := by
  induction a with
  | nil => simp [substE]
  | cons t r ih =>
    cases t <;>
      simp [substE, ih, Option.bind_assoc, Option.map_bind, Option.bind_map, Function.comp_def]

theorem substE_signs (σ : String → Option Int) (ss : List Bool) (r : List Spec.ETok) :
    substE σ (ss.map (fun s => Spec.ETok.op (signStr s)) ++ r) =
      (substE σ r).map (ss.map (fun s => Spec.ETok.op (signStr s)) ++ ·) := by
  induction ss with
  | nil => simp
  | cons s ss ih => simp [substE, ih, Function.comp_def]

theorem substE_etoks (σ : String → Option Int) (e : NT) :
    substE σ e.etoks = (e.inst σ).map CST.etoks := by
  induction e with
  | num n => rfl
  | name s =>
    simp only [NT.etoks, substE, NT.inst]
    cases σ s <;> simp
  | signs ss e ih =>
    simp only [NT.etoks, NT.inst, substE_signs, ih]
    cases e.inst σ <;> simp [mkSigns_etoks]
  | paren e ih =>
    simp only [NT.etoks, NT.inst]
    rw [substE_cons_other σ _ _ rfl, substE_append, ih]
    cases e.inst σ <;> simp [substE, CST.etoks]
  | bin op l r ihl ihr =>
    simp only [NT.etoks, NT.inst]
    rw [substE_append, substE_cons_other σ _ _ rfl, ihl, ihr]
    cases l.inst σ <;> cases r.inst σ <;> simp [CST.etoks]

theorem mem_etoks_names (e : NT) (s : String) : Spec.ETok.name s ∈ e.etoks → s ∈ e.names := by
  induction e with
  | num n => simp [NT.etoks]
  | name s' => simp [NT.etoks, NT.names]
  | signs ss e ih => simpa [NT.etoks, NT.names] using ih
  | paren e ih => simpa [NT.etoks, NT.names] using ih
  | bin op l r ihl ihr => simpa [NT.etoks, NT.names] using Or.imp ihl ihr

/-- a template inside the modelled range for the offsets `σ` -/
structure GoodTmpl (σ : String → Option Int) (consts : List String) (e : NT) : Prop where
  notConst : ∀ s ∈ e.names, s ∉ consts
  len : e.etoks.length ≤ 20000
  wf : ∀ x, e.inst σ = some x → WFprec x ∧ NoBigLit x

theorem goodTmpl_num (σ : String → Option Int) (n : Nat) (hn : n < 2 ^ 64) :
    GoodTmpl σ constNames (.num n) where
  notConst := by intro s hs; simp [NT.names] at hs
  len := by simp [NT.etoks]
  wf := by
    intro x hx
    cases hx
    exact ⟨trivial, nobig_num hn (by decide)⟩

def LItem.WF (M : Nat) (S : List (String × Nat)) (k : Nat) : LItem → Prop
  | .instr _ op md a b =>
    Ascii op ∧ '.' ∉ op.toList ∧ (∀ s, md = some s → Ascii s) ∧
      GoodTmpl (sigmaS M S k) constNames a.expr ∧
      (∀ bo, b = some bo → GoodTmpl (sigmaS M S k) constNames bo.expr)
  | .org kw e => lowerStr kw = "org" ∧ GoodTmpl (sigmaS M S 0) constNames e
  | .end_ kw e => lowerStr kw = "end" ∧ (∀ x, e = some x → GoodTmpl (sigmaS M S 0) constNames x)

def ProgWF (M : Nat) (S : List (String × Nat)) : Nat → List LItem → Prop
  | _, [] => True
  | k, it :: r => it.WF M S k ∧ ProgWF M S (if it.isInstr then k + 1 else k) r

/-- what the compiler state and the reference tables have in common; the proofs use the weaker
    `XRel`, which does not speak of `values` and `equs` -/
structure TRel (c : Compiler) (sc : Spec.Cfg) (t : Spec.Tables) : Prop where
  crel : CRel c sc
  labels : c.labels = t.labels.map castL
  small : ∀ p ∈ t.labels, p.2 < 2 ^ 63
  vals : ∀ s, s ∉ constNames → c.values.get? s = none
  equs : ∀ s, s ∉ constNames → t.equs.find? (·.1 == s) = none

def lstartStepN (acc : NT) : LItem → NT
  | .org _ e => e
  | .end_ _ (some e) => e
  | _ => acc

def startNT (prog : List LItem) : NT := prog.foldl lstartStepN (.num 0)

theorem nt_tokens_eq (e : NT) : toksOf e.etoks = e.tokens := by
  unfold toksOf
  induction e with
  | num n => rfl
  | name s => rfl
  | signs ss e ih => simp only [NT.tokens, NT.etoks, List.map_append, List.map_map, ih]; rfl
  | paren e ih => simp only [NT.tokens, NT.etoks, List.map_cons, List.map_append, ih]; rfl
  | bin op l r ihl ihr => simp only [NT.tokens, NT.etoks, List.map_cons, List.map_append, ihl, ihr]; rfl

def LOperand.toX (o : LOperand) : XOperand := { mode := o.mode, expr := o.expr.etoks }

def LItem.toX : LItem → XItem
  | .instr ls op md a b => .instr ls op md a.toX (b.map LOperand.toX)
  | .org kw e => .org kw e.etoks
  | .end_ kw e => .end_ kw (e.map NT.etoks)

theorem LItem.toLine_toX (k : Nat) (it : LItem) : it.toX.toLine k = it.toLine k := by
  cases it with
  | instr ls op md a b =>
    cases b <;> simp [LItem.toX, LOperand.toX, XItem.toLine, LItem.toLine, nt_tokens_eq]
  | org kw e => simp [LItem.toX, XItem.toLine, LItem.toLine, nt_tokens_eq]
  | end_ kw e => cases e <;> simp [LItem.toX, XItem.toLine, LItem.toLine, nt_tokens_eq]

theorem LItem.isInstr_toX (it : LItem) : it.toX.isInstr = it.isInstr := by cases it <;> rfl

theorem xrender_toX (prog : List LItem) : ∀ k, xrender k (prog.map LItem.toX) = lrender k prog := by
  induction prog with
  | nil => intro k; rfl
  | cons it r ih => intro k; simp only [List.map_cons, xrender, lrender, LItem.toLine_toX, LItem.isInstr_toX, ih]

theorem toItem_toX (prog : List LItem) : (prog.map LItem.toX).map XItem.toItem = prog.map LItem.toItem := by
  rw [List.map_map]
  refine List.map_congr_left fun it _ => ?_
  rcases it with ⟨_, _, _, _, _ | _⟩ | _ | _ <;> rfl

theorem xlabelsFrom_toX (prog : List LItem) :
    ∀ k, xlabelsFrom k (prog.map LItem.toX) = labelsFrom k prog := by
  induction prog with
  | nil => intro k; rfl
  | cons it r ih => intro k; cases it <;> simp [LItem.toX, xlabelsFrom, labelsFrom, ih]

theorem xequs_toX (prog : List LItem) : xequs (prog.map LItem.toX) = [] := by
  induction prog with
  | nil => rfl
  | cons it r ih => cases it <;> simpa [LItem.toX, xequs] using ih

theorem xinstrCount_toX (prog : List LItem) : xinstrCount (prog.map LItem.toX) = linstrCount prog := by
  unfold xinstrCount linstrCount
  rw [List.filter_map, List.length_map]
  exact congrArg (fun f => (prog.filter f).length) (funext LItem.isInstr_toX)

theorem _root_.Gmars.AsmCompose.lrender_append (a b : List LItem) (k : Nat) :
    lrender k (a ++ b) = lrender k a ++ lrender (k + linstrCount a) b := by
  simp only [← xrender_toX, ← xinstrCount_toX, List.map_append, xrender_app]

theorem _root_.Gmars.AsmCompose.labelsFrom_append (a b : List LItem) (k : Nat) :
    labelsFrom k (a ++ b) = labelsFrom k a ++ labelsFrom (k + linstrCount a) b := by
  simp only [← xlabelsFrom_toX, ← xinstrCount_toX, List.map_append, xlabelsFrom_app]

theorem predefined_ranked (sc : Spec.Cfg) : ERanked (Spec.predefined sc) (fun _ => 0) := by
  refine eranked_of_flat fun k v hkv s hsv => ?_
  obtain ⟨p, hf, rfl⟩ := Option.map_eq_some_iff.1 hkv
  have hm := List.mem_of_find?_eq_some hf
  simp only [Spec.predefined, List.mem_cons, List.not_mem_nil, or_false] at hm
  rcases hm with rfl | rfl | rfl | rfl <;> simp at hsv

/-- With the predefined constants as the only EQUs, a good template is a good expression: no
    name of it is expanded, and its labels are substituted as `NT.inst` says. -/
theorem GoodTmpl.goodX {sc : Spec.Cfg} {t : Spec.Tables} (ht : t.equs = Spec.predefined sc) {k : Nat}
    {e : NT} (h : GoodTmpl (sigmaS sc.M t.labels k) constNames e) : GoodX sc t k e.etoks := by
  have hkey : ∀ s, Spec.ETok.name s ∈ e.etoks → t.equs.find? (·.1 == s) = none := fun s hs => by
    rw [ht]; exact predefined_find?_none sc s (h.notConst s (mem_etoks_names e s hs))
  refine ⟨fun j _ => ?_, fun x out h1 h2 => ?_⟩
  · rw [iterE_keyfree t.equs j _ fun s hs => by unfold ETab.get?; rw [hkey s hs]; rfl]
    exact h.len
  · rw [expandEqus_nokey _ _ hkey h.len] at h1
    cases h1
    rw [substLabels_eq, substE_etoks] at h2
    obtain ⟨c, hx, rfl⟩ := Option.map_eq_some_iff.1 h2
    exact ⟨c, (h.wf c hx).1, (h.wf c hx).2, rfl⟩

theorem ProgWF.toX {lexTokens : String → List Token} {sc : Spec.Cfg} {t : Spec.Tables}
    (ht : t.equs = Spec.predefined sc) (prog : List LItem) :
    ∀ k, ProgWF sc.M t.labels k prog → XProgWF lexTokens sc t k (prog.map LItem.toX) := by
  induction prog with
  | nil => intro k _; trivial
  | cons it r ih =>
    intro k hw
    refine ⟨?_, by rw [LItem.isInstr_toX]; exact ih _ hw.2⟩
    cases it with
    | instr ls op md a b =>
      obtain ⟨h1, h2, h3, ha, hb⟩ := hw.1
      refine ⟨h1, h2, h3, ha.goodX ht, fun bo hbo => ?_⟩
      obtain ⟨b0, rfl, rfl⟩ := Option.map_eq_some_iff.1 hbo
      exact (hb b0 rfl).goodX ht
    | org kw e => exact ⟨hw.1.1, hw.1.2.goodX ht⟩
    | end_ kw e =>
      refine ⟨hw.1.1, fun x hx => ?_⟩
      obtain ⟨e0, rfl, rfl⟩ := Option.map_eq_some_iff.1 hx
      exact (hw.1.2 e0 rfl).goodX ht

theorem xstart_toX (prog : List LItem) : xstart (prog.map LItem.toX) = (startNT prog).etoks := by
  unfold xstart
  rw [List.foldl_map]
  exact List.foldl_hom NT.etoks (g₁ := lstartStepN) (init := .num 0) fun acc it => by
    rcases it with _ | _ | ⟨_, _ | _⟩ <;> rfl

theorem assertsOk_toX (c : Spec.Cfg) (t : Spec.Tables) (prog : List LItem) :
    assertsOk c t ((prog.map LItem.toX).map XItem.toItem) = true := by
  unfold assertsOk
  rw [List.map_map, List.all_eq_true, List.forall_mem_map]
  intro it _
  cases it <;> rfl

theorem meaningFlat_litems (sc : Spec.Cfg) (prog : List LItem)
    (hnd : ((labelsFrom 0 prog).map (·.1) ++ constNames).Nodup) :
    Spec.meaningFlat sc (prog.map LItem.toItem) =
      (codeFold sc (tablesOf sc (prog.map LItem.toItem) (labelsFrom 0 prog)) (prog.map LItem.toItem)
          (some [], 0)).1.bind
        fun code =>
          if code.length > sc.maxLen then none
          else
            (Spec.evalAt sc (tablesOf sc (prog.map LItem.toItem) (labelsFrom 0 prog)) 0
                (startNT prog).etoks).bind fun sv =>
              if sv < 0 || (sv ≥ linstrCount prog && sv != 0) then none
              else some { code := code, start := sv.toNat, name := "", author := "", strategy := "" } := by
  rw [← toItem_toX, meaningFlat_eq, xlabelFold_items, xlabelsFrom_toX, xinstrCount_toX,
    flatTail_xitems sc _ _ _ (by rw [xequs_toX]; intro p hp; cases hp)
      (by rw [xequs_toX]; simpa using hnd),
    tablesOf_xitemsS, assertsOk_toX, xstart_toX]
  rfl

theorem compileX_meaning_labels (lexTokens : String → List Token) (cfg : Config) (sc : Spec.Cfg)
    (prog : List LItem) (ameta : AsmMeta)
    (hv : cfg.validate = true) (h63 : cfg.coreSize.toNat < 2 ^ 63) (hr : CfgRel cfg sc)
    (hnd : ((labelsFrom 0 prog).map (·.1) ++ constNames).Nodup)
    (hsmall : linstrCount prog < 2 ^ 63)
    (hw : ProgWF sc.M (labelsFrom 0 prog) 0 prog) :
    compileX lexTokens cfg (lrender 0 prog) ameta =
      optM ((Spec.meaningFlat sc (prog.map LItem.toItem)).map (toWD ameta)) := by
  have ht : xtables sc (prog.map LItem.toX) = ⟨labelsFrom 0 prog, Spec.predefined sc⟩ := by
    unfold xtables
    rw [xlabelsFrom_toX, xequs_toX]
    rfl
  have := compileX_meaning_xitems lexTokens cfg sc (prog.map LItem.toX) ameta (fun _ => 0) hv h63 hr
    (by rw [xlabelsFrom_toX, xequs_toX]; simpa using hnd) (fun _ => by rw [xinstrCount_toX]; exact hsmall)
    (by rw [xequs_toX]; exact predefined_ranked sc) (fun _ => by omega)
    (by rw [ht]; exact ProgWF.toX rfl prog 0 hw)
  rwa [xrender_toX, toItem_toX] at this

/-- Programs whose instructions carry labels and whose operands (and ORG/END
    arguments) are templates over numbers and label names: a label stands for the offset
    `(idx - line) tmod M`, written as a signed number, on both sides.  Hypotheses: every label is
    defined once and is none of the predefined constants (the reference rejects such programs, the
    Go map silently keeps the last definition), fewer than `2^63` instructions, and `ProgWF`: ASCII
    opcode/modifier text without a dot in the opcode, no predefined constant in an operand, at most
    20000 tokens per operand, and the trees the templates stand for are precedence-well-formed
    and inside the range the `go/types.Eval` model answers on. -/
theorem compile_meaning_labels (lexTokens : String → List Token) (cfg : Config) (sc : Spec.Cfg)
    (prog : List LItem) (ameta : AsmMeta)
    (hv : cfg.validate = true) (h63 : cfg.coreSize.toNat < 2 ^ 63) (hr : CfgRel cfg sc)
    (hnd : ((labelsFrom 0 prog).map (·.1) ++ constNames).Nodup)
    (hsmall : linstrCount prog < 2 ^ 63)
    (hw : ProgWF sc.M (labelsFrom 0 prog) 0 prog) :
    compile lexTokens cfg (lrender 0 prog) ameta =
      .ok ((Spec.meaningFlat sc (prog.map LItem.toItem)).map (toWD ameta)) :=
  compile_of_compileX (compileX_meaning_labels lexTokens cfg sc prog ameta hv h63 hr hnd hsmall hw)

def COperand.toX (o : COperand) : XOperand := { mode := o.mode, expr := o.expr.etoks }

def CItem.toX : CItem → XItem
  | .instr op md a b => .instr [] op md a.toX (b.map COperand.toX)
  | .org kw e => .org kw e.etoks
  | .end_ kw e => .end_ kw (e.map CST.etoks)

theorem CItem.toLine_toX (k : Nat) (it : CItem) : it.toX.toLine k = it.toLine k := by
  cases it with
  | instr op md a b =>
    cases b <;> simp [CItem.toX, COperand.toX, XItem.toLine, CItem.toLine, cst_tokens_eq]
  | org kw e => simp [CItem.toX, XItem.toLine, CItem.toLine, cst_tokens_eq]
  | end_ kw e => cases e <;> simp [CItem.toX, XItem.toLine, CItem.toLine, cst_tokens_eq]

theorem CItem.isInstr_toX (it : CItem) : it.toX.isInstr = it.isInstr := by cases it <;> rfl

theorem xrender_ctoX (prog : List CItem) : ∀ k, xrender k (prog.map CItem.toX) = render k prog := by
  induction prog with
  | nil => intro k; rfl
  | cons it r ih => intro k; simp only [List.map_cons, xrender, render, CItem.toLine_toX, CItem.isInstr_toX, ih]

theorem toItem_ctoX (prog : List CItem) : (prog.map CItem.toX).map XItem.toItem = prog.map CItem.toItem := by
  rw [List.map_map]
  refine List.map_congr_left fun it _ => ?_
  rcases it with ⟨_, _, _, _ | _⟩ | _ | _ <;> rfl

theorem xlabelsFrom_ctoX (prog : List CItem) : ∀ k, xlabelsFrom k (prog.map CItem.toX) = [] := by
  induction prog with
  | nil => intro k; rfl
  | cons it r ih => intro k; cases it <;> simp [CItem.toX, xlabelsFrom, ih]

theorem xequs_ctoX (prog : List CItem) : xequs (prog.map CItem.toX) = [] := by
  induction prog with
  | nil => rfl
  | cons it r ih => cases it <;> simpa [CItem.toX, xequs] using ih

theorem CItem.WF.toX {lexTokens : String → List Token} {sc : Spec.Cfg} {t : Spec.Tables}
    (prog : List CItem) (hw : ∀ it ∈ prog, it.WF) :
    ∀ k, XProgWF lexTokens sc t k (prog.map CItem.toX) := by
  induction prog with
  | nil => intro k; trivial
  | cons it r ih =>
    intro k
    refine ⟨?_, ih (fun x hx => hw x (List.mem_cons_of_mem _ hx)) _⟩
    have hit := hw it (List.mem_cons_self ..)
    cases it with
    | instr op md a b =>
      obtain ⟨h1, h2, h3, ha, hb⟩ := hit
      refine ⟨h1, h2, h3, ha.goodX, fun bo hbo => ?_⟩
      obtain ⟨b0, rfl, rfl⟩ := Option.map_eq_some_iff.1 hbo
      exact (hb b0 rfl).goodX
    | org kw e => exact ⟨hit.1, hit.2.goodX⟩
    | end_ kw e =>
      refine ⟨hit.1, fun x hx => ?_⟩
      obtain ⟨e0, rfl, rfl⟩ := Option.map_eq_some_iff.1 hx
      exact (hit.2 e0 rfl).goodX

/-- no labels, so no bound on the number of instructions is needed -/
theorem compileX_meaning (lexTokens : String → List Token) (cfg : Config) (sc : Spec.Cfg)
    (prog : List CItem) (ameta : AsmMeta)
    (hv : cfg.validate = true) (h63 : cfg.coreSize.toNat < 2 ^ 63) (hr : CfgRel cfg sc)
    (hw : ∀ it ∈ prog, it.WF) :
    compileX lexTokens cfg (render 0 prog) ameta =
      optM ((Spec.meaningFlat sc (prog.map CItem.toItem)).map (toWD ameta)) := by
  have := compileX_meaning_xitems lexTokens cfg sc (prog.map CItem.toX) ameta (fun _ => 0) hv h63 hr
    (by rw [xlabelsFrom_ctoX, xequs_ctoX]; decide) (fun h => absurd (xlabelsFrom_ctoX prog 0) h)
    (by rw [xequs_ctoX]; exact predefined_ranked sc) (fun _ => by omega) (CItem.WF.toX prog hw 0)
  rwa [xrender_ctoX, toItem_ctoX] at this

/-- Label- and EQU-free programs: instructions whose operands are precedence-well-formed
    trees over numbers (inside the range the `go/types.Eval` model answers on, at most 20000
    tokens each), plus `ORG e` / `END [e]` lines.  On the corresponding source lines the model of
    `compile()` returns exactly the reference meaning: the same code, the same entry point, or
    an error when the reference says the program has no meaning. -/
theorem compile_meaning (lexTokens : String → List Token) (cfg : Config) (sc : Spec.Cfg)
    (prog : List CItem) (ameta : AsmMeta)
    (hv : cfg.validate = true) (h63 : cfg.coreSize.toNat < 2 ^ 63) (hr : CfgRel cfg sc)
    (hw : ∀ it ∈ prog, it.WF) :
    compile lexTokens cfg (render 0 prog) ameta =
      .ok ((Spec.meaningFlat sc (prog.map CItem.toItem)).map (toWD ameta)) :=
  compile_of_compileX (compileX_meaning lexTokens cfg sc prog ameta hv h63 hr hw)

/-- on these programs the answer of the model never rests on an expression outside the modelled
    subset of `go/types.Eval` -/
theorem compile_meaning_modelled (lexTokens : String → List Token) (cfg : Config) (sc : Spec.Cfg)
    (prog : List CItem) (ameta : AsmMeta)
    (hv : cfg.validate = true) (h63 : cfg.coreSize.toNat < 2 ^ 63) (hr : CfgRel cfg sc)
    (hw : ∀ it ∈ prog, it.WF) :
    compileUnmodelled lexTokens cfg (render 0 prog) ameta = false :=
  compileUnmodelled_of_compileX (compileX_meaning lexTokens cfg sc prog ameta hv h63 hr hw)

/- A syntactic way to `GoodTmpl`: `NTWF` is `WFprec` for templates, and instantiating the names of
   a well-formed template by signed numbers keeps it well-formed (`wfprec_inst`). -/

def NT.prec : NT → Nat
  | .bin op _ _ => Spec.Expr.prec op
  | _ => 6

def NT.isAtom : NT → Bool
  | .num _ | .name _ | .paren _ => true
  | _ => false

/-- `WFprec` for templates: a name counts as an atom -/
def NTWF : NT → Prop
  | .num _ => True
  | .name _ => True
  | .signs _ e => e.isAtom = true ∧ NTWF e
  | .paren e => NTWF e
  | .bin op l r => isArith op ∧ NTWF l ∧ NTWF r ∧ Spec.Expr.prec op ≤ l.prec ∧ Spec.Expr.prec op < r.prec

theorem valCST_wf (v : Int) : WFprec (valCST v) ∧ (valCST v).prec = 6 := by
  unfold valCST
  split
  · exact ⟨⟨rfl, trivial⟩, rfl⟩
  · exact ⟨trivial, rfl⟩

theorem mkSigns_wf (ss : List Bool) {c : CST} (hw : WFprec c) (hp : c.prec = 6) :
    WFprec (mkSigns ss c) := by
  cases c with
  | num n => exact ⟨rfl, trivial⟩
  | paren e => exact ⟨rfl, hw⟩
  | signs ss' e => exact hw
  | bin op l r =>
    have h5 : (CST.bin op l r).prec ≤ 5 := (prec_arith hw.1).2
    omega

theorem mkSigns_prec (ss : List Bool) (c : CST) : (mkSigns ss c).prec = 6 := by
  cases c <;> rfl

theorem wfprec_inst (σ : String → Option Int) (e : NT) (hw : NTWF e) :
    ∀ x, e.inst σ = some x → WFprec x ∧ x.prec = e.prec := by
  induction e with
  | num n => intro x hx; cases hx; exact ⟨trivial, rfl⟩
  | name s =>
    intro x hx
    obtain ⟨v, _, rfl⟩ := Option.map_eq_some_iff.1 hx
    exact valCST_wf v
  | paren e ih =>
    intro x hx
    obtain ⟨y, he, rfl⟩ := Option.map_eq_some_iff.1 hx
    exact ⟨(ih hw y he).1, rfl⟩
  | signs ss e ih =>
    intro x hx
    obtain ⟨y, he, rfl⟩ := Option.map_eq_some_iff.1 hx
    obtain ⟨hy, hp⟩ := ih hw.2 y he
    have h6 : e.prec = 6 := by cases e <;> first | rfl | cases hw.1
    exact ⟨mkSigns_wf ss hy (hp.trans h6), mkSigns_prec ss y⟩
  | bin op l r ihl ihr =>
    intro x hx
    obtain ⟨a, hl, hx⟩ := Option.bind_eq_some_iff.1 hx
    obtain ⟨b, hr, rfl⟩ := Option.map_eq_some_iff.1 hx
    obtain ⟨hop, hwl, hwr, hpl, hpr⟩ := hw
    obtain ⟨h1, h2⟩ := ihl hwl a hl
    obtain ⟨h3, h4⟩ := ihr hwr b hr
    exact ⟨⟨hop, h1, h3, h2 ▸ hpl, h4 ▸ hpr⟩, rfl⟩

theorem GoodTmpl.of_ntwf {σ : String → Option Int} {consts : List String} {e : NT}
    (hn : ∀ s ∈ e.names, s ∉ consts) (hlen : e.etoks.length ≤ 20000) (hw : NTWF e)
    (hb : ∀ x, e.inst σ = some x → NoBigLit x) : GoodTmpl σ consts e :=
  ⟨hn, hlen, fun x hx => ⟨(wfprec_inst σ e hw x hx).1, hb x hx⟩⟩

end Gmars.AsmLine
