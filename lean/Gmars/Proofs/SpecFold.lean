/-
  Limit folding in the reference: the range of `Spec.fold` (the arithmetic heart of C11), circular
  distance on a core of size M and the locality of folded pointers.
-/
import Gmars.Spec.ICWS94

namespace Gmars.Spec

theorem fold_lt (p L M : Nat) (hL : 0 < L) (hLM : L ≤ M) : fold p L M < M := by
  unfold fold
  have := Nat.mod_lt p hL
  simp only
  split <;> omega

theorem fold_range (p L M : Nat) (hL : 0 < L) (hLM : L ≤ M) :
    fold p L M ≤ L / 2 ∨ (fold p L M < M ∧ M - fold p L M ≤ L / 2) := by
  unfold fold
  have := Nat.mod_lt p hL
  simp only
  split
  · right; omega
  · left; omega

theorem fold_full (p M : Nat) : fold p M M = p % M := by
  unfold fold
  simp only
  split <;> omega

def circDist (M a b : Nat) : Nat := min ((a + M - b) % M) ((b + M - a) % M)

theorem mod_lt_two (a M : Nat) (h : a < 2 * M) : a % M = if a < M then a else a - M := by
  split
  · exact Nat.mod_eq_of_lt ‹_›
  · rw [Nat.mod_eq_sub_mod (by omega)]
    exact Nat.mod_eq_of_lt (by omega)

/-- going forward by `f` from `pc` and then back to `pc` is `f` steps -/
theorem mod_fwd (pc f M : Nat) (hpc : pc < M) : ((pc + f) % M + M - pc) % M = f % M := by
  rw [Nat.add_sub_assoc (Nat.le_of_lt hpc), Nat.mod_add_mod,
    show pc + f + (M - pc) = f + M by omega, Nat.add_mod_right]

/-- going forward by `f` and then on to `pc` the same way round is at most `M - f` steps -/
theorem mod_bwd (pc f M : Nat) (hpc : pc < M) (hf : f < M) :
    (pc + M - (pc + f) % M) % M ≤ M - f := by
  rw [mod_lt_two (pc + f) M (by omega)]
  split
  · rw [show pc + M - (pc + f) = M - f by omega]
    exact Nat.mod_le _ _
  · rw [show pc + M - (pc + f - M) = M - f + M by omega, Nat.add_mod_right]
    exact Nat.mod_le _ _

theorem fold_near (p L M pc : Nat) (hL : 0 < L) (hLM : L ≤ M) (hpc : pc < M) :
    circDist M ((pc + fold p L M) % M) pc ≤ L / 2 := by
  unfold circDist
  rcases fold_range p L M hL hLM with h | ⟨hf, h⟩
  · have := Nat.mod_le (fold p L M) M
    rw [mod_fwd _ _ _ hpc]
    omega
  · have := mod_bwd pc _ M hpc hf
    omega

end Gmars.Spec
