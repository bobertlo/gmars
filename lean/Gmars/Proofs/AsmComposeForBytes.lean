/-
  C03 / C08, composition with FOR blocks from BYTES: the canonical source lines of a structured
  program (one line per instruction, `ctr for count`, `rof`), any spacing of their words lexed into
  the tokens of `FProg.toProg`, and the composed theorem `assemble_meaning_for`.
-/
import Gmars.Proofs.AsmComposeFor

namespace Gmars
namespace AsmComposeFor
open Gmars.AsmCompose Gmars.Render Gmars.AsmLine Gmars.ForPass

def Cnt.word : Cnt → Word
  | .lit m => numWord m
  | .ctr s => identWord s

namespace FProg

def LexOK : FProg → Prop
  | nil => True
  | instr _ r => r.LexOK
  | block ct n body r =>
    identOK ct = true ∧ (∀ s, n = .ctr s → identOK s = true) ∧ body.LexOK ∧ r.LexOK

instance decLexOK : (p : FProg) → Decidable p.LexOK
  | nil => isTrue trivial
  | instr _ r => decLexOK r
  | block ct n body r =>
    have := decLexOK body
    have := decLexOK r
    inferInstanceAs (Decidable (identOK ct = true ∧ (∀ s, n = .ctr s → identOK s = true) ∧
      body.LexOK ∧ r.LexOK))

/-- the canonical source lines: words separated by one blank -/
def srcLines : FProg → List SrcLine
  | nil => []
  | instr x r => x.toS.srcLines ++ r.srcLines
  | block ct n body r =>
    pseudoSrcLine ct [identWord "for", n.word] ::
      (body.srcLines ++ pseudoSrcLine "rof" [] :: r.srcLines)

theorem cnt_word_tok (n : Cnt) (h : ∀ s, n = .ctr s → identOK s = true) : n.word.tok = n.tok := by
  cases n with
  | lit m => exact numWord_tok m
  | ctr s => exact identWord_tok (h s rfl)

theorem linesToks_eq (p : FProg) (hok : p.OK) (hlex : p.LexOK) :
    linesToks p.srcLines = flat p.toProg.render := by
  induction p with
  | nil => rfl
  | instr x r ih =>
    simp only [srcLines, linesToks_append, toProg, Prog.render, flat_cons]
    rw [SItem.toks_eq hok.1, FInstr.toX_tokens x hok.1, ih hok.2.2 hlex]
  | block ct n body r ihb ih =>
    obtain ⟨h1, h2, h3, h4⟩ := hlex
    have hfor : identOK "for" = true := by decide
    have hrof : identOK "rof" = true := by decide
    simp only [srcLines, linesToks, linesToks_append, toProg, Prog.render, flat_cons, flat_append,
      pseudoSrcLine_toks ct _ h1, pseudoSrcLine_toks "rof" _ hrof, List.map_cons, List.map_nil,
      identWord_tok hfor, cnt_word_tok n h2, ihb hok.2.2.1 h3, ih hok.2.2.2 h4, Line.flat, forTok,
      rofLine, nlTok, List.cons_append, List.nil_append]

theorem lex_tokens (p : FProg) (hok : p.OK) (hlex : p.LexOK) (ls : List SrcLine)
    (hls : ∀ l ∈ ls, l.ok (some '\n') = true) (hsame : SameLines ls p.srcLines) :
    Lex.tokens (renderLines ls) = flat p.toProg.render ++ [ForPass.eofTok] := by
  rw [lex_tokens_any_spacing ls hls hsame, p.linesToks_eq hok hlex]
  rfl

end FProg

/-- C03 ∘ C08, from bytes.  `fp` is a structured program: label-free
    instructions and label-free FOR blocks `ctr for count` … `rof`, sequential and nested to any
    depth, counts number literals or counters of enclosing blocks, counters used in the operand
    expressions.  `ls` is ANY list of source lines carrying the words of the program line by line
    (`SameLines ls fp.srcLines`) with arbitrary leading blanks and separators of blanks and tabs
    (`SrcLine.ok`), `src` any byte string the Go reader decodes to that text.  If the manual
    unrolling `U` of `fp` takes `k ≤ 12` block expansions, `CompileWarrior` returns the warrior of
    the reference meaning `Spec.meaning` of the item program (FOR blocks as `Spec.Item.for_`
    nodes, unrolled by the reference itself), or an error exactly when the reference rejects it.

    Hypotheses: `fp.OK`, `fp.LexOK` (identifiers; opcode words; counters are label words; no
    shadowing), the side conditions of `compile_meaning_labels` on the unrolled program `U`
    (`ProgWF`), `fp.Closed []` (every name is the counter of an enclosing block), and the
    reference's fuel `U.length + k < 100000`. -/
theorem assemble_meaning_for (cfg : Config) (sc : Spec.Cfg) (fp : FProg)
    (U : List FInstr) (k : Nat) (hu : FUnroll fp U k) (hk : k ≤ 12) (hok : fp.OK) (hlex : fp.LexOK)
    (hfuel : U.length + k < 100000)
    (hv : cfg.validate = true) (h63 : cfg.coreSize.toNat < 2 ^ 63) (hr : CfgRel cfg sc)
    (hclosed : fp.Closed [])
    (hw : ProgWF sc.M [] 0 (U.map FInstr.toL))
    (ls : List SrcLine) (hls : ∀ l ∈ ls, l.ok (some '\n') = true) (hsame : SameLines ls fp.srcLines)
    (src : List UInt8) (hsrc : decodeRunes src = renderLines ls) :
    assemble cfg src =
      match Spec.meaning sc fp.toItems with
      | some m => .ok (toWD {} m)
      | none => .err := by
  refine assemble_meaning_for_lexed cfg sc fp U k hu hk hok hfuel hv h63 hr hclosed hw src ?_
  unfold lexBytes
  rw [hsrc, fp.lex_tokens hok hlex ls hls hsame]

/-- with 13 or more block expansions `CompileWarrior` gives up (finding F12), from bytes -/
theorem assemble_for_too_deep_bytes (cfg : Config) (fp : FProg) (U : List FInstr) (k : Nat)
    (hu : FUnroll fp U k) (hk : 13 ≤ k) (hok : fp.OK) (hlex : fp.LexOK)
    (ls : List SrcLine) (hls : ∀ l ∈ ls, l.ok (some '\n') = true) (hsame : SameLines ls fp.srcLines)
    (src : List UInt8) (hsrc : decodeRunes src = renderLines ls) :
    assemble cfg src = .err := by
  rw [assemble_eq_tokens]
  unfold lexBytes
  rw [hsrc, fp.lex_tokens hok hlex ls hls hsame]
  exact assemble_for_too_deep cfg fp U k hu hk hok

theorem assemble_meaning_for_ascii (cfg : Config) (sc : Spec.Cfg) (fp : FProg)
    (U : List FInstr) (k : Nat) (hu : FUnroll fp U k) (hk : k ≤ 12) (hok : fp.OK) (hlex : fp.LexOK)
    (hfuel : U.length + k < 100000)
    (hv : cfg.validate = true) (h63 : cfg.coreSize.toNat < 2 ^ 63) (hr : CfgRel cfg sc)
    (hclosed : fp.Closed [])
    (hw : ProgWF sc.M [] 0 (U.map FInstr.toL))
    (ls : List SrcLine) (hls : ∀ l ∈ ls, l.ok (some '\n') = true) (hsame : SameLines ls fp.srcLines)
    (hascii : ∀ c ∈ renderLines ls, c.toNat < 128) :
    assemble cfg (asciiBytes (renderLines ls)) =
      match Spec.meaning sc fp.toItems with
      | some m => .ok (toWD {} m)
      | none => .err :=
  assemble_meaning_for cfg sc fp U k hu hk hok hlex hfuel hv h63 hr hclosed hw ls hls hsame _
    (decodeRunes_ascii _ hascii)

theorem assemble_meaning_for_utf8 (cfg : Config) (sc : Spec.Cfg) (fp : FProg)
    (U : List FInstr) (k : Nat) (hu : FUnroll fp U k) (hk : k ≤ 12) (hok : fp.OK) (hlex : fp.LexOK)
    (hfuel : U.length + k < 100000)
    (hv : cfg.validate = true) (h63 : cfg.coreSize.toNat < 2 ^ 63) (hr : CfgRel cfg sc)
    (hclosed : fp.Closed [])
    (hw : ProgWF sc.M [] 0 (U.map FInstr.toL))
    (ls : List SrcLine) (hls : ∀ l ∈ ls, l.ok (some '\n') = true) (hsame : SameLines ls fp.srcLines) :
    assemble cfg (String.ofList (renderLines ls)).toUTF8.data.toList =
      match Spec.meaning sc fp.toItems with
      | some m => .ok (toWD {} m)
      | none => .err :=
  assemble_meaning_for cfg sc fp U k hu hk hok hlex hfuel hv h63 hr hclosed hw ls hls hsame _
    (decodeRunes_toUTF8 _)

end AsmComposeFor
end Gmars
