/-
  C04 / C13: the API calls.  `SpawnWarrior` (`spawn_sim`) and any call (`applyOp_sim`) in the shape
  of Sched: never a panic and `WF ∧ CodeOK` kept for every core size, and within the bounds of C01
  the simulation relation `Rel` with the reference state machine `Spec.Api` is kept.  One fold over
  call sequences gives `wf_reachable` and `api_refines`.  At the end: `SpawnWarrior` sees its offset
  modulo the core size only (`spawn_any_offset`), model and reference, with the offset 2⁶⁴−1 as example.
-/
import Gmars.Proofs.Sched

namespace Gmars
open Spec

def WarriorData.sig (d : WarriorData) : List SInstr × Nat :=
  (d.code.toList.map Instr.abs, d.start.toNat)

def Sim.sig (s : Sim) : List (List SInstr × Nat) :=
  (s.warriors.map (·.data)).toList.map WarriorData.sig

/-- `Rel` does not mention the warriors' code and start offsets (the scheduler never looks at
    them); `SpawnWarrior` does, so the reference warriors must carry the same data -/
def DataRel (s : Sim) (a : Api) : Prop := a.sig = s.sig

theorem DataRel.get {s : Sim} {a : Api} (h : DataRel s a) (i : Nat) (hi : i < s.warriors.size)
    (hi' : i < a.ws.length) :
    a.ws[i].code = s.warriors[i].data.code.toList.map Instr.abs ∧
      a.ws[i].start = s.warriors[i].data.start.toNat := by
  have h1 := congrArg (fun l => l[i]?) h
  simp only [Api.sig, Sim.sig, List.getElem?_map, Array.toList_map, List.map_map,
    List.getElem?_eq_getElem hi', Array.getElem?_toList, Array.getElem?_eq_getElem hi,
    Option.map_some, Option.some.injEq, Function.comp] at h1
  exact ⟨congrArg Prod.fst h1, congrArg Prod.snd h1⟩

/-- what makes the `uint64` arithmetic of `SpawnWarrior` agree with the reference -/
def WarriorData.StartOK (d : WarriorData) : Prop :=
  0 ≤ d.start ∧ d.start < 2 ^ 63 ∧ d.code.size < 2 ^ 63

/-- below 2^63 so that `off % m + Address(start)` and `off % m + i` do not wrap around 2^64 for a
    core of at most 2^63 cells; `SpawnWarrior` reduces the offset modulo the core size first, so
    nothing is asked of the offset -/
def StartsOK (s : Sim) : Prop := ∀ d ∈ (s.warriors.map (·.data)).toList, d.StartOK

theorem StartsOK.get {s : Sim} (h : StartsOK s) (i : Nat) (hi : i < s.warriors.size) :
    s.warriors[i].data.StartOK := by
  apply h
  rw [Array.toList_map, List.mem_map]
  exact ⟨s.warriors[i], Array.getElem_mem_toList hi, rfl⟩

theorem Keep.sig {s s' : Sim} (h : Keep s s') : s'.sig = s.sig := by
  unfold Sim.sig; rw [h.data]

theorem Keep.dataRel {s s' : Sim} {a a' : Api} (h : Keep s s') (ha : a'.sig = a.sig)
    (hd : DataRel s a) : DataRel s' a' := by
  unfold DataRel; rw [ha, h.sig]; exact hd

theorem Keep.startsOK {s s' : Sim} (h : Keep s s') (hs : StartsOK s) : StartsOK s' := by
  unfold StartsOK; rw [h.data]; exact hs

theorem abs_default : Instr.abs default = (default : SInstr) := rfl

theorem absCore_replicate (n : Nat) :
    (Array.replicate n (default : Instr)).toList.map Instr.abs = List.replicate n default := by
  simp only [Array.toList_replicate, List.map_replicate, abs_default]

theorem new_rel {c : Config} {s : Sim} (h : Sim.new c = some s) :
    Rel s (Api.new c.coreSize.toNat (clampLimit c.readLimit c.coreSize).toNat
      (clampLimit c.writeLimit c.coreSize).toNat c.processes.toNat c.cycles.toNat) := by
  obtain ⟨-, rfl⟩ := new_eq h
  refine ⟨rfl, rfl, rfl, rfl, rfl, ?_, rfl, rfl, ?_⟩
  · simp only [Api.new, Sim.absCore, absCore_replicate]
  · intro i hi
    simp at hi

theorem new_dataRel {c : Config} {s : Sim} (h : Sim.new c = some s) (r w : Nat) :
    DataRel s (Api.new c.coreSize.toNat r w c.processes.toNat c.cycles.toNat) ∧ StartsOK s := by
  obtain ⟨-, rfl⟩ := new_eq h
  refine ⟨by simp [DataRel, Api.sig, Sim.sig, Api.new], ?_⟩
  intro d hd
  simp at hd

theorem addWarrior_rel {s : Sim} {a : Api} {d : WarriorData} (h : Rel s a) :
    Rel (s.addWarrior d) (a.add (d.code.toList.map Instr.abs) d.start.toNat) := by
  refine ⟨h.M, h.R, h.W, h.P, h.C, h.core, h.cycles, ?_, ?_⟩
  · simp only [Api.add, Sim.addWarrior, List.length_append, List.length_cons, List.length_nil,
      Array.size_push, h.len]
  · intro i hi hi'
    simp only [Api.add, Sim.addWarrior, Array.getElem_push, List.getElem_append, h.len]
    by_cases h1 : i < s.warriors.size
    · simp only [h1, dite_true]
      exact h.ws i h1 _
    · simp only [h1, dite_false, List.getElem_singleton]
      exact ⟨rfl, fun hne => absurd rfl hne⟩

theorem addWarrior_dataRel {s : Sim} {a : Api} {d : WarriorData} (h : DataRel s a) :
    DataRel (s.addWarrior d) (a.add (d.code.toList.map Instr.abs) d.start.toNat) := by
  unfold DataRel at h ⊢
  simp only [Api.sig, Api.add, Sim.sig, Sim.addWarrior, List.map_append, List.map_cons,
    List.map_nil, Array.map_push, Array.toList_push]
  rw [← Api.sig, h]
  rfl

theorem addWarrior_startsOK {s : Sim} {d : WarriorData} (h : StartsOK s) (hd : d.StartOK) :
    StartsOK (s.addWarrior d) := by
  intro d' hd'
  simp only [Sim.addWarrior, Array.map_push, Array.toList_push, List.mem_append,
    List.mem_singleton] at hd'
  rcases hd' with hd' | hd'
  · exact h d' hd'
  · rw [hd']; exact hd

theorem reset_rel {s : Sim} {a : Api} (h : Rel s a) : Rel s.reset a.reset := by
  refine ⟨h.M, h.R, h.W, h.P, h.C, ?_, rfl, ?_, ?_⟩
  · simp only [Api.reset, Sim.reset, Sim.report, Sim.absCore, absCore_replicate, h.M]
  · simp only [Api.reset, Sim.reset, Sim.report, List.length_map, Array.size_map, h.len]
  · intro i hi hi'
    simp only [Api.reset, Sim.reset, Sim.report, List.getElem_map, Array.getElem_map]
    exact ⟨rfl, fun hne => absurd rfl hne⟩

theorem reset_keep (s : Sim) : Keep s s.reset := by
  refine ⟨rfl, rfl, ?_⟩
  simp only [Sim.reset, Sim.report, Array.map_map]
  rfl

theorem reset_dataRel {s : Sim} {a : Api} (h : DataRel s a) : DataRel s.reset a.reset :=
  (reset_keep s).dataRel a.reset_sig h

theorem reset_startsOK {s : Sim} (h : StartsOK s) : StartsOK s.reset :=
  (reset_keep s).startsOK h

theorem intToAddr_toNat (i : Int) (h0 : 0 ≤ i) (h1 : i.toNat < 2 ^ 64) :
    (intToAddr i).toNat = i.toNat := by
  unfold intToAddr
  rw [Int.emod_eq_of_lt h0 (by omega)]
  exact UInt64.toNat_ofNat_of_lt' h1

def Sim.spawned (s : Sim) (i : Nat) (h : i < s.warriors.size) (mem : Array Instr) (q : PQ)
    (off : UInt64) : Sim :=
  ({ s with mem := mem,
            warriors := s.warriors.set i { s.warriors[i] with pq := some q, state := .alive } h,
            living := s.living + 1 } : Sim).report
    { typ := .warriorSpawn, wi := Int.ofNat s.warriors[i].index, addr := off % s.m }

theorem spawn_eq (s : Sim) (wi : Int) (off : UInt64) (h0 : 0 ≤ wi) (hc : wi < s.warriorCount)
    (hlt : wi.toNat < s.warriors.size) (hst : s.warriors[wi.toNat].state ≠ .alive)
    (hm : s.m ≠ 0) (mem : Array Instr) (q : PQ)
    (hmem : (List.range s.warriors[wi.toNat].data.code.size).foldlM (fun (mem : Array Instr) i =>
          let a := ((off % s.m + UInt64.ofNat i) % s.m).toNat
          if h : a < mem.size then Except.ok (mem.set a s.warriors[wi.toNat].data.code[i]! h)
          else Except.error Panic.index) s.mem = .ok mem)
    (hq : (PQ.new s.maxProcs).push
      ((off % s.m + intToAddr s.warriors[wi.toNat].data.start) % s.m) = .ok q) :
    s.spawn wi off = .ok (s.spawned wi.toNat hlt mem q (off % s.m), true) := by
  unfold Sim.spawn
  have hbad : (decide (wi < 0) || decide (wi ≥ s.warriorCount)) = false := by
    simp only [Bool.or_eq_false_iff, decide_eq_false_iff_not]
    omega
  have halive : (s.warriors[wi.toNat].state == WState.alive) = false :=
    beq_eq_false_iff_ne.mpr hst
  have hm0 : (s.m == 0) = false := beq_eq_false_iff_ne.mpr hm
  rw [hbad]
  simp only [Bool.false_eq_true, if_false, dif_pos hlt, halive, hm0]
  dsimp only at hmem
  simp only [hmem, hq, bind, Except.bind]
  rfl

theorem spawn_reject_model (s : Sim) (wi : Int) (off : UInt64)
    (h : wi < 0 ∨ wi ≥ s.warriorCount ∨
      ∃ hlt : wi.toNat < s.warriors.size, s.warriors[wi.toNat].state = .alive) :
    s.spawn wi off = .ok (s, false) := by
  unfold Sim.spawn
  by_cases hbad : (decide (wi < 0) || decide (wi ≥ s.warriorCount)) = true
  · rw [if_pos hbad]
  · rw [if_neg hbad]
    simp only [Bool.or_eq_true, decide_eq_true_eq, not_or] at hbad
    rcases h with h | h | ⟨hlt, h⟩
    · exact absurd h hbad.1
    · exact absurd h hbad.2
    · rw [dif_pos hlt]
      simp only [h, beq_self_eq_true, if_true]

/-- The loop of `SpawnWarrior` that copies the code into the core, walked once: it never leaves the
    core and keeps the fields below the core size; where `off + i` does not wrap it is `loadAt`. -/
theorem spawn_copy (m off : UInt64) (code : Array Instr) (hm : 0 < m.toNat) :
    ∀ (l : List Nat) (mem : Array Instr), (∀ i ∈ l, i < code.size) → mem.size = m.toNat →
      Ok (l.foldlM (fun (mem : Array Instr) i =>
          let a := ((off + UInt64.ofNat i) % m).toNat
          if h : a < mem.size then Except.ok (mem.set a code[i]! h)
          else Except.error Panic.index) mem)
        (fun mem' => mem'.size = m.toNat ∧
          ((∀ c ∈ code.toList, c.a < m ∧ c.b < m) →
            (∀ i (h : i < mem.size), mem[i].a < m ∧ mem[i].b < m) →
            ∀ i (h : i < mem'.size), mem'[i].a < m ∧ mem'[i].b < m) ∧
          ((∀ i ∈ l, off.toNat + i < 2 ^ 64) → mem'.toList.map Instr.abs =
            l.foldl (fun c j => c.set ((off.toNat + j) % m.toNat)
              ((code.toList.map Instr.abs).getD j default)) (mem.toList.map Instr.abs)))
  | [], mem, _, hs => ⟨mem, rfl, hs, fun _ hf => hf, fun _ => rfl⟩
  | i :: l, mem, hl, hs => by
    have ha : ((off + UInt64.ofNat i) % m).toNat < mem.size := by
      rw [hs, UInt64.toNat_mod]; exact Nat.mod_lt _ hm
    have hi : i < code.size := hl i List.mem_cons_self
    rw [List.foldlM_cons]
    dsimp only
    rw [dif_pos ha]
    refine (spawn_copy m off code hm l _ (fun j hj => hl j (List.mem_cons_of_mem _ hj))
      (by rw [Array.size_set]; exact hs)).mono fun mem' ⟨h1, h2, h3⟩ =>
        ⟨h1, fun hcode hf => h2 hcode fun j hj => ?_, fun hw => ?_⟩
    · rw [Array.getElem_set]
      split
      · rw [getElem!_pos code i hi]
        exact hcode _ (Array.getElem_mem_toList hi)
      · exact hf j (by simpa using hj)
    · rw [h3 fun j hj => hw j (List.mem_cons_of_mem _ hj), List.foldl_cons]
      congr 1
      rw [Array.toList_set, List.map_set, spawn_addr off m i (hw i List.mem_cons_self)]
      congr 1
      rw [getElem!_pos code i hi, List.getD_eq_getElem?_getD, List.getElem?_map,
        Array.getElem?_toList, Array.getElem?_eq_getElem hi]
      rfl

theorem spawn_sim (s : Sim) (wi : Int) (off : UInt64) (hwf : s.WF) :
    Ok (s.spawn wi off) (fun r => (s.CodeOK → r.1.WF) ∧ Keep s r.1 ∧ (r.2 = false → r.1 = s) ∧
      ∀ a, Rel s a → DataRel s a → StartsOK s → s.m.toNat ≤ 2 ^ 63 →
        r.2 = (a.spawn wi off.toNat).isSome ∧ Rel r.1 ((a.spawn wi off.toNat).getD a)) := by
  have hmpos : 0 < s.m.toNat := by have := hwf.m3; omega
  have hcnt : s.warriorCount = (s.warriors.size : Int) := hwf.count
  by_cases hrej : wi < 0 ∨ wi ≥ s.warriorCount ∨
      ∃ hlt : wi.toNat < s.warriors.size, s.warriors[wi.toNat].state = .alive
  · refine ⟨(s, false), spawn_reject_model s wi off hrej, fun _ => hwf, Keep.refl s, fun _ => rfl,
      fun a hr _ _ _ => ?_⟩
    have hlen := hr.len
    rw [Spec.Api.spawn_reject a wi _ (by
      rcases hrej with h | h | ⟨hlt, h⟩
      · exact Or.inl h
      · exact (Int.lt_or_le wi 0).imp id fun _ => Or.inl (by omega)
      · exact Or.inr (Or.inr ⟨hlen ▸ hlt, (hr.alive_iff hlt (hlen ▸ hlt)).mpr h⟩))]
    exact ⟨rfl, hr⟩
  · simp only [not_or, Int.not_lt, ge_iff_le, Int.not_le, not_exists] at hrej
    obtain ⟨h0, hcount, hst⟩ := hrej
    have hlt : wi.toNat < s.warriors.size := by omega
    replace hst := hst hlt
    have hmodel := spawn_eq s wi off h0 hcount hlt hst (by
      intro h; rw [h] at hmpos; simp at hmpos)
    have hom : ∀ a : Api, Rel s a → (off % s.m).toNat = off.toNat % a.M := fun a hr => by
      rw [UInt64.toNat_mod, hr.M]
    -- only the reduced offset is left: it is below the core size, so below 2^63, and no sum wraps
    generalize off % s.m = o at hmodel hom
    obtain ⟨mem, hmem, hms, hmf, hload⟩ := spawn_copy s.m o s.warriors[wi.toNat].data.code hmpos
      (List.range s.warriors[wi.toNat].data.code.size) s.mem
      (fun i hi => List.mem_range.mp hi) hwf.size
    obtain ⟨q, hpush, hqinv, hqsz, hqent, hqlen, hql⟩ := spawn_queue s.maxProcs
      ((o + intToAddr s.warriors[wi.toNat].data.start) % s.m) s.m hwf.procs
      (UInt64.mod_lt' _ _ hmpos)
    have hal : isAlive s.warriors[wi.toNat] = false := by simpa [isAlive] using hst
    refine ⟨_, hmodel mem q hmem hpush, fun hc => Sim.WF.report ?_ _,
      ⟨rfl, rfl, map_data_set rfl⟩, nofun, fun a hr hd hs hm => ?_⟩
    · refine hwf.of_set wi.toNat hlt rfl rfl rfl rfl rfl (hms.trans hwf.size.symm)
        (hmf (hc _ hlt) hwf.fields) rfl
        ⟨(hwf.warriors _ hlt).1, hqinv, hqsz, hqent, fun _ => hqlen, fun h => nomatch h⟩
        rfl rfl rfl ?_
      rw [hal]
      simp [isAlive]
    · have hlt' : wi.toNat < a.ws.length := by rw [hr.len]; exact hlt
      obtain ⟨hs0, hs1, hs2⟩ := hs.get wi.toNat hlt
      have hoff : o.toNat < 2 ^ 63 := by
        rw [hom a hr, hr.M]; exact Nat.lt_of_lt_of_le (Nat.mod_lt _ hmpos) hm
      obtain ⟨hcode, hstart⟩ := hd.get wi.toNat hlt hlt'
      have hast : a.ws[wi.toNat].st ≠ .alive := mt (hr.alive_iff hlt hlt').mp hst
      rw [← Spec.Api.spawn_mod, ← hom a hr,
        Spec.Api.spawn_eq a wi o.toNat h0 _ (List.getElem?_eq_getElem hlt') hast]
      refine ⟨rfl, hr.update (s' := s.spawned wi.toNat hlt mem q o)
        ⟨rfl, rfl, rfl, rfl, rfl, Array.size_set hlt, rfl, rfl, rfl⟩ wi.toNat ?_
        (fun j hj => ?_) { s.warriors[wi.toNat] with pq := some q, state := .alive } ?_ rfl ?_⟩
      · show mem.toList.map Instr.abs = _
        rw [hload fun i hi => by have := List.mem_range.mp hi; omega]
        unfold loadAt
        rw [hr.M, hr.core, hcode, List.length_map, Array.length_toList]
        rfl
      · exact Array.getElem?_set_ne hlt (Ne.symm hj)
      · exact Array.getElem?_set_self hlt
      · show enqueue a.P [] [(o.toNat + a.ws[wi.toNat].start) % a.M] = q.toList.map (·.toNat)
        have hsum : o.toNat + s.warriors[wi.toNat].data.start.toNat < 2 ^ 64 := by omega
        rw [enqueue_single _ _ (by rw [hr.P]; exact hwf.procs), hql, hstart, hr.M]
        simp only [List.map_cons, List.map_nil, List.cons.injEq, and_true]
        rw [UInt64.toNat_mod, UInt64.toNat_add, intToAddr_toNat _ hs0 (by omega),
          Nat.mod_eq_of_lt hsum]

theorem spawn_wf {s : Sim} {wi : Int} {off : UInt64} (hwf : s.WF) (hc : s.CodeOK) :
    ∃ s' b, s.spawn wi off = .ok (s', b) ∧ s'.WF ∧ s'.CodeOK := by
  obtain ⟨⟨s', b⟩, h, h1, h2, -⟩ := spawn_sim s wi off hwf
  exact ⟨s', b, h, h1 hc, h2.codeOK hc⟩

/-- C13 (`spawn_refines`), for EVERY offset: `SpawnWarrior` reduces it modulo the core size first. -/
theorem spawn_rel {s : Sim} {a : Api} {wi : Int} {off : UInt64} (hwf : s.WF) (hr : Rel s a)
    (hd : DataRel s a) (hs : StartsOK s) (hm : s.m.toNat ≤ 2 ^ 63) :
    match s.spawn wi off, a.spawn wi off.toNat with
    | .ok (s', true), some a' => Rel s' a'
    | .ok (s', false), none => s' = s
    | _, _ => False := by
  obtain ⟨⟨s', b⟩, h, -, -, hrej, hsim⟩ := spawn_sim s wi off hwf
  obtain ⟨hb, hrel⟩ := hsim a hr hd hs hm
  rw [h]
  cases e : a.spawn wi off.toNat <;> rw [e] at hb hrel <;> cases hb
  · exact hrej rfl
  · exact hrel

theorem reset_rel_fresh (s : Sim) :
    Rel s.reset (Api.freshWith s.m.toNat s.readLimit.toNat s.writeLimit.toNat s.maxProcs.toNat
      s.maxCycles.toNat s.sig) := by
  rw [Api.freshWith_eq]
  refine ⟨rfl, rfl, rfl, rfl, rfl, ?_, rfl, ?_, ?_⟩
  · simp only [Sim.reset, Sim.report, Sim.absCore, absCore_replicate]
  · simp only [List.length_map, Sim.sig, Array.toList_map, Array.length_toList, Sim.reset,
      Sim.report, Array.size_map]
  · intro i hi hi'
    simp only [Sim.reset, Sim.report, List.getElem_map, Array.getElem_map]
    exact ⟨rfl, fun hne => absurd rfl hne⟩

theorem freshWith_sig (M R W P C : Nat) (sigs : List (List SInstr × Nat)) :
    (Api.freshWith M R W P C sigs).sig = sigs := by
  rw [Api.freshWith_eq]
  simp only [Api.sig, List.map_map]
  exact List.map_id'' (fun _ => rfl) sigs

/-- C13: `Reset` is as good as a new simulator to which the same warriors have been added. -/
theorem reset_fresh {s : Sim} {a : Api} (h : Rel s a) (hd : DataRel s a) :
    ∃ a0, a0 = Api.freshWith a.M a.R a.W a.P a.C a.sig ∧ Rel s.reset a0 ∧ DataRel s.reset a0 ∧
      a.reset.erase = a0 := by
  refine ⟨_, rfl, ?_, ?_, a.reset_erase⟩
  · rw [h.M, h.R, h.W, h.P, h.C, hd]
    exact reset_rel_fresh s
  · exact (reset_keep s).dataRel (freshWith_sig _ _ _ _ _ a.sig) hd

/-- the documented state machine: what each API call does to the reference state (a rejected
    `SpawnWarrior` leaves it unchanged) -/
def Spec.Api.applyOp (a : Api) : ApiOp → Api
  | .add d => a.add (d.code.toList.map Instr.abs) d.start.toNat
  | .spawn wi off => (a.spawn wi off.toNat).getD a
  | .runCycle => a.cycle.1
  | .run => (a.run (a.C + 2)).1
  | .reset => a.reset

def ApiOp.OK (m : UInt64) : ApiOp → Prop
  | .add d => (∀ x ∈ d.code.toList, x.a < m ∧ x.b < m) ∧ d.StartOK
  | _ => True

/-- what C13 adds to `WF ∧ CodeOK` for a state within the bounds of C01 -/
structure Tracks (s : Sim) (a : Api) : Prop where
  bounds : s.Bounds
  starts : StartsOK s
  rel    : Rel s a
  data   : DataRel s a

theorem Tracks.step {s s' : Sim} {a a' : Api} (h : Tracks s a) (hk : Keep s s') (hr : Rel s' a')
    (hs : Api.SameSig a a') : Tracks s' a' :=
  ⟨⟨by rw [hk.m]; exact h.bounds.m32, by rw [hk.m, ← hr.R, hs.R, h.rel.R]; exact h.bounds.rl,
    by rw [hk.m, ← hr.W, hs.W, h.rel.W]; exact h.bounds.wl⟩,
   hk.startsOK h.starts, hr, hk.dataRel hs.sig h.data⟩

theorem applyOp_sim (s : Sim) (op : ApiOp) (hwf : s.WF) (hc : s.CodeOK)
    (hop : match op with
      | .add d => ∀ x ∈ d.code.toList, x.a < s.m ∧ x.b < s.m
      | _ => True) :
    Ok (s.applyOp op) (fun s' => s'.WF ∧ s'.CodeOK ∧ s'.m = s.m ∧
      ∀ a, Tracks s a → op.OK s.m → Tracks s' (a.applyOp op)) := by
  cases op with
  | add d =>
    obtain ⟨h1, h2, h3⟩ := addWarrior_spec d hwf hc hop
    exact Ok.intro ⟨h1, h2, h3, fun a h hok => ⟨⟨h.bounds.m32, h.bounds.rl, h.bounds.wl⟩,
      addWarrior_startsOK h.starts hok.2, addWarrior_rel h.rel, addWarrior_dataRel h.data⟩⟩
  | spawn wi off =>
    obtain ⟨⟨s', b⟩, hsp, hwf', hk, -, hsim⟩ := spawn_sim s wi off hwf
    refine ⟨s', by simp only [Sim.applyOp, hsp, Except.map], hwf' hc, hk.codeOK hc, hk.m,
      fun a h _ => h.step hk (hsim a h.rel h.data h.starts (by have := h.bounds.m32; omega)).2 ?_⟩
    show Api.SameSig a ((a.spawn wi off.toNat).getD a)
    cases e : a.spawn wi off.toNat with
    | none => exact Api.SameSig.refl a
    | some a' => exact Api.spawn_sameSig e
  | runCycle =>
    obtain ⟨⟨s', n⟩, hrun, ⟨hwf', -, hk, -⟩, hsim⟩ := runCycle_sim s hwf
    exact ⟨s', by simp only [Sim.applyOp, hrun, Except.map], hwf', hk.codeOK hc, hk.m,
      fun a h _ => h.step hk (hsim a h.bounds h.rel).1 a.cycle_sameSig⟩
  | run =>
    obtain ⟨⟨s', b⟩, hrun, -, hwf', -, hk, -, -, hsim⟩ :=
      runLoop_sim (s.maxCycles.toNat + 2) s hwf (by omega)
    refine ⟨s', by simp only [Sim.applyOp, hrun, Except.map], hwf', hk.codeOK hc, hk.m,
      fun a h _ => h.step hk ?_ (a.run_sameSig _)⟩
    show Rel s' (a.run (a.C + 2)).1
    rw [h.rel.C]
    exact hsim a h.bounds h.rel
  | reset =>
    obtain ⟨hwf', hc', hm⟩ := reset_spec hwf hc
    exact Ok.intro ⟨hwf', hc', hm, fun a h _ => h.step (reset_keep s) (reset_rel h.rel)
      ⟨rfl, rfl, rfl, rfl, rfl, a.reset_sig⟩⟩

/-- one fold for C04 (`wf_reachable`) and C13 (`api_refines`) -/
theorem applyOps_sim : ∀ (ops : List ApiOp) (s : Sim), s.WF → s.CodeOK →
    (∀ op ∈ ops, match op with
      | .add d => ∀ x ∈ d.code.toList, x.a < s.m ∧ x.b < s.m
      | _ => True) →
    Ok (s.applyOps ops) (fun s' => s'.WF ∧ s'.CodeOK ∧ s'.m = s.m ∧
      ∀ a, Tracks s a → (∀ op ∈ ops, op.OK s.m) → Tracks s' (ops.foldl Api.applyOp a))
  | [], s, hwf, hc, _ => Ok.intro ⟨hwf, hc, rfl, fun _ h _ => h⟩
  | op :: ops, s, hwf, hc, hops => by
    unfold Sim.applyOps
    refine Ok.bind (applyOp_sim s op hwf hc (hops op List.mem_cons_self)) ?_
    rintro s1 ⟨hwf1, hc1, hm1, hsim1⟩
    refine (applyOps_sim ops s1 hwf1 hc1 ?_).mono fun s2 ⟨h1, h2, h3, hsim2⟩ =>
      ⟨h1, h2, h3.trans hm1, fun a h hok => hsim2 _ (hsim1 a h (hok op List.mem_cons_self))
        fun op' hop' => hm1 ▸ hok op' (List.mem_cons_of_mem _ hop')⟩
    intro op' hop'
    rw [hm1]
    exact hops op' (List.mem_cons_of_mem _ hop')

theorem new_tracks {c : Config} {s : Sim} (h : Sim.new c = some s)
    (hm : c.coreSize.toNat ≤ 2 ^ 32) (hrl : c.readLimit.toNat ≤ c.coreSize.toNat)
    (hwl : c.writeLimit.toNat ≤ c.coreSize.toNat) :
    Tracks s (Api.new c.coreSize.toNat c.readLimit.toNat c.writeLimit.toNat c.processes.toNat
      c.cycles.toNat) := by
  obtain ⟨-, -, hmc⟩ := new_spec h
  obtain ⟨hd, hs⟩ := new_dataRel h c.readLimit.toNat c.writeLimit.toNat
  have hr := new_rel h
  rw [clampLimit_of_le _ _ hrl, clampLimit_of_le _ _ hwl] at hr
  exact ⟨⟨by rw [hmc]; exact hm, by rw [hmc, ← hr.R]; exact hrl, by rw [hmc, ← hr.W]; exact hwl⟩,
    hs, hr, hd⟩

/-- C04 / C13: no sequence of API calls panics, and the invariant holds after each call -/
theorem wf_reachable {c : Config} {s0 : Sim} {ops : List ApiOp} (_hv : c.validate = true)
    (hnew : Sim.new c = some s0)
    (hops : ∀ op ∈ ops, match op with
      | .add d => ∀ x ∈ d.code.toList, x.a < c.coreSize ∧ x.b < c.coreSize
      | _ => True) :
    ∃ s, s0.applyOps ops = .ok s ∧ s.WF ∧ s.CodeOK := by
  obtain ⟨hwf, hc, hm⟩ := new_spec hnew
  obtain ⟨s, h, h1, h2, -⟩ := applyOps_sim ops s0 hwf hc (by rw [hm]; exact hops)
  exact ⟨s, h, h1, h2⟩

theorem applyOps_new {c : Config} {s0 : Sim} {ops : List ApiOp} (hnew : Sim.new c = some s0)
    (hm : c.coreSize.toNat ≤ 2 ^ 32) (hrl : c.readLimit.toNat ≤ c.coreSize.toNat)
    (hwl : c.writeLimit.toNat ≤ c.coreSize.toNat) (hops : ∀ op ∈ ops, op.OK c.coreSize) :
    ∃ s, s0.applyOps ops = .ok s ∧ s.WF ∧
      Tracks s (ops.foldl Api.applyOp (Api.new c.coreSize.toNat c.readLimit.toNat
        c.writeLimit.toNat c.processes.toNat c.cycles.toNat)) := by
  obtain ⟨hwf, hc, hmc⟩ := new_spec hnew
  obtain ⟨s, h, h1, -, -, hs⟩ := applyOps_sim ops s0 hwf hc fun op hop => by
    have := hops op hop
    cases op <;> first | exact hmc ▸ this.1 | trivial
  exact ⟨s, h, h1, hs _ (new_tracks hnew hm hrl hwl) (by rw [hmc]; exact hops)⟩

/-- **C13.** Any sequence of add / spawn / RunCycle / Run / Reset calls on a newly created
    simulator never panics and leaves the model in a state related to the one the documented
    state machine reaches by the same calls. -/
theorem api_refines {c : Config} {s0 : Sim} {ops : List ApiOp} (hnew : Sim.new c = some s0)
    (hm : c.coreSize.toNat ≤ 2 ^ 32) (hrl : c.readLimit.toNat ≤ c.coreSize.toNat)
    (hwl : c.writeLimit.toNat ≤ c.coreSize.toNat) (hops : ∀ op ∈ ops, op.OK c.coreSize) :
    ∃ s, s0.applyOps ops = .ok s ∧ s.WF ∧
      Rel s (ops.foldl Api.applyOp (Api.new c.coreSize.toNat c.readLimit.toNat
        c.writeLimit.toNat c.processes.toNat c.cycles.toNat)) := by
  obtain ⟨s, h, h1, hT⟩ := applyOps_new hnew hm hrl hwl hops
  exact ⟨s, h, h1, hT.rel⟩

theorem UInt64.mod_mod_self (a m : UInt64) : a % m % m = a % m := by
  apply UInt64.toNat_inj.mp
  simp only [UInt64.toNat_mod, Nat.mod_mod]

/-- `SpawnWarrior` reduces the offset modulo the core size before it does anything with it.  No
    hypothesis at all: also for rejected calls and an ill-formed simulator. -/
theorem spawn_any_offset (s : Sim) (wi : Int) (off : UInt64) :
    s.spawn wi off = s.spawn wi (off % s.m) := by
  unfold Sim.spawn
  simp only [UInt64.mod_mod_self]

theorem spawn_congr_model (s : Sim) (wi : Int) (off off' : UInt64) (h : off % s.m = off' % s.m) :
    s.spawn wi off = s.spawn wi off' := by
  rw [spawn_any_offset s wi off, spawn_any_offset s wi off', h]

theorem spawn_any_offset_ref {s : Sim} {a : Api} {wi : Int} {off : UInt64} (hwf : s.WF)
    (hr : Rel s a) (hd : DataRel s a) (hs : StartsOK s) (hm : s.m.toNat ≤ 2 ^ 63) :
    match s.spawn wi off, a.spawn wi (off.toNat % a.M) with
    | .ok (s', true), some a' => Rel s' a'
    | .ok (s', false), none => s' = s
    | _, _ => False := by
  rw [Spec.Api.spawn_mod]
  exact spawn_rel hwf hr hd hs hm

def wrapCfg : Config := Config.quick .icws94 3 2 5 1

def wrapData : WarriorData :=
  { code := #[{ op := .mov, a := 1 }, { op := .jmp, a := 2 }], start := 1 }

/-- Offset 2^64-1 (where `off + 1` wraps to 0 and would load the second instruction over the
    first one, were the offset not reduced first): core size 3, a two-instruction warrior with
    start 1.  2^64-1 ≡ 0 (mod 3), so model and reference load cells 0, 1 and queue 1, exactly as
    for offset 0. -/
example :
    ∃ s s' a', Sim.new wrapCfg = some s ∧
      (s.addWarrior wrapData).spawn 0 18446744073709551615 = .ok (s', true) ∧
      (s.addWarrior wrapData).spawn 0 0 = .ok (s', true) ∧
      ((Api.new 3 3 3 2 5).add (wrapData.code.toList.map Instr.abs) 1).spawn 0
        18446744073709551615 = some a' ∧
      s'.absCore.map SInstr.op = [.mov, .jmp, .dat] ∧
      a'.core.map SInstr.op = [.mov, .jmp, .dat] ∧
      s'.absCore = a'.core ∧
      s'.warriors.toList.map Warrior.absQueue = [[1]] ∧ a'.ws.map SW.q = [[1]] := by
  refine ⟨_, _, _, rfl, rfl, rfl, rfl, ?_, ?_, ?_, ?_, ?_⟩ <;> decide

end Gmars
