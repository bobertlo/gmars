/-
  C17 / C02: a battle between at least two warriors never loses its last survivor: from the
  reference scheduler `Spec.Api` (`Spec.Api.run_living_pos` in SpecSched) to the
  model (`Sim.runLoop`), then to the command-line tool's battle loop (`Cli.round`, `Cli.battles`).
-/
import Gmars.Proofs.ApiRel
import Gmars.Model.Cli

namespace Gmars
open Spec

theorem runLoop_survivor_of_rel {s : Sim} {a : Api} (hp : Pre s) (hr : Rel s a)
    (h2 : a.ws.length ≥ 2) (hl : a.living ≥ 1) :
    ∃ s', s.runLoop (s.maxCycles.toNat + 2) = .ok (s', true) ∧ Rel s' (a.run (a.C + 2)).1 ∧
      s'.WF ∧ s'.results = (a.run (a.C + 2)).1.ws.map (fun w => w.st == .alive) ∧
      s'.results.length = a.ws.length ∧ s'.results.any id = true := by
  obtain ⟨⟨s', b⟩, h1, hb, hwf, -, -, -, -, hs⟩ :=
    runLoop_sim (s.maxCycles.toNat + 2) s hp.wf (by omega)
  cases hb
  have hrel := hs a hp.bounds hr
  rw [← hr.C] at hrel
  have hres := results_eq hrel
  refine ⟨s', h1, hrel, hwf, hres, ?_, ?_⟩
  · rw [hres, List.length_map, (a.run_sameSig _).len]
  · rw [hres]
    exact Api.any_alive_of_living _ (a.run_living_pos _ h2 hl)

theorem runLoop_survivor {s : Sim} (hp : Pre s) (h2 : s.warriors.size ≥ 2) (hl : s.living ≥ 1) :
    ∃ s', s.runLoop (s.maxCycles.toNat + 2) = .ok (s', true) ∧ s'.WF ∧
      s'.results.length = s.warriors.size ∧ s'.results.any id = true := by
  have hr := Rel.toApi s
  rw [hr.living hp.wf] at hl
  obtain ⟨s', h1, _, hwf, _, hlen, hany⟩ :=
    runLoop_survivor_of_rel hp hr (by rw [hr.len]; exact h2) (Int.ofNat_le.mp hl)
  exact ⟨s', h1, hwf, by rw [hlen, hr.len], hany⟩

theorem two_of_any {a1 a2 : Bool} (h : [a1, a2].any id = true) : (a1, a2) ≠ (false, false) := by
  intro hc; cases hc; simp at h

theorem pair_of_length_two {α : Type} : ∀ {l : List α}, l.length = 2 → ∃ a b, l = [a, b]
  | [a, b], _ => ⟨a, b, rfl⟩

theorem runLoop_survivor_two {s : Sim} (hp : Pre s) (h2 : s.warriors.size = 2)
    (hl : s.living ≥ 1) :
    ∃ s' a1 a2, s.runLoop (s.maxCycles.toNat + 2) = .ok (s', true) ∧ s'.results = [a1, a2] ∧
      (a1, a2) ≠ (false, false) := by
  obtain ⟨s', h1, _, hlen, hany⟩ := runLoop_survivor hp (by omega) hl
  obtain ⟨a1, a2, hres⟩ := pair_of_length_two (hlen.trans h2)
  rw [hres] at hany
  exact ⟨s', a1, a2, h1, hres, two_of_any hany⟩

theorem add_spawn_sim {s : Sim} {a : Api} (hwf : s.WF) (hc : s.CodeOK) (h : Tracks s a)
    (d : WarriorData) (hcode : ∀ x ∈ d.code.toList, x.a < s.m ∧ x.b < s.m) (hstart : d.StartOK)
    (wi : Int) (h0 : 0 ≤ wi) (hwi : wi.toNat = s.warriors.size) (off : UInt64) :
    ∃ s' a', (s.addWarrior d).spawn wi off = .ok (s', true) ∧
      (a.add (d.code.toList.map Instr.abs) d.start.toNat).spawn wi off.toNat = some a' ∧
      s'.WF ∧ s'.CodeOK ∧ Tracks s' a' ∧ s'.m = s.m ∧
      s'.warriors.size = s.warriors.size + 1 ∧ a'.living = a.living + 1 := by
  obtain ⟨_, hA, hwfA, hcA, -, hsimA⟩ := applyOp_sim s (.add d) hwf hc hcode
  cases hA
  have hT : Tracks (s.addWarrior d) (a.add (d.code.toList.map Instr.abs) d.start.toNat) :=
    hsimA a h ⟨hcode, hstart⟩
  obtain ⟨⟨s', b⟩, hsp, hwf', hk, -, hsim⟩ := spawn_sim (s.addWarrior d) wi off hwfA
  obtain ⟨hb, hrel⟩ := hsim _ hT.rel hT.data hT.starts (by have := hT.bounds.m32; omega)
  obtain ⟨a', e2⟩ := Option.isSome_iff_exists.mp
    (Api.add_spawn_isSome a (d.code.toList.map Instr.abs) d.start.toNat wi h0
      (by rw [hwi, h.rel.len]) off.toNat)
  dsimp only at hb hrel hwf' hk
  rw [e2] at hb hrel
  cases hb
  refine ⟨s', a', hsp, e2, hwf' hcA, hk.codeOK hcA, hT.step hk hrel (Api.spawn_sameSig e2), hk.m,
    ?_, ?_⟩
  · rw [hk.wsize]; simp only [Sim.addWarrior, Array.size_push]
  · rw [Spec.Api.spawn_living _ a' wi off.toNat e2]
    simp only [Api.living, Api.add, List.filter_append, List.length_append]
    rfl

/-- the reference battle of the command-line tool: a fresh simulator, warrior 1 spawned at 0,
    warrior 2 at `place`, then `Run` -/
def refBattle (cfg : Config) (w1 w2 : WarriorData) (place : Nat) : Option Api := do
  let a0 := Api.new cfg.coreSize.toNat cfg.readLimit.toNat cfg.writeLimit.toNat
    cfg.processes.toNat cfg.cycles.toNat
  let a1 ← (a0.add (w1.code.toList.map Instr.abs) w1.start.toNat).spawn 0 0
  let a2 ← (a1.add (w2.code.toList.map Instr.abs) w2.start.toNat).spawn 1 place
  some (a2.run (a2.C + 2)).1

theorem refBattle_isSome (cfg : Config) (w1 w2 : WarriorData) (place : Nat) :
    (refBattle cfg w1 w2 place).isSome = true :=
  rfl

structure RoundPre (cfg : Config) (w1 w2 : WarriorData) : Prop where
  core32 : cfg.coreSize.toNat ≤ 2 ^ 32
  rl     : cfg.readLimit.toNat ≤ cfg.coreSize.toNat
  wl     : cfg.writeLimit.toNat ≤ cfg.coreSize.toNat
  code1  : ∀ x ∈ w1.code.toList, x.a < cfg.coreSize ∧ x.b < cfg.coreSize
  start1 : w1.StartOK
  code2  : ∀ x ∈ w2.code.toList, x.a < cfg.coreSize ∧ x.b < cfg.coreSize
  start2 : w2.StartOK

/-- what `Config.quick` (the command line without a preset) provides -/
theorem RoundPre.quick {mode : SimMode} {core procs cycles len : UInt64} {w1 w2 : WarriorData}
    (h32 : core.toNat ≤ 2 ^ 32)
    (code1 : ∀ x ∈ w1.code.toList, x.a < core ∧ x.b < core) (start1 : w1.StartOK)
    (code2 : ∀ x ∈ w2.code.toList, x.a < core ∧ x.b < core) (start2 : w2.StartOK) :
    RoundPre (Config.quick mode core procs cycles len) w1 w2 :=
  ⟨h32, Nat.le_refl _, Nat.le_refl _, code1, start1, code2, start2⟩

theorem Cli.round_two_eq (cfg : Config) (w1 w2 : WarriorData) (place : UInt64)
    (s0 s1 s2 s3 : Sim) (b : Bool) (hnew : Sim.new cfg = some s0)
    (h1 : (s0.addWarrior w1).spawn 0 0 = .ok (s1, true))
    (h2 : (s1.addWarrior w2).spawn 1 place = .ok (s2, true))
    (h3 : s2.runLoop (s2.maxCycles.toNat + 2) = .ok (s3, b)) :
    Cli.round cfg [w1, w2] place = some s3.results := by
  simp [Cli.round, hnew, h1, h2, h3, Except.toOption]

theorem Cli.round_invalid (cfg : Config) (ws : List WarriorData) (place : UInt64)
    (h : cfg.validate = false) : Cli.round cfg ws place = none := by
  simp only [Cli.round, new_none h, Option.bind_eq_bind, Option.bind_none]

theorem round_refines {cfg : Config} {w1 w2 : WarriorData} {place : UInt64}
    (hv : cfg.validate = true) (hpre : RoundPre cfg w1 w2) :
    ∃ (s3 : Sim) (a1 a2 : Api),
      ((Api.new cfg.coreSize.toNat cfg.readLimit.toNat cfg.writeLimit.toNat cfg.processes.toNat
          cfg.cycles.toNat).add (w1.code.toList.map Instr.abs) w1.start.toNat).spawn 0 0
        = some a1 ∧
      (a1.add (w2.code.toList.map Instr.abs) w2.start.toNat).spawn 1 place.toNat = some a2 ∧
      Cli.round cfg [w1, w2] place = some s3.results ∧
      refBattle cfg w1 w2 place.toNat = some (a2.run (a2.C + 2)).1 ∧
      s3.results = (a2.run (a2.C + 2)).1.ws.map (fun w => w.st == .alive) ∧
      s3.results.length = 2 ∧ s3.results.any id = true := by
  obtain ⟨s0, hnew⟩ := new_some hv
  obtain ⟨hwf0, hc0, hm0⟩ := new_spec hnew
  have hT0 := new_tracks hnew hpre.core32 hpre.rl hpre.wl
  have hsz0 : s0.warriors.size = 0 := by rw [← hT0.rel.len]; rfl
  obtain ⟨s1, a1, e1, f1, hwf1, hc1, hT1, hm1, hsz1, _⟩ :=
    add_spawn_sim hwf0 hc0 hT0 w1 (by rw [hm0]; exact hpre.code1) hpre.start1 0 (Int.le_refl _)
      (by rw [hsz0]; rfl) 0
  obtain ⟨s2, a2, e2, f2, hwf2, -, hT2, _, hsz2, hl2⟩ :=
    add_spawn_sim hwf1 hc1 hT1 w2 (by rw [hm1, hm0]; exact hpre.code2) hpre.start2 1 (by decide)
      (by rw [hsz1, hsz0]; rfl) place
  have hlen2 : a2.ws.length = 2 := by rw [hT2.rel.len, hsz2, hsz1, hsz0]
  obtain ⟨s3, h3, _, _, hres, hlen, hany⟩ :=
    runLoop_survivor_of_rel ⟨hwf2, hT2.bounds.m32, hT2.bounds.rl, hT2.bounds.wl⟩ hT2.rel
      (by omega) (by omega)
  rw [UInt64.toNat_zero] at f1
  refine ⟨s3, a1, a2, f1, f2, Cli.round_two_eq cfg w1 w2 place s0 s1 s2 s3 true hnew e1 e2 h3, ?_,
    hres, hlen.trans hlen2, hany⟩
  simp only [refBattle, f1, f2, Option.bind_eq_bind, Option.bind_some]

/-- C17. The survivors the command-line tool reports for a round are those of the reference
    battle: never a fault, for ANY placement (any 64-bit offset). -/
theorem fixed_output {cfg : Config} {w1 w2 : WarriorData} {place : UInt64}
    (hv : cfg.validate = true) (hpre : RoundPre cfg w1 w2) :
    Cli.round cfg [w1, w2] place =
      (refBattle cfg w1 w2 place.toNat).map (fun a => a.ws.map (fun w => w.st == .alive)) ∧
    (refBattle cfg w1 w2 place.toNat).isSome = true := by
  obtain ⟨s3, _, a2, _, _, h1, h2, h4, _, _⟩ := round_refines (place := place) hv hpre
  rw [h1, h2, h4]
  exact ⟨rfl, rfl⟩

/-- `fixed_output` with `refBattle` unfolded -/
theorem fixed_output_explicit {cfg : Config} {w1 w2 : WarriorData} {place : UInt64}
    (hv : cfg.validate = true) (hpre : RoundPre cfg w1 w2) :
    ∃ a1 a2 : Api,
      ((Api.new cfg.coreSize.toNat cfg.readLimit.toNat cfg.writeLimit.toNat cfg.processes.toNat
          cfg.cycles.toNat).add (w1.code.toList.map Instr.abs) w1.start.toNat).spawn 0 0
        = some a1 ∧
      (a1.add (w2.code.toList.map Instr.abs) w2.start.toNat).spawn 1 place.toNat = some a2 ∧
      Cli.round cfg [w1, w2] place =
        some ((a2.run (a2.C + 2)).1.ws.map (fun w => w.st == .alive)) := by
  obtain ⟨s3, a1, a2, f1, f2, h1, _, h4, _, _⟩ := round_refines (place := place) hv hpre
  exact ⟨a1, a2, f1, f2, by rw [h1, h4]⟩

theorem cli_round_ok {cfg : Config} {w1 w2 : WarriorData} {place : UInt64} {alive : List Bool}
    (hpre : RoundPre cfg w1 w2)
    (h : Cli.round cfg [w1, w2] place = some alive) :
    alive.length = 2 ∧ alive ≠ [false, false] := by
  cases hv : cfg.validate
  · rw [Cli.round_invalid cfg _ place hv] at h; cases h
  · obtain ⟨s3, _, a2, _, _, h1, _, _, hlen, hany⟩ := round_refines (place := place) hv hpre
    rw [h1] at h
    cases h
    refine ⟨hlen, ?_⟩
    intro hc
    rw [hc] at hany
    simp at hany

/-- tallying a two-warrior round with a survivor: exactly one of "warrior 1 wins", "warrior 2
    wins", "tie" is counted, and a tie is counted for both -/
theorem Cli.Tally.add_two (t : Cli.Tally) (a1 a2 : Bool) (h : [a1, a2] ≠ [false, false]) :
    (t.add [a1, a2]).w1win + (t.add [a1, a2]).w2win + (t.add [a1, a2]).w1tie
        = t.w1win + t.w2win + t.w1tie + 1 ∧
    ((t.add [a1, a2]).w1tie : Int) - (t.add [a1, a2]).w2tie = (t.w1tie : Int) - t.w2tie := by
  cases a1 <;> cases a2
  · exact absurd rfl h
  all_goals
    simp only [Cli.Tally.add, if_true, Bool.false_eq_true, if_false, and_true]
    omega

/-- for any kind of round: placements for the battle loop (`cli_tally_partition`), pairs of results
    for `Props.C17.tally_partition_from` -/
theorem Cli.tally_foldlM {α : Type} (round : α → Option (List Bool)) (places : List α)
    (hround : ∀ p ∈ places, ∀ alive, round p = some alive →
      alive.length = 2 ∧ alive ≠ [false, false])
    (t t' : Cli.Tally)
    (h : places.foldlM (fun t p => (round p).map t.add) t = some t') :
    t'.w1win + t'.w2win + t'.w1tie = t.w1win + t.w2win + t.w1tie + places.length ∧
    (t'.w1tie : Int) - t'.w2tie = (t.w1tie : Int) - t.w2tie := by
  induction places generalizing t with
  | nil =>
    cases h
    exact ⟨rfl, rfl⟩
  | cons p ps ih =>
    rw [List.foldlM_cons] at h
    cases hr : round p with
    | none => rw [hr] at h; cases h
    | some alive =>
      rw [hr] at h
      obtain ⟨hlen, hne⟩ := hround p List.mem_cons_self alive hr
      obtain ⟨a1, a2, rfl⟩ := pair_of_length_two hlen
      obtain ⟨g1, g2⟩ := t.add_two a1 a2 hne
      obtain ⟨k1, k2⟩ := ih (fun q hq => hround q (List.mem_cons_of_mem _ hq)) _ h
      rw [k1, k2, g1, g2, List.length_cons]
      exact ⟨by omega, rfl⟩

/-- C17. Whatever the placements, the tallies the command-line tool prints for a two-warrior
    battle add up: every round is a win for warrior 1, a win for warrior 2 or a tie, and both
    warriors are credited with the same number of ties. -/
theorem cli_tally_partition {cfg : Config} {w1 w2 : WarriorData} {places : List UInt64}
    {t : Cli.Tally} (hpre : RoundPre cfg w1 w2)
    (h : Cli.battles cfg [w1, w2] places = some t) :
    t.w1win + t.w2win + t.w1tie = places.length ∧ t.w1tie = t.w2tie := by
  obtain ⟨h1, h2⟩ := Cli.tally_foldlM (fun p => Cli.round cfg [w1, w2] p) places
    (fun p _ alive hr => cli_round_ok hpre hr) {} t h
  constructor
  · simpa using h1
  · have h3 : (t.w1tie : Int) - t.w2tie = 0 := by simpa using h2
    omega

/-- so the hypothesis `h` of `cli_tally_partition` is met for every valid configuration -/
theorem cli_battles_some {cfg : Config} {w1 w2 : WarriorData} {places : List UInt64}
    (hv : cfg.validate = true) (hpre : RoundPre cfg w1 w2) :
    ∃ t, Cli.battles cfg [w1, w2] places = some t := by
  unfold Cli.battles
  generalize ({} : Cli.Tally) = t0
  induction places generalizing t0 with
  | nil => exact ⟨t0, rfl⟩
  | cons p ps ih =>
    have hsome := (fixed_output (place := p) hv hpre)
    obtain ⟨a, ha⟩ := Option.isSome_iff_exists.mp hsome.2
    rw [List.foldlM_cons, hsome.1, ha]
    exact ih _

end Gmars
