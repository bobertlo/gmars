/-
  C03, lexer and parser composed: the canonical one-space rendering of a program of instruction
  statements, comment lines and empty lines, and any other spacing of the same words, is lexed and
  parsed into the source lines the program denotes (`parse_lex_any_spacing`; `parse_lex_render'` is
  the canonical spacing); the same for programs whose last line is not terminated by a newline
  (the last statement / comment is followed directly by the end of the input); a worked example.
-/
import Gmars.Proofs.RenderCompose
import Gmars.Proofs.ParserWalk

namespace Gmars.Render

/-- source lines that carry the words (and comments) of the program's
    canonical rendering, with ANY leading blanks and ANY separators of blanks and tabs that keep
    the words apart (`SrcLine.ok`), are lexed and parsed into the same result -/
theorem parse_lex_any_spacing (p : WProg) (hlex : ∀ it ∈ p.items, it.ok = true) (hp : p.toProg.OK)
    (ls : List SrcLine) (hls : ∀ l ∈ ls, l.ok (some '\n') = true)
    (hsame : SameLines ls p.srcLines) :
    parse (Lex.tokens (renderLines ls)) = .ok (some (p.toProg.lines, p.toProg.metadata)) := by
  rw [lex_tokens_any_spacing ls hls hsame, (p.lexesTo hlex).2, List.append_assoc]
  exact parse_prog p.toProg hp

/-- the canonical spacing; all hypotheses at the level of words and names -/
theorem parse_lex_render' (p : WProg) (hlex : ∀ it ∈ p.items, it.ok = true)
    (hnames : ∀ it ∈ p.items, it.NamesOK)
    (hnodup : p.toProg.labels.Nodup)
    (hpre : ∀ l ∈ p.toProg.labels, l ∉ predefined)
    (hdef : ∀ x ∈ itemsRefNames p.toProg.items, x ∈ p.toProg.labels ∨ x ∈ predefined) :
    parse (Lex.tokens (renderProgram p)) = .ok (some (p.toProg.lines, p.toProg.metadata)) :=
  parse_lex_any_spacing p hlex (p.toProg_OK hlex hnames hnodup hpre hdef) _ (p.lexesTo hlex).1
    (SameLines.refl _)

namespace Example

def idw (s : String) : Word :=
  match s.toList with
  | c :: cs => .ident c cs
  | [] => .sym ' '

def numw (s : String) : Word :=
  match s.toList with
  | c :: cs => .num c cs
  | [] => .sym ' '

/-- rendered as
    "\nimp : q mov.i # 1 + x , < 2\nx JMP 3\n\n\n;hello\n\ndat ( 0 ) , imp\n" -/
def prog : WProg :=
  { lead := 1,
    items := [
      .stmt { labels := [(idw "imp", true), (idw "q", false)], op := idw "mov.i",
              a := { mode := some '#', expr := [numw "1", .sym '+', idw "x"] },
              b := some { mode := some '<', expr := [numw "2"] } } 0,
      .stmt { labels := [(idw "x", false)], op := idw "JMP", a := { expr := [numw "3"] } } 2,
      .comment "hello".toList 1,
      .stmt { op := idw "dat", a := { expr := [.sym '(', numw "0", .sym ')'] },
              b := some { expr := [idw "imp"] } } 0 ] }

example : parse (Lex.tokens (renderProgram prog)) =
    .ok (some (prog.toProg.lines, prog.toProg.metadata)) :=
  parse_lex_render' prog (by decide +kernel) (by decide +kernel) (by decide +kernel) (by decide +kernel)
    (by decide +kernel)

end Example

inductive LastItem
  | stmt (s : Stmt)
  | comment (text : String)

/-- `s.blanks` is ignored -/
def LastItem.tokens : LastItem → List Token
  | .stmt s => labelTokens s.labels ++ ((⟨.text, s.op⟩ : Token) :: (s.a.tokens ++ s.bTokens))
  | .comment v => [(⟨.comment, v⟩ : Token)]

def LastItem.toItem : LastItem → Item
  | .stmt s => .stmt s
  | .comment v => .comment v 0

/-- the entry it makes: as with a newline, but `newlines = 0` and no empty-line entry -/
def LastItem.lines : LastItem → Int → Int → List SourceLine
  | .stmt s, ln, cl => [{ s.instrLine ln cl with newlines := 0 }]
  | .comment v, ln, _ => [{ commentLine ln v with newlines := 0 }]

def Prog.tokensLast (p : Prog) (last : LastItem) : List Token :=
  List.replicate p.lead nlTok ++ (itemsTokens p.items ++ (last.tokens ++ [eofTok]))

def Prog.linesLast (p : Prog) (last : LastItem) : List SourceLine :=
  p.lines ++ last.lines (itemsEndLine p.items (1 + p.lead)) (itemsEndCode p.items 0)

/-- the program with the last line closed by a newline after all (for the well-formedness
    conditions, which are the same) -/
def Prog.withLast (p : Prog) (last : LastItem) : Prog :=
  { lead := p.lead, items := p.items ++ [last.toItem] }

theorem itemsLabels_append (a b : List Item) : itemsLabels (a ++ b) = itemsLabels a ++ itemsLabels b := by
  induction a with
  | nil => rfl
  | cons x r ih => simp [itemsLabels, ih]

theorem itemsRefs_append (a b : List Item) (refs : List String) :
    itemsRefs (a ++ b) refs = itemsRefs b (itemsRefs a refs) := by
  induction a generalizing refs with
  | nil => rfl
  | cons x r ih => simp [itemsRefs, ih]

theorem itemsMeta_append (a b : List Item) (m : AsmMeta) :
    itemsMeta (a ++ b) m = itemsMeta b (itemsMeta a m) := by
  induction a generalizing m with
  | nil => rfl
  | cons x r ih => simp [itemsMeta, ih]

theorem final_last (last : LastItem) (hok : last.toItem.OK) (c : Ctx)
    (hf : FreshLabels last.toItem.labelNames c.symbols) :
    Final (last.tokens ++ [eofTok]) c
      { line := c.line, codeLine := c.codeLine + last.toItem.codeLines, cur := c.cur,
        metadata := last.toItem.metadata c.metadata, lines := c.lines ++ last.lines c.line c.codeLine,
        symbols := last.toItem.labelNames.reverse ++ c.symbols,
        references := last.toItem.refs c.references } := by
  cases last with
  | stmt s => exact (final_stmtU s hok none c hf).eq (by simp [LastItem.tokens, AsmLayout.cmtToks]) rfl
  | comment v => exact (final_cmtU v c).eq rfl (by simp [LastItem.toItem, LastItem.lines, commentLine,
      Item.codeLines, Item.metadata, Item.labelNames, Item.refs])

theorem parse_prog_last (p : Prog) (last : LastItem) (hp : (p.withLast last).OK) :
    parse (p.tokensLast last) =
      .ok (some (p.linesLast last, last.toItem.metadata p.metadata)) := by
  have hfresh : FreshLabels (p.labels ++ last.toItem.labelNames) predefined := by
    simpa [Prog.withLast, Prog.labels, itemsLabels_append, itemsLabels] using
      (FreshLabels_iff _ _).mpr ⟨hp.nodup, hp.notPredefined⟩
  rw [FreshLabels_append] at hfresh
  have h := lines_items p.items { line := 1 + p.lead, lines := blankLines 1 p.lead }
    (fun it hit => hp.items it (by simp [Prog.withLast, hit])) hfresh.1
  have := parse_of_lines p.lead h (final_last last (hp.items _ (by simp [Prog.withLast])) _ hfresh.2)
    (by simpa [Prog.withLast, Prog.labels, itemsRefs_append, itemsRefs, itemsLabels_append, itemsLabels,
      predefined] using hp.refs_valid)
  simpa [Prog.tokensLast, Prog.linesLast, Prog.lines, Prog.metadata] using this

inductive WLast
  | stmt (s : WStmt)
  | comment (cs : List Char)

def WLast.srcLine : WLast → SrcLine
  | .stmt s => { words := spaced s.words }
  | .comment cs => { words := [], comment := some cs }

def WLast.toLast : WLast → LastItem
  | .stmt s => .stmt (s.toStmt 0)
  | .comment cs => .comment (String.ofList (';' :: cs))

/-- the last word must end at the end of the input (a final `<` or `>` would be dropped by the
    lexer) -/
def WLast.ok : WLast → Bool
  | .stmt s => s.ok && (match s.words.getLast? with
      | some w => w.stopsBefore none
      | none => true)
  | .comment cs => cs.all (· != '\n')

def renderProgramLast (p : WProg) (last : WLast) : List Char :=
  renderLines p.srcLines ++ last.srcLine.chars

theorem WLast.srcLine_ok {last : WLast} (h : last.ok = true) : last.srcLine.ok none = true := by
  cases last with
  | comment cs =>
    simp only [WLast.ok] at h
    simp [WLast.srcLine, SrcLine.ok, wordsOK, h]
  | stmt s =>
    simp only [WLast.ok, Bool.and_eq_true] at h
    have := wordsOK_spaced_nx none s.words (WStmt.spell h.1 0).1 (fun w hw => by simpa [hw] using h.2)
    simp [WLast.srcLine, SrcLine.ok, this]

theorem WLast.toks_eq {last : WLast} (h : last.ok = true) : last.srcLine.toks = last.toLast.tokens := by
  cases last with
  | comment cs => simp [WLast.srcLine, WLast.toLast, SrcLine.toks, LastItem.tokens]
  | stmt s =>
    simp only [WLast.ok, Bool.and_eq_true] at h
    simp [WLast.srcLine, WLast.toLast, SrcLine.toks, LastItem.tokens, spaced_toks,
      (WStmt.spell h.1 0).2]

theorem parse_lex_render_last (p : WProg) (last : WLast) (hlex : ∀ it ∈ p.items, it.ok = true)
    (hlast : last.ok = true) (hp : (p.toProg.withLast last.toLast).OK) :
    parse (Lex.tokens (renderProgramLast p last)) =
      .ok (some (p.toProg.linesLast last.toLast,
                 last.toLast.toItem.metadata p.toProg.metadata)) := by
  rw [renderProgramLast,
    lex_tokens_words_last p.srcLines (p.lexesTo hlex).1 _ (WLast.srcLine_ok hlast),
    (p.lexesTo hlex).2, WLast.toks_eq hlast, List.append_assoc]
  exact parse_prog_last p.toProg last.toLast hp

end Gmars.Render
