/-
  A source program `SProg` is a label program of `AsmLine.compile_meaning_labels` (instructions with
  labels and template operands, ORG lines, a final END line) together with its layout: which labels
  carry a colon, blank lines, comment lines.  It is read three ways: `SProg.litems` (what the
  compiler theorem and the reference read), `SProg.srcLines` (the canonical source lines made of
  words, what the lexer theorem reads) and `SProg.toX` (the parser-level program).  That the three
  fit together is proved in `Gmars/Proofs/AsmCompose.lean`.
-/
import Gmars.Proofs.AsmComposeWords
import Gmars.Proofs.ParseReps
import Gmars.Proofs.AsmComposeCongr
import Gmars.Proofs.AsmTermScan

namespace Gmars
namespace AsmCompose
open Gmars.Render Gmars.AsmLine

def wOperand (o : LOperand) : WOperand := { mode := o.mode.map Mode.sym, expr := NTwords o.expr }

/-- `ls`: every label with its "followed by a colon" flag -/
def wStmt (ls : List (String × Bool)) (op : String) (md : Option String) (a : LOperand)
    (b : Option LOperand) : WStmt :=
  { labels := ls.map (fun p => (identWord p.1, p.2)), op := identWord (opString op md),
    a := wOperand a, b := b.map wOperand }

/-- a line that is not empty and the `blanks` empty lines after it -/
inductive SItem
  /-- an instruction (labels with colon flags) and `blanks` empty lines -/
  | instr (labels : List (String × Bool)) (op : String) (md : Option String) (a : LOperand)
      (b : Option LOperand) (blanks : Nat)
  /-- `ORG e` and `blanks` empty lines -/
  | org (kw : String) (e : NT) (blanks : Nat)
  /-- a comment line `;cs` and `blanks` empty lines -/
  | comment (cs : List Char) (blanks : Nat)

/-- `lead` empty lines, the items, optionally a last line `END [e]` and `trail` empty lines -/
structure SProg where
  lead : Nat := 0
  items : List SItem
  fin : Option (String × Option NT) := none
  trail : Nat := 0

def SItem.toL : SItem → Option LItem
  | .instr ls op md a b _ => some (.instr (ls.map (·.1)) op md a b)
  | .org kw e _ => some (.org kw e)
  | .comment _ _ => none

def SProg.finL (p : SProg) : List LItem :=
  match p.fin with
  | some (kw, e) => [.end_ kw e]
  | none => []

def SProg.litems (p : SProg) : List LItem := p.items.filterMap SItem.toL ++ p.finL

def pseudoSrcLine (kw : String) (ws : List Word) : SrcLine := { words := spaced (identWord kw :: ws) }

def SItem.srcLines : SItem → List SrcLine
  | .instr ls op md a b k => (WItem.stmt (wStmt ls op md a b) k).srcLines
  | .org kw e k => pseudoSrcLine kw (NTwords e) :: List.replicate k emptySrcLine
  | .comment cs k => (WItem.comment cs k).srcLines

def sitemsSrcLines : List SItem → List SrcLine
  | [] => []
  | it :: r => it.srcLines ++ sitemsSrcLines r

def SProg.finSrcLines (p : SProg) : List SrcLine :=
  match p.fin with
  | none => []
  | some (kw, e) =>
    pseudoSrcLine kw ((e.map NTwords).getD []) :: List.replicate p.trail emptySrcLine

def SProg.srcLines (p : SProg) : List SrcLine :=
  List.replicate p.lead emptySrcLine ++ (sitemsSrcLines p.items ++ p.finSrcLines)

def SItem.toX : SItem → XItem
  | .instr ls op md a b k => .base (WItem.stmt (wStmt ls op md a b) k).toItem
  | .org kw e k => .org kw e.tokens k
  | .comment cs k => .base (WItem.comment cs k).toItem

def SProg.toX (p : SProg) : XProg :=
  { lead := p.lead, items := p.items.map SItem.toX,
    fin := p.fin.map (fun q => (q.1, (q.2.map NT.tokens).getD [])),
    trail := List.replicate p.trail nlTok ++ [eofTok] }

def SProg.meta (p : SProg) : AsmMeta := p.toX.metadata

def SItem.LexOK : SItem → Prop
  | .instr ls op md a b _ =>
    (∀ p ∈ ls, identOK p.1 = true) ∧ identOK (opString op md) = true ∧ NTLexOK a.expr ∧
      ∀ bo, b = some bo → NTLexOK bo.expr
  | .org kw e _ => identOK kw = true ∧ NTLexOK e
  | .comment cs _ => ∀ c ∈ cs, c ≠ '\n'

instance (it : SItem) : Decidable it.LexOK := by
  cases it <;> simp only [SItem.LexOK] <;> infer_instance

structure SProg.LexOK (p : SProg) : Prop where
  items : ∀ it ∈ p.items, it.LexOK
  fin : ∀ kw e, p.fin = some (kw, e) → identOK kw = true ∧ ∀ x, e = some x → NTLexOK x

theorem mem_modeChars (m : Mode) : m.sym ∈ modeChars := by cases m <;> decide

theorem pseudoSrcLine_toks (kw : String) (ws : List Word) (hk : identOK kw = true) :
    (pseudoSrcLine kw ws).toks = (⟨.text, kw⟩ : Token) :: ws.map Word.tok := by
  simp [pseudoSrcLine, SrcLine.toks, spaced_toks, identWord_tok hk]

theorem pseudoLines_lexesTo (kw : String) {ws : List Word} {ts : List Token} (k : Nat)
    (hk : identOK kw = true) (h : Spell ws ts) :
    LexesTo (pseudoSrcLine kw ws :: List.replicate k emptySrcLine)
      ((⟨.text, kw⟩ : Token) :: (ts ++ nlTok :: List.replicate k nlTok)) := by
  have := (Spell.cons (identWord_valid hk) h).line.append (.blank k)
  rwa [identWord_tok hk, List.cons_append, List.append_assoc] at this

theorem commentItem_ok {cs : List Char} (k : Nat) (h : ∀ c ∈ cs, c ≠ '\n') :
    (WItem.comment cs k).ok = true := by
  simpa [WItem.ok] using h

theorem norm_blankLines (ln : Int) (k : Nat) : norm (blankLines ln k) = [] := by
  unfold blankLines
  split <;> rfl

theorem wOperand_toks (o : LOperand) (h : NTLexOK o.expr) :
    (wOperand o).toOperand.toks = o.expr.tokens := by
  simp [wOperand, WOperand.toOperand, NTwords_tok o.expr h]

theorem labels_val (ls : List (String × Bool)) (h : ∀ p ∈ ls, identOK p.1 = true) :
    (ls.map (fun p => (identWord p.1, p.2))).map (fun p => (p.1.tok.val, p.2)) = ls := by
  rw [List.map_map]
  refine (List.map_congr_left fun p hp => ?_).trans (List.map_id ls)
  simp [identWord_val (h p hp)]

theorem norm_stmt_lines (s : Stmt) (ln cl : Int) : norm (s.lines ln cl) = [core (s.instrLine ln cl)] := by
  unfold Stmt.lines
  cases s.b with
  | none => rfl
  | some bo =>
    simp only
    rw [norm_cons_relevant _ _ (rfl : relevant (s.instrLine ln cl) = true), norm_blankLines]

def plainComment (cs : List Char) : Prop := Compile.assertPrefix.isPrefixOf (';' :: cs) = false

instance (cs : List Char) : Decidable (plainComment cs) := by unfold plainComment; infer_instance

theorem norm_comment_lines (cs : List Char) (k : Nat) (ln cl : Int) (h : plainComment cs) :
    norm ((WItem.comment cs k).toItem.lines ln cl) = [] := by
  simp only [WItem.toItem, Item.lines]
  rw [norm_cons_irrelevant _ _ (by
    simp only [relevant, commentLine, String.toList_ofList]
    rw [h]; rfl), norm_blankLines]

theorem core_pseudoLine (ln : Int) (kw : String) (e : NT) :
    core (pseudoLine ln kw e.tokens) = (LItem.org kw e).toLine 0 := rfl

def SItem.Plain : SItem → Prop
  | .comment cs _ => plainComment cs
  | _ => True

theorem SItem.codeLines_eq (it : SItem) :
    it.toX.codeLines = if (it.toL.map LItem.isInstr).getD false then 1 else 0 := by
  cases it <;> rfl

def SItem.NamesOK : SItem → Prop
  | .instr ls op md _ _ _ => (∀ p ∈ ls, IsLabelName p.1) ∧ IsOpName (opString op md)
  | .org kw _ _ => lowerStr kw = "org"
  | .comment _ _ => True

structure SProg.NamesOK (p : SProg) : Prop where
  items : ∀ it ∈ p.items, it.NamesOK
  fin : ∀ kw e, p.fin = some (kw, e) → lowerStr kw = "end"

def LItemNames : LItem → List String
  | .instr _ _ _ a b => a.expr.names ++ (match b with | some bo => bo.expr.names | none => [])
  | .org _ e => e.names
  | .end_ _ e => match e with | some x => x.names | none => []

def SProg.labels (p : SProg) : List String := (labelsFrom 0 p.litems).map (·.1)

def SProg.names (p : SProg) : List String := p.litems.flatMap LItemNames

def notForEqu (s : String) : Prop := lowerStr s ≠ "for" ∧ lowerStr s ≠ "equ"

theorem notForEqu_op {op : String} (h : IsOpName op) : notForEqu op := by
  have h := h.2
  unfold Token.isPseudoOp at h
  constructor <;>
  · intro hf
    simp [hf] at h

theorem notForEqu_kw {kw : String} (h : lowerStr kw = "org" ∨ lowerStr kw = "end") : notForEqu kw := by
  rcases h with h | h <;> simp [notForEqu, h]

theorem noForTok_of_textIn {ts : List Token} (h : TextIn notForEqu ts) : ForPass.NoForTok ts :=
  fun t ht hty => (h t ht hty).1

theorem noEquTok_of_textIn {ts : List Token} (h : TextIn notForEqu ts) : NoEquTok ts :=
  fun t ht hty => (h t ht hty).2

end AsmCompose
end Gmars
