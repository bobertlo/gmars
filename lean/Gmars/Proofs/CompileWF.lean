/-
  The model of the compiler stage (Gmars/Model/Compile.lean): C06 "accepted programs are
  well-formed and obey the selected rule set" (`compile_wf`, `compile_88_legal`), and the
  compiler's share of C05 "the assembler neither panics nor hangs" (`compile_no_fault'`).
  `compileX_eq` and `compileFrom_eq` are the phases of `compile()` every analysis of it starts from.
-/
import Gmars.Proofs.Legal88
import Gmars.Proofs.Triple
import Gmars.Proofs.ExpandLoop

namespace Gmars
namespace Compile

/-- the compiler state `compile()` works with after `loadSymbols` -/
def symC (cfg : Config) (lines : List SourceLine) : Compiler := loadSymbols { cfg := cfg } lines

/-- … and after `expandExpressions` -/
def resC (cfg : Config) (lines : List SourceLine) (resolved : SymTab) : Compiler :=
  { symC cfg lines with values := resolved }

/-- the tail of `compile()`: length check, start expression, start check -/
def finishX (cfg : Config) (ameta : AsmMeta) (c : Compiler) (code : Array Instr) : M WarriorData :=
  if code.size > cfg.length.toNat then .error .goErr
  else
    expandExpression c c.startExpr 0 >>= fun startExpr =>
    evalM startExpr >>= fun startVal =>
    if startVal < 0 || (startVal ≥ code.size && startVal != 0) then .error .goErr
    else .ok { name := ameta.name, author := ameta.author, strategy := ameta.strategy,
               code := code, start := startVal }

theorem compileX_eq (lexTokens : String → List Token) (cfg : Config) (lines : List SourceLine)
    (ameta : AsmMeta) :
    compileX lexTokens cfg lines ameta =
      if !cfg.validate then .error .goErr
      else if graphContainsCycle (buildReferenceGraph (symC cfg lines).values) then .error .goErr
      else
        evaluateAssertions lexTokens (symC cfg lines) lines >>= fun _ =>
        optM (expandExpressions (symC cfg lines).values
                (buildReferenceGraph (symC cfg lines).values)) >>= fun resolved =>
        assembleLines (resC cfg lines resolved) lines #[] >>= fun code =>
        finishX cfg ameta (resC cfg lines resolved) code := by
  unfold compileX
  cases cfg.validate
  · rfl
  · cases h : graphContainsCycle (buildReferenceGraph (loadSymbols { cfg := cfg } lines).values)
    all_goals simp only [symC, h]; rfl

def dfltMode (c : Compiler) (ln : SourceLine) : Mode :=
  if c.legacy && lowerStr ln.op == "dat" then .immediate else .direct

def modeOf (c : Compiler) (ln : SourceLine) (s : String) : M Mode :=
  if s == "" then .ok (dfltMode c ln) else optM (c.getAddressMode s)

def opOf (c : Compiler) (ln : SourceLine) (aMode bMode : Mode) : M (Op × Modifier) :=
  if c.legacy then
    optM (getOpCode88 ln.op.toList) >>= fun op88 =>
    optM (getOpModeAndValidate88 op88 aMode bMode) >>= fun md88 => .ok (op88, md88)
  else
    match getOp94 ln.op.toList with
    | some r => .ok r
    | none => optM (getOpCode ln.op.toList) >>= fun op94 => .ok (op94, getOpMode94 op94 aMode bMode)

def operandsOf (c : Compiler) (ln : SourceLine) (op : Op) (aMode bMode : Mode) (aVal : Int) :
    M (Mode × Int × Mode × Int) :=
  if (ln.b.getD []).isEmpty then
    if op == .dat then .ok (Mode.immediate, (0 : Int), aMode, aVal)
    else .ok (aMode, aVal, bMode, (0 : Int))
  else
    expandExpression c (ln.b.getD []) ln.codeLine >>= fun bExpr =>
    evalM bExpr >>= fun bVal => .ok (aMode, aVal, bMode, bVal)

theorem assembleLine_eq (c : Compiler) (ln : SourceLine) :
    assembleLine c ln =
      modeOf c ln ln.amode >>= fun aMode =>
      modeOf c ln ln.bmode >>= fun bMode =>
      opOf c ln aMode bMode >>= fun p =>
      expandExpression c (ln.a.getD []) ln.codeLine >>= fun aExpr =>
      evalM aExpr >>= fun aVal =>
      operandsOf c ln p.1 aMode bMode aVal >>= fun q =>
      reduceMod q.2.1 (mInt c.m) >>= fun a =>
      reduceMod q.2.2.2 (mInt c.m) >>= fun b =>
      .ok { op := p.1, md := p.2, am := q.1, a := a, bm := q.2.2.1, b := b } := by
  rfl

theorem wrap64_id {i : Int} (h0 : -9223372036854775808 ≤ i) (h1 : i < 9223372036854775808) :
    wrap64 i = i := by
  unfold wrap64
  simp only
  split <;> omega

theorem mInt_of_lt {m : UInt64} (h : m.toNat < 2 ^ 63) : mInt m = (m.toNat : Int) := by
  unfold mInt
  simp only [Int.ofNat_eq_natCast]
  exact wrap64_id (by omega) (by omega)

theorem toAddr_lt {x : Int} {cs : UInt64} (h0 : 0 ≤ x) (h1 : x < cs.toNat) : toAddr x < cs := by
  have := cs.toNat_lt
  unfold toAddr
  rw [UInt64.lt_iff_toNat_lt, UInt64.toNat_ofNat', Int.emod_eq_of_lt h0 (by omega),
    Nat.mod_eq_of_lt (by omega)]
  omega

theorem reduceMod_lt {v : Int} {cs r : UInt64} (h63 : cs.toNat < 2 ^ 63)
    (h : reduceMod v (mInt cs) = .ok r) : r < cs := by
  rw [mInt_of_lt h63] at h
  unfold reduceMod at h
  split at h
  · cases h
  · rename_i hm
    have hpos : (0 : Int) < cs.toNat := by
      have : (cs.toNat : Int) ≠ 0 := by simpa using hm
      omega
    cases h
    have h1 := Int.tmod_lt_of_pos v hpos
    have h2 := Int.lt_tmod_of_pos v hpos
    generalize v.tmod (cs.toNat : Int) = t at h1 h2
    split
    · rw [wrap64_id (by omega) (by omega), Int.tmod_eq_of_lt (by omega) (by omega)]
      exact toAddr_lt (by omega) (by omega)
    · exact toAddr_lt (by omega) (by omega)

/-- without `coreSize < 2^63` the bound fails: for `coreSize = 3·2^62` Go's `int(c.m)` is
    `-2^62` and `-5` is reduced to `Address(-5) = 2^64 - 5 ≥ coreSize` -/
theorem reduceMod_counterexample :
    reduceMod (-5) (mInt 13835058055282163712) = .ok 18446744073709551611 ∧
      ¬ (18446744073709551611 : UInt64) < 13835058055282163712 := by
  have hm : mInt 13835058055282163712 = -4611686018427387904 := by
    unfold mInt wrap64; decide
  refine ⟨?_, by decide⟩
  rw [hm]
  unfold reduceMod
  rw [if_neg (by decide)]
  simp only [wrap64, toAddr, Except.ok.injEq]
  decide

theorem assembleLine_lt {c : Compiler} {ln : SourceLine} {i : Instr} (h63 : c.m.toNat < 2 ^ 63)
    (h : assembleLine c ln = .ok i) : i.a < c.m ∧ i.b < c.m := by
  rw [assembleLine_eq] at h
  obtain ⟨aMode, _, h⟩ := bind_eq_ok h
  obtain ⟨bMode, _, h⟩ := bind_eq_ok h
  obtain ⟨p, _, h⟩ := bind_eq_ok h
  obtain ⟨aExpr, _, h⟩ := bind_eq_ok h
  obtain ⟨aVal, _, h⟩ := bind_eq_ok h
  obtain ⟨q, _, h⟩ := bind_eq_ok h
  obtain ⟨a, ha, h⟩ := bind_eq_ok h
  obtain ⟨b, hb, h⟩ := bind_eq_ok h
  cases h
  exact ⟨reduceMod_lt h63 ha, reduceMod_lt h63 hb⟩

theorem modeOf_88 {c : Compiler} {ln : SourceLine} {s : String} {m : Mode} (hl : c.legacy = true)
    (h : modeOf c ln s = .ok m) : Spec.mode88 m = true := by
  unfold modeOf at h
  split at h
  · cases h
    unfold dfltMode
    split <;> rfl
  · have := optM_eq_ok h
    unfold Compiler.getAddressMode at this
    rw [if_pos hl] at this
    exact getAddressMode88_range this

theorem implied88_dat (am bm : Mode) : Spec.implied88 .dat am bm =
    if [Mode.immediate, .bDec].contains am && [Mode.immediate, .bDec].contains bm then some .f
    else none := by
  cases am
  case immediate | bDec => cases bm <;> rfl
  all_goals rfl

/-- the lone-operand DAT rule keeps the line inside the '88 table -/
theorem implied88_lone_dat {am bm : Mode} {md : Modifier}
    (h : Spec.implied88 .dat am bm = some md) : Spec.implied88 .dat .immediate am = some md := by
  rw [implied88_dat] at h ⊢
  split at h
  · rename_i hc
    rw [Bool.and_eq_true] at hc
    rw [← h, hc.1]
    rfl
  · cases h

theorem operandsOf_legal88 {c : Compiler} {ln : SourceLine} {op : Op} {am bm : Mode} {aVal : Int}
    {q : Mode × Int × Mode × Int} {md : Modifier} (hv : Spec.implied88 op am bm = some md)
    (hq : operandsOf c ln op am bm aVal = .ok q) : Spec.implied88 op q.1 q.2.2.1 = some md := by
  unfold operandsOf at hq
  split at hq
  · split at hq
    · next hdat =>
      cases hq
      cases eq_of_beq hdat
      exact implied88_lone_dat hv
    · cases hq
      exact hv
  · obtain ⟨bExpr, _, hq⟩ := bind_eq_ok hq
    obtain ⟨bVal, _, hq⟩ := bind_eq_ok hq
    cases hq
    exact hv

theorem assembleLine_legal88 {c : Compiler} {ln : SourceLine} {i : Instr} (hl : c.legacy = true)
    (h : assembleLine c ln = .ok i) : Spec.Legal88 i = true := by
  rw [assembleLine_eq] at h
  obtain ⟨aMode, ham, h⟩ := bind_eq_ok h
  obtain ⟨bMode, hbm, h⟩ := bind_eq_ok h
  obtain ⟨p, hp, h⟩ := bind_eq_ok h
  obtain ⟨aExpr, _, h⟩ := bind_eq_ok h
  obtain ⟨aVal, _, h⟩ := bind_eq_ok h
  obtain ⟨q, hq, h⟩ := bind_eq_ok h
  obtain ⟨a, _, h⟩ := bind_eq_ok h
  obtain ⟨b, _, h⟩ := bind_eq_ok h
  cases h
  unfold opOf at hp
  rw [if_pos hl] at hp
  obtain ⟨op88, _, hp⟩ := bind_eq_ok hp
  obtain ⟨md88, hmd, hp⟩ := bind_eq_ok hp
  cases hp
  have hv := optM_eq_ok hmd
  rw [validate88_eq op88 aMode bMode (modeOf_88 hl ham) (modeOf_88 hl hbm)] at hv
  rw [Spec.Legal88, beq_iff_eq]
  exact operandsOf_legal88 hv hq

def isInstr (l : SourceLine) : Bool := l.typ == .instruction

theorem assembleLines_all {c : Compiler} {P : Instr → Prop}
    (hP : ∀ ln i, assembleLine c ln = .ok i → P i) :
    ∀ (lines : List SourceLine) (acc code : Array Instr),
      assembleLines c lines acc = .ok code → (∀ i ∈ acc.toList, P i) → ∀ i ∈ code.toList, P i := by
  intro lines
  induction lines with
  | nil =>
    intro acc code h hacc
    unfold assembleLines at h
    cases h
    exact hacc
  | cons line rest ih =>
    intro acc code h hacc
    unfold assembleLines at h
    split at h
    · exact ih acc code h hacc
    · obtain ⟨instr, hi, h⟩ := bind_eq_ok h
      refine ih _ code h fun i hi' => ?_
      rw [Array.toList_push, List.mem_append, List.mem_singleton] at hi'
      rcases hi' with hi' | rfl
      · exact hacc i hi'
      · exact hP line _ hi

theorem compile_eq_some {lexTokens : String → List Token} {cfg : Config} {lines : List SourceLine}
    {ameta : AsmMeta} {w : WarriorData} (h : compile lexTokens cfg lines ameta = .ok (some w)) :
    compileX lexTokens cfg lines ameta = .ok w := by
  unfold compile at h
  split at h <;> cases h
  assumption

structure Finished (cfg : Config) (ameta : AsmMeta) (code : Array Instr) (w : WarriorData) : Prop where
  code_eq : w.code = code
  size_le : code.size ≤ cfg.length.toNat
  start_nonneg : 0 ≤ w.start
  start_lt : w.start < code.size ∨ w.start = 0
  info : w.name = ameta.name ∧ w.author = ameta.author ∧ w.strategy = ameta.strategy

theorem finishX_ok {cfg : Config} {ameta : AsmMeta} {c : Compiler} {code : Array Instr}
    {w : WarriorData} (h : finishX cfg ameta c code = .ok w) : Finished cfg ameta code w := by
  unfold finishX at h
  split at h
  · cases h
  · rename_i hlen
    obtain ⟨startExpr, _, h⟩ := bind_eq_ok h
    obtain ⟨startVal, _, h⟩ := bind_eq_ok h
    split at h
    · cases h
    · rename_i hs
      cases h
      simp only [Bool.or_eq_true, Bool.and_eq_true, decide_eq_true_eq, bne_iff_ne] at hs
      exact ⟨rfl, by omega, show 0 ≤ startVal by omega, show startVal < _ ∨ startVal = 0 by omega,
        rfl, rfl, rfl⟩

/-- `compileX_eq` read backwards: what a run that returns a warrior went through -/
structure Accepted (lexTokens : String → List Token) (cfg : Config) (lines : List SourceLine)
    (ameta : AsmMeta) (w : WarriorData) : Prop where
  valid : cfg.validate = true
  acyclic : graphContainsCycle (buildReferenceGraph (symC cfg lines).values) = false
  code_ok : ∃ resolved,
    expandExpressions (symC cfg lines).values (buildReferenceGraph (symC cfg lines).values) =
      some resolved ∧ assembleLines (resC cfg lines resolved) lines #[] = .ok w.code
  fin : Finished cfg ameta w.code w

theorem compileX_ok {lexTokens : String → List Token} {cfg : Config} {lines : List SourceLine}
    {ameta : AsmMeta} {w : WarriorData} (h : compileX lexTokens cfg lines ameta = .ok w) :
    Accepted lexTokens cfg lines ameta w := by
  rw [compileX_eq] at h
  split at h
  · cases h
  · rename_i hv
    split at h
    · cases h
    · rename_i hcyc
      obtain ⟨_, _, h⟩ := bind_eq_ok h
      obtain ⟨resolved, hres, h⟩ := bind_eq_ok h
      obtain ⟨code, hcode, h⟩ := bind_eq_ok h
      have hf := finishX_ok h
      cases hf.code_eq
      exact ⟨by simpa using hv, by simpa using hcyc, ⟨resolved, optM_eq_ok hres, hcode⟩, hf⟩

theorem loadSymbolsLine_cfg (st : Compiler × Int) (line : SourceLine) :
    (loadSymbolsLine st line).1.cfg = st.1.cfg := by
  unfold loadSymbolsLine
  simp only [apply_ite Prod.fst, apply_ite Compiler.cfg, ite_self]

theorem foldl_loadSymbolsLine_cfg (lines : List SourceLine) (st : Compiler × Int) :
    (lines.foldl loadSymbolsLine st).1.cfg = st.1.cfg := by
  induction lines generalizing st with
  | nil => rfl
  | cons l r ih => rw [List.foldl_cons, ih, loadSymbolsLine_cfg]

theorem symC_cfg (cfg : Config) (lines : List SourceLine) : (symC cfg lines).cfg = cfg :=
  foldl_loadSymbolsLine_cfg lines _

theorem resC_cfg (cfg : Config) (lines : List SourceLine) (resolved : SymTab) :
    (resC cfg lines resolved).cfg = cfg := symC_cfg cfg lines

/-- every field below the core size, the entry point inside the code (or zero for an empty
    program), and no more instructions than the configured maximum length.

    The hypothesis `coreSize < 2^63` is NEEDED: with `coreSize = 3·2^62` the Go `int(c.m)` is
    negative and `dat -5` is assembled to `DAT.F #0, $18446744073709551611`. -/
theorem compile_wf {lexTokens : String → List Token} {cfg : Config} {lines : List SourceLine}
    {ameta : AsmMeta} {w : WarriorData}
    (h : compile lexTokens cfg lines ameta = .ok (some w)) (h63 : cfg.coreSize.toNat < 2 ^ 63) :
    (∀ i ∈ w.code.toList, i.a < cfg.coreSize ∧ i.b < cfg.coreSize) ∧
    ((w.code.size = 0 ∧ w.start = 0) ∨ (0 ≤ w.start ∧ w.start < w.code.size)) ∧
    w.code.size ≤ cfg.length.toNat := by
  have A := compileX_ok (compile_eq_some h)
  obtain ⟨resolved, _, hcode⟩ := A.code_ok
  refine ⟨assembleLines_all (fun ln i hi => ?_) lines #[] w.code hcode (by simp),
    by have := A.fin.start_nonneg; have := A.fin.start_lt; omega, A.fin.size_le⟩
  have hm : (resC cfg lines resolved).m = cfg.coreSize := by
    rw [Compiler.m, resC_cfg]
  rw [← hm] at h63 ⊢
  exact assembleLine_lt h63 hi

/-- under ICWS'88 every assembled instruction is in the '88 table and carries the implied
    modifier (including the lone-operand DAT rule) -/
theorem compile_88_legal {lexTokens : String → List Token} {cfg : Config} {lines : List SourceLine}
    {ameta : AsmMeta} {w : WarriorData}
    (h : compile lexTokens cfg lines ameta = .ok (some w)) (h88 : cfg.mode = .icws88) :
    ∀ i ∈ w.code.toList, Spec.Legal88 i = true := by
  obtain ⟨resolved, _, hcode⟩ := (compileX_ok (compile_eq_some h)).code_ok
  have hl : (resC cfg lines resolved).legacy = true := by
    unfold Compiler.legacy; rw [resC_cfg, h88]; rfl
  exact assembleLines_all (fun ln i hi => assembleLine_legal88 hl hi) lines #[] w.code hcode (by simp)

/-- the metadata of an accepted program is the parser's, unchanged -/
theorem compile_err_xor {lexTokens : String → List Token} {cfg : Config} {lines : List SourceLine}
    {ameta : AsmMeta} {w : WarriorData}
    (h : compile lexTokens cfg lines ameta = .ok (some w)) :
    w.name = ameta.name ∧ w.author = ameta.author ∧ w.strategy = ameta.strategy := by
  exact (compileX_ok (compile_eq_some h)).fin.info

theorem evaluateAssertion_eq (lexTokens : String → List Token) (c : Compiler) (s : String) :
    evaluateAssertion lexTokens c s =
      if (lexTokens s).isEmpty then .error (.fault (.panic .slice))
      else
        expandExpression c (lexTokens s).dropLast 0 >>= fun e =>
        evalM e >>= fun v => if v == 0 then .error .goErr else .ok () := by
  unfold evaluateAssertion
  cases lexTokens s <;> rfl

theorem evaluateAssertions_cons (lexTokens : String → List Token) (c : Compiler) (line : SourceLine)
    (rest : List SourceLine) :
    evaluateAssertions lexTokens c (line :: rest) =
      (if line.typ == .comment && assertPrefix.isPrefixOf line.comment.toList then
        evaluateAssertion lexTokens c (String.ofList (line.comment.toList.drop 7))
       else .ok ()) >>= fun _ => evaluateAssertions lexTokens c rest := by
  rw [evaluateAssertions]
  split <;> rfl

theorem GoodTable.eval {c : Compiler} (hc : GoodTable c) {α : Type} (expr : List Token) (line : Int)
    {k : Int → M α} (hk : ∀ v, NoFault (k v)) :
    NoFault (expandExpression c expr line >>= fun e => evalM e >>= k) := by
  exact NoFault.bind (hc.noFault expr line) fun e _ =>
    NoFault.bind (NoFault.evalM e) fun v _ => hk v

theorem evaluateAssertion_noFault {lexTokens : String → List Token} (hlex : ∀ s, lexTokens s ≠ [])
    {c : Compiler} (hc : GoodTable c) (s : String) : NoFault (evaluateAssertion lexTokens c s) := by
  rw [evaluateAssertion_eq, if_neg (by simpa using hlex s)]
  refine hc.eval _ _ fun v => ?_
  split
  · exact NoFault.goErr
  · exact NoFault.ok _

theorem evaluateAssertions_noFault {lexTokens : String → List Token} (hlex : ∀ s, lexTokens s ≠ [])
    {c : Compiler} (hc : GoodTable c) (lines : List SourceLine) :
    NoFault (evaluateAssertions lexTokens c lines) := by
  induction lines with
  | nil => exact NoFault.ok _
  | cons line rest ih =>
    rw [evaluateAssertions_cons]
    refine NoFault.bind ?_ fun _ _ => ih
    split
    · exact evaluateAssertion_noFault hlex hc _
    · exact NoFault.ok _

theorem modeOf_noFault (c : Compiler) (ln : SourceLine) (s : String) : NoFault (modeOf c ln s) := by
  unfold modeOf
  split
  · exact NoFault.ok _
  · exact NoFault.optM _

theorem opOf_noFault (c : Compiler) (ln : SourceLine) (am bm : Mode) : NoFault (opOf c ln am bm) := by
  unfold opOf
  split
  · exact NoFault.bind (NoFault.optM _) fun _ _ => NoFault.bind (NoFault.optM _) fun _ _ => NoFault.ok _
  · split
    · exact NoFault.ok _
    · exact NoFault.bind (NoFault.optM _) fun _ _ => NoFault.ok _

theorem operandsOf_noFault {c : Compiler} (hc : GoodTable c) (ln : SourceLine) (op : Op)
    (am bm : Mode) (aVal : Int) : NoFault (operandsOf c ln op am bm aVal) := by
  unfold operandsOf
  split
  · split
    · exact NoFault.ok _
    · exact NoFault.ok _
  · exact hc.eval _ _ fun _ => NoFault.ok _

theorem assembleLine_noFault {c : Compiler} (hc : GoodTable c) (ln : SourceLine) :
    NoFault (assembleLine c ln) := by
  rw [assembleLine_eq]
  refine NoFault.bind (modeOf_noFault _ _ _) fun aMode _ => ?_
  refine NoFault.bind (modeOf_noFault _ _ _) fun bMode _ => ?_
  refine NoFault.bind (opOf_noFault _ _ _ _) fun p _ => ?_
  refine hc.eval _ _ fun aVal => ?_
  refine NoFault.bind (operandsOf_noFault hc _ _ _ _ _) fun q _ => ?_
  refine NoFault.bind (reduceMod_noFault hc.m_ne) fun a _ => ?_
  refine NoFault.bind (reduceMod_noFault hc.m_ne) fun b _ => ?_
  exact NoFault.ok _

theorem assembleLines_noFault {c : Compiler} (hc : GoodTable c) (lines : List SourceLine) :
    ∀ acc : Array Instr, NoFault (assembleLines c lines acc) := by
  induction lines with
  | nil => intro acc; exact NoFault.ok _
  | cons line rest ih =>
    intro acc
    unfold assembleLines
    split
    · exact ih acc
    · exact NoFault.bind (assembleLine_noFault hc line) fun i _ => ih _

theorem finishX_noFault (cfg : Config) (ameta : AsmMeta) {c : Compiler} (hc : GoodTable c)
    (code : Array Instr) : NoFault (finishX cfg ameta c code) := by
  unfold finishX
  split
  · exact NoFault.goErr
  · refine hc.eval _ _ fun v => ?_
    split
    · exact NoFault.goErr
    · exact NoFault.ok _

/-- `compile()` after `loadSymbols` (configuration already validated) -/
def compileFrom (lexTokens : String → List Token) (cfg : Config) (ameta : AsmMeta) (c : Compiler)
    (lines : List SourceLine) : M WarriorData :=
  if graphContainsCycle (buildReferenceGraph c.values) then .error .goErr
  else
    evaluateAssertions lexTokens c lines >>= fun _ =>
    optM (expandExpressions c.values (buildReferenceGraph c.values)) >>= fun resolved =>
    assembleLines { c with values := resolved } lines #[] >>= fun code =>
    finishX cfg ameta { c with values := resolved } code

theorem compileX_from (lexTokens : String → List Token) (cfg : Config) (lines : List SourceLine)
    (ameta : AsmMeta) (hv : cfg.validate = true) :
    compileX lexTokens cfg lines ameta = compileFrom lexTokens cfg ameta (symC cfg lines) lines := by
  rw [compileX_eq, hv]
  rfl

theorem assembleLine_resolved {c : Compiler} {R : SymTab} (hm : mInt c.m ≠ 0)
    (hc : graphContainsCycle (buildReferenceGraph c.values) = false)
    (hres : expandExpressions c.values (buildReferenceGraph c.values) = some R) (ln : SourceLine) :
    assembleLine { c with values := R } ln = assembleLine c ln := by
  rw [assembleLine_eq, assembleLine_eq]
  unfold operandsOf
  simp only [expandExpression_resolved hm hc hres]
  rfl

/-- The phases of `compile()` after `loadSymbols`.  On a table that passed the cycle check
    `expandExpressions` succeeds (`expandExpressions_full`) and the table it returns expands every
    expression as the loaded one does (`expandExpression_resolved`): the phases that follow can be
    read with the table as loaded. -/
theorem compileFrom_eq (lexTokens : String → List Token) (cfg : Config) (ameta : AsmMeta)
    (c : Compiler) (lines : List SourceLine) (hm : mInt c.m ≠ 0) :
    compileFrom lexTokens cfg ameta c lines =
      if graphContainsCycle (buildReferenceGraph c.values) then .error .goErr
      else
        evaluateAssertions lexTokens c lines >>= fun _ =>
        assembleLines c lines #[] >>= fun code => finishX cfg ameta c code := by
  unfold compileFrom
  cases hc : graphContainsCycle (buildReferenceGraph c.values) with
  | true => rfl
  | false =>
    obtain ⟨R, hres, _⟩ := expandExpressions_full hc
    have h1 : ∀ acc, assembleLines { c with values := R } lines acc = assembleLines c lines acc := by
      induction lines with
      | nil => intro acc; rfl
      | cons l r ih =>
        intro acc
        unfold assembleLines
        simp only [assembleLine_resolved hm hc hres, ih]
    have h2 : ∀ code, finishX cfg ameta { c with values := R } code = finishX cfg ameta c code :=
      fun code => by
        unfold finishX
        simp only [expandExpression_resolved hm hc hres]
    rw [hres]
    show (evaluateAssertions lexTokens c lines >>= fun _ =>
      assembleLines { c with values := R } lines #[] >>= fun code =>
        finishX cfg ameta { c with values := R } code) = _
    simp only [h1, h2]
    rfl

theorem validate_coreSize {cfg : Config} (hv : cfg.validate = true) : mInt cfg.coreSize ≠ 0 := by
  intro h
  have h0 := mInt_eq_zero h
  unfold Config.validate at hv
  rw [h0] at hv
  simp at hv

theorem compile_tables_good {cfg : Config} {lines : List SourceLine} (hv : cfg.validate = true)
    (hcyc : graphContainsCycle (buildReferenceGraph (symC cfg lines).values) = false) :
    GoodTable (symC cfg lines) ∧
    ∀ resolved, expandExpressions (symC cfg lines).values
        (buildReferenceGraph (symC cfg lines).values) = some resolved →
      GoodTable (resC cfg lines resolved) := by
  have hm : mInt cfg.coreSize ≠ 0 := validate_coreSize hv
  exact ⟨.of_acyclic (by unfold Compiler.m; rw [symC_cfg]; exact hm) hcyc, fun resolved hres =>
    .of_keyfree (by unfold Compiler.m; rw [resC_cfg]; exact hm) (resolved_keyfree hcyc hres).2⟩

theorem compileX_noFault {lexTokens : String → List Token} (hlex : ∀ s, lexTokens s ≠ [])
    (cfg : Config) (lines : List SourceLine) (ameta : AsmMeta) :
    NoFault (compileX lexTokens cfg lines ameta) := by
  rw [compileX_eq]
  split
  · exact NoFault.goErr
  · rename_i hv
    have hv : cfg.validate = true := by simpa using hv
    split
    · exact NoFault.goErr
    · rename_i hcyc
      obtain ⟨hsym, hgood⟩ := compile_tables_good (lines := lines) hv (by simpa using hcyc)
      refine NoFault.bind (evaluateAssertions_noFault hlex hsym lines) fun _ _ => ?_
      refine NoFault.bind (NoFault.optM _) fun resolved hres => ?_
      have hres := hgood resolved (optM_eq_ok hres)
      refine NoFault.bind (assembleLines_noFault hres lines #[]) fun code _ => ?_
      exact finishX_noFault cfg ameta hres code

/-- The compiler stage neither panics nor hangs: once `graphContainsCycle` has passed, the
    fixpoint loop of `expandExpression` ends within its fuel, on the EQU table as loaded (used
    by the assertions) and on the table `expandExpressions` produced (used by the instructions
    and the start expression) alike. No bound on the core size is needed for this. -/
theorem compile_no_fault' {lexTokens : String → List Token} {cfg : Config}
    {lines : List SourceLine} {ameta : AsmMeta} (hlex : ∀ s, lexTokens s ≠ []) :
    ∀ f, compile lexTokens cfg lines ameta ≠ .error f := by
  intro f h
  unfold compile at h
  split at h <;> cases h
  rename_i hx
  exact compileX_noFault hlex cfg lines ameta f hx

/-- `compile_no_fault'`; the bound on the core size is not used -/
theorem compile_no_fault {lexTokens : String → List Token} {cfg : Config}
    {lines : List SourceLine} {ameta : AsmMeta} (_h63 : cfg.coreSize.toNat < 2 ^ 63)
    (hlex : ∀ s, lexTokens s ≠ []) : ∀ f, compile lexTokens cfg lines ameta ≠ .error f :=
  compile_no_fault' hlex

/-- never "both or neither": `compile()` answers with an error (`.ok none`, the zero-valued
    warrior) or with a warrior whose code is the assembled code -/
theorem compile_total {lexTokens : String → List Token} {cfg : Config}
    {lines : List SourceLine} {ameta : AsmMeta} (hlex : ∀ s, lexTokens s ≠ []) :
    compile lexTokens cfg lines ameta = .ok none ∨
    ∃ w resolved, compile lexTokens cfg lines ameta = .ok (some w) ∧
      assembleLines (resC cfg lines resolved) lines #[] = .ok w.code := by
  cases h : compile lexTokens cfg lines ameta with
  | error f => exact absurd h (compile_no_fault' hlex f)
  | ok r =>
    cases r with
    | none => exact Or.inl rfl
    | some w =>
      obtain ⟨resolved, _, hcode⟩ := (compileX_ok (compile_eq_some h)).code_ok
      exact Or.inr ⟨w, resolved, rfl, hcode⟩

/-- an answer of `compileX` of the form `optM r` (accepted with `r`'s warrior, or rejected as Go
    rejects) is what `compile` reports, and it does not rest on the unmodelled part of the evaluator -/
theorem compile_of_compileX {lexTokens : String → List Token} {cfg : Config}
    {lines : List SourceLine} {ameta : AsmMeta} {r : Option WarriorData}
    (h : compileX lexTokens cfg lines ameta = optM r) :
    compile lexTokens cfg lines ameta = .ok r := by
  unfold compile; rw [h]; cases r <;> rfl

theorem compileUnmodelled_of_compileX {lexTokens : String → List Token} {cfg : Config}
    {lines : List SourceLine} {ameta : AsmMeta} {r : Option WarriorData}
    (h : compileX lexTokens cfg lines ameta = optM r) :
    compileUnmodelled lexTokens cfg lines ameta = false := by
  unfold compileUnmodelled; rw [h]; cases r <;> rfl

end Compile
end Gmars
