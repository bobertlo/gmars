/-
  The symbol scanner (`scanInput`, the pre-scan of the FOR pass loop, which runs on EVERY input) on
  FOR-free programs with EQU lines.

  The scanner records the EQU lines `name equ value` it finds at the start of a line and reports
  the error "symbol redefined" when a name is defined by two EQU lines.  It does not look at
  labels of instructions (`x equ 5 / x dat x` passes the scanner; the parser rejects it).
  Other than the line form `ForPass.scan_forFree`, `scan_pprog` also covers labels followed by a
  colon.
-/
import Gmars.Proofs.AsmComposeEquParse
import Gmars.Proofs.AsmComposeStages

namespace Gmars
namespace AsmComposeEqu
open Gmars.Render Gmars.AsmCompose Gmars.ForPass Gmars.Scan

theorem inLine_of_exprTerm {t : Token} (h : t.isExpressionTerm = true) : InLine t := by
  simp only [Token.isExpressionTerm, Bool.or_eq_true, beq_iff_eq] at h
  unfold InLine
  rcases h with (((h | h) | h) | h) | h <;> simp [h]

theorem inLine_text (s : String) : InLine (⟨.text, s⟩ : Token) := inLine_of_text rfl

theorem inLine_symbol (s : String) : InLine (⟨.symbol, s⟩ : Token) := by
  unfold InLine; simp

theorem inLine_labelTokens (ls : List (String × Bool)) : ∀ t ∈ labelTokens ls, InLine t := by
  induction ls with
  | nil => intro t ht; cases ht
  | cons lc r ih =>
    obtain ⟨l, c⟩ := lc
    intro t ht
    simp only [labelTokens, List.mem_cons, List.mem_append] at ht
    rcases ht with rfl | ht | ht
    · exact inLine_text l
    · split at ht
      · rw [List.mem_singleton.1 ht]; decide
      · cases ht
    · exact ih t ht

theorem inLine_operand (o : Operand) (strict : Bool) (h : o.OK strict) : ∀ t ∈ o.tokens, InLine t := by
  intro t ht
  simp only [Operand.tokens, List.mem_append] at ht
  rcases ht with ht | ht
  · split at ht
    · rw [List.mem_singleton.1 ht]; exact inLine_symbol _
    · cases ht
  · exact inLine_of_exprTerm (h.1 t ht)

def stmtArgs (s : Stmt) : List Token := s.a.tokens ++ s.bTokens

theorem inLine_stmtArgs (s : Stmt) (hs : s.OK) : ∀ t ∈ stmtArgs s, InLine t := by
  intro t ht
  simp only [stmtArgs, List.mem_append] at ht
  rcases ht with ht | ht
  · exact inLine_operand s.a true hs.2.2.1 t ht
  · unfold Stmt.bTokens at ht
    split at ht
    next bo hb =>
      rcases List.mem_cons.1 ht with rfl | ht
      · decide
      · exact inLine_operand bo false (hs.2.2.2 bo hb) t ht
    next => cases ht

theorem isLabelTok_of_name {l : String} (h : IsLabelName l) : isLabelTok (⟨.text, l⟩ : Token) = true := by
  have h' : (⟨.text, l⟩ : Token).isOp = false := h
  simp [isLabelTok, h']

theorem nlTok_typ : nlTok.typ = .newline := rfl

theorem runScan_text (w : String) (r : List Token) (syms : SymTab) :
    runScan ((⟨.text, w⟩ : Token) :: r) syms = scanLabels ⟨.text, w⟩ r [] syms := by
  rw [runScan_cons _ _ _ (by simp), scanLine, if_pos (by simp)]

theorem scl_line (t : Token) (ht : InLine t) (args : List Token) (ha : ∀ x ∈ args, InLine x)
    (rest : List Token) (syms : SymTab) :
    scanConsumeLine t (args ++ nlTok :: rest) syms = runScan rest syms :=
  runSCL_line (t :: args) nlTok rest syms (List.forall_mem_cons.2 ⟨ht, ha⟩) rfl

theorem runScan_nl (rest : List Token) (syms : SymTab) :
    runScan (nlTok :: rest) syms = runScan rest syms := by
  rw [runScan_cons _ _ _ (by decide)]
  exact scl_nl nlTok rest syms rfl

theorem runScan_nls (k : Nat) (rest : List Token) (syms : SymTab) :
    runScan (List.replicate k nlTok ++ rest) syms = runScan rest syms := by
  induction k with
  | zero => rfl
  | succ k ih => rw [List.replicate_succ, List.cons_append, runScan_nl, ih]

theorem runScan_commentLine (v : String) (rest : List Token) (syms : SymTab) :
    runScan ((⟨.comment, v⟩ : Token) :: nlTok :: rest) syms = runScan rest syms := by
  rw [runScan_cons _ _ _ (by simp), scanLine, if_neg (by simp)]
  exact scl_line _ (by unfold InLine; simp) [] (fun x hx => by cases hx) rest syms

theorem slab_colon {t : Token} {r : List Token} {lb : List String} {syms : SymTab}
    (ht : t.typ ≠ .eof) :
    scanLabels colonTok (t :: r) lb syms = scanLabels t r lb syms := by
  rw [scanLabels.eq_def]
  simp [colonTok, ht]

theorem runSLab_stmt (op : String) (hop : IsOpName op) (args : List Token)
    (ha : ∀ t ∈ args, InLine t) (rest : List Token) (syms : SymTab) :
    ∀ (ls : List (String × Bool)) (lb : List String), (∀ l ∈ ls, IsLabelName l.1) →
      runSLab (labelTokens ls ++ (⟨.text, op⟩ : Token) :: (args ++ nlTok :: rest)) lb syms =
        runScan rest syms := by
  intro ls
  induction ls with
  | nil =>
    intro lb _
    simp only [labelTokens, List.nil_append, runSLab]
    rw [slab_op rfl hop.2 hop.1]
    exact scl_line _ (inLine_text op) args ha rest syms
  | cons lc r ih =>
    obtain ⟨l, c⟩ := lc
    intro lb hl
    have hl := List.forall_mem_cons.1 hl
    obtain ⟨x, xs, hx, hxe⟩ := exists_cons_of (P := (·.typ ≠ .eof)) (x := (⟨.text, op⟩ : Token))
      (args ++ nlTok :: rest) (fun y hy => (inLine_labelTokens r y hy).2.1) (by simp)
    have hrec := ih (lb ++ [l]) hl.2
    rw [hx] at hrec
    cases c with
    | false =>
      simp only [labelTokens, Bool.false_eq_true, if_false, List.nil_append, List.cons_append]
      rw [hx, runSLab, slab_label (isLabelTok_of_name hl.1) hxe]
      exact hrec
    | true =>
      simp only [labelTokens, if_true, List.cons_append, List.nil_append]
      rw [hx, runSLab, slab_label (isLabelTok_of_name hl.1) (by simp [colonTok]),
        slab_colon hxe]
      exact hrec

theorem stmt_tokens_eq (s : Stmt) (rest : List Token) :
    s.tokens ++ rest =
      labelTokens s.labels ++ (⟨.text, s.op⟩ : Token) ::
        (stmtArgs s ++ nlTok :: (List.replicate s.blanks nlTok ++ rest)) := by
  simp [Stmt.tokens, stmtArgs]

theorem runScan_stmt (s : Stmt) (hs : s.OK) (rest : List Token) (syms : SymTab) :
    runScan (s.tokens ++ rest) syms = runScan rest syms := by
  rw [stmt_tokens_eq, ← runScan_nls s.blanks rest syms,
    ← runSLab_stmt s.op hs.2.1 (stmtArgs s) (inLine_stmtArgs s hs)
      (List.replicate s.blanks nlTok ++ rest) syms s.labels [] hs.1]
  -- the line starts with a text token: its first label, or the opcode
  cases s.labels with
  | nil => exact runScan_text _ _ _
  | cons lc r =>
    obtain ⟨l, c⟩ := lc
    exact runScan_text _ _ _

theorem runScan_orgLine (kw : String) (hk : lowerStr kw = "org") (toks : List Token)
    (hts : ∀ t ∈ toks, InLine t) (rest : List Token) (syms : SymTab) :
    runScan ((⟨.text, kw⟩ : Token) :: (toks ++ nlTok :: rest)) syms = runScan rest syms := by
  have hp : (⟨.text, kw⟩ : Token).isPseudoOp = true := isPseudoOp_of_lower hk (Or.inl rfl)
  rw [runScan_text,
    slab_pseudo rfl hp (by simp only [hk]; decide) (by simp only [hk]; decide)
      (by simp only [hk]; decide)]
  exact scl_line _ (inLine_text kw) toks hts rest syms

theorem filter_noComment (v : List Token) (h : ∀ t ∈ v, t.isExpressionTerm = true) :
    v.filter (fun t => t.typ != .comment) = v := by
  rw [List.filter_eq_self]
  intro t ht
  have := h t ht
  simp only [Token.isExpressionTerm, Bool.or_eq_true, beq_iff_eq] at this
  rcases this with (((h | h) | h) | h) | h <;> simp [h]

theorem runScan_equLine' (name kw : String) (hl : IsLabelName name) (hk : lowerStr kw = "equ")
    (toks : List Token) (hts : ∀ t ∈ toks, t.isExpressionTerm = true) (rest : List Token)
    (syms : SymTab) (hn : name ∉ syms.map (·.1)) :
    runScan ((⟨.text, name⟩ : Token) :: (⟨.text, kw⟩ : Token) :: (toks ++ nlTok :: rest)) syms =
      runScan rest (syms ++ [(name, toks)]) := by
  have h := runScan_equLine [(⟨.text, name⟩ : Token)] (⟨.text, kw⟩ : Token) toks nlTok rest syms
    (fun x hx => by rw [List.mem_singleton.1 hx]; exact isLabelTok_of_name hl)
    rfl hk (fun x hx => inLine_of_exprTerm (hts x hx)) rfl
  simp only [List.cons_append, List.nil_append, List.map_cons, List.map_nil] at h
  rw [h, filter_noComment toks hts]
  have hhas : syms.has name = false := by
    rw [SymTab.has, Bool.eq_false_iff, Ne, List.find?_isSome]
    rintro ⟨x, hx, hb⟩
    exact hn (List.mem_map.2 ⟨x, hx, by simpa using hb⟩)
  simp only [afterDefine, define, SymTab.set, hhas, Bool.false_eq_true, if_false]

def pitemsEqus : List PItem → SymTab
  | [] => []
  | .equ name _ toks _ :: r => (name, toks) :: pitemsEqus r
  | .x _ :: r => pitemsEqus r

theorem runScan_pitem (it : PItem) (hok : it.OK) (rest : List Token) (syms : SymTab)
    (hn : ∀ x ∈ (pitemsEqus [it]).map (·.1), x ∉ syms.map (·.1)) :
    runScan (it.tokens ++ rest) syms = runScan rest (syms ++ pitemsEqus [it]) := by
  cases it with
  | x it =>
    simp only [pitemsEqus, List.append_nil, PItem.tokens]
    cases it with
    | base it =>
      cases it with
      | stmt s => exact runScan_stmt s hok rest syms
      | comment v k =>
        simp only [XItem.tokens, Item.tokens, List.cons_append]
        rw [runScan_commentLine, runScan_nls]
    | org kw toks k =>
      obtain ⟨hk, _, hts⟩ := hok
      simp only [XItem.tokens, List.cons_append, List.append_assoc]
      rw [runScan_orgLine kw hk toks (fun t ht => inLine_of_exprTerm (hts t ht)), runScan_nls]
  | equ name kw toks k =>
    obtain ⟨hl, hk, _, hts⟩ := hok
    simp only [PItem.tokens, List.cons_append, List.append_assoc, pitemsEqus]
    rw [runScan_equLine' name kw hl hk toks hts _ syms (hn name (by simp [pitemsEqus])), runScan_nls]

theorem pitemsEqus_cons (it : PItem) (r : List PItem) :
    pitemsEqus (it :: r) = pitemsEqus [it] ++ pitemsEqus r := by
  cases it <;> rfl

theorem runScan_pitems (rest : List Token) :
    ∀ (items : List PItem) (syms : SymTab), (∀ it ∈ items, it.OK) →
      (syms.map (·.1) ++ (pitemsEqus items).map (·.1)).Nodup →
      runScan (pitemsTokens items ++ rest) syms = runScan rest (syms ++ pitemsEqus items) := by
  intro items
  induction items with
  | nil => intro syms _ _; simp [pitemsTokens, pitemsEqus]
  | cons it r ih =>
    intro syms hok hnd
    rw [pitemsEqus_cons, List.map_append, ← List.append_assoc] at hnd
    simp only [pitemsTokens, List.append_assoc]
    rw [runScan_pitem it (hok it (by simp)) _ syms fun x hx hs =>
      nodup_disjoint (nodup_left hnd) hs hx]
    rw [ih (syms ++ pitemsEqus [it]) (fun x hx => hok x (by simp [hx]))
      (by rw [List.map_append]; exact hnd), List.append_assoc, ← pitemsEqus_cons]

theorem scan_pprog (p : PProg) (hitems : ∀ it ∈ p.items, it.OK)
    (hfin : ∀ kw toks, p.fin = some (kw, toks) → lowerStr kw = "end")
    (hnd : ((pitemsEqus p.items).map (·.1)).Nodup) :
    scanInput p.tokens = .ok (some (pitemsEqus p.items, false)) := by
  have hfinal : runScan p.finTokens (pitemsEqus p.items) = stop (pitemsEqus p.items) := by
    unfold PProg.finTokens
    cases hf : p.fin with
    | none => exact runScan_term eofTok [] _ rfl
    | some kt =>
      obtain ⟨kw, toks⟩ := kt
      exact runScan_endLine [] (⟨.text, kw⟩ : Token) _ _ (fun x hx => by cases hx) rfl
        (hfin kw toks hf)
  have hrun : runScan p.tokens [] = stop (pitemsEqus p.items) := by
    unfold PProg.tokens
    rw [runScan_nls, runScan_pitems _ p.items [] hitems (by simpa using hnd), List.nil_append, hfinal]
  have hne : p.finTokens ≠ [] := by
    unfold PProg.finTokens
    split <;> simp
  rw [scanInput_ne_nil (l := p.tokens)
    (List.append_ne_nil_of_right_ne_nil _ (List.append_ne_nil_of_right_ne_nil _ hne)), hrun]
  rfl

theorem pitemsEqus_sublist (items : List PItem) :
    ((pitemsEqus items).map (·.1)).Sublist (pitemsLabels items) := by
  induction items with
  | nil => exact List.Sublist.refl _
  | cons it r ih =>
    cases it with
    | x it =>
      simp only [pitemsEqus, pitemsLabels]
      exact ih.trans (List.sublist_append_right _ _)
    | equ name kw toks k =>
      simp only [pitemsEqus, pitemsLabels, PItem.labelNames, List.map_cons, List.singleton_append]
      exact ih.cons_cons _

theorem assemble_stages_pprog (cfg : Config) (src : List UInt8) (p : PProg) (hp : p.OK)
    (hsrc : lexBytes src = p.tokens) :
    assemble cfg src = parseCompile cfg p.tokens :=
  assemble_of_forLoop cfg src <| hsrc ▸ forLoop_done 13 0 p.tokens _
    (scan_pprog p hp.items (fun kw toks hf => (hp.fin kw toks hf).1)
      ((pitemsEqus_sublist p.items).nodup hp.nodup))

end AsmComposeEqu
end Gmars
