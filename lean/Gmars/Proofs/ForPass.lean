/-
  C08 "FOR/ROF blocks assemble exactly like their manual unrolling", about the models in
  Gmars/Model/ForExpand.lean and Assemble.lean: one pass of the expander replaces the FIRST outermost
  block by its manual unrolling (`expand_pass`; the body may hold complete inner blocks, which are
  copied with the counter substituted and expanded by later passes; a count ≤ 0 leaves only the
  renamed line labels), and `k ≤ 12` such steps are what the pass loop `forLoop` computes
  (`for_unroll_partial`; a 13th step is an error). FOR-free programs pass the loop unchanged.
-/
import Gmars.Proofs.ForPassExpand
import Gmars.Proofs.ForPassInner
import Gmars.Proofs.ForPassScan

namespace Gmars
namespace ForPass

open ForExpand

/-- one FOR block: `labels… ctr for count… \n body-lines… [labels…] rof … \n` -/
structure Block where
  labels : List Token      -- the line labels in front of the counter
  ctr : Token
  forTok : Token
  count : List Token       -- the count expression (and comments) up to the newline
  nl : Token               -- the newline of the FOR line
  body : List Line
  rofLine : Line           -- the closing line: `rof` and whatever follows it on the line
  deriving Repr

def Block.header (b : Block) : List Token :=
  b.labels ++ b.ctr :: b.forTok :: (b.count ++ [b.nl])

def Block.flat (b : Block) : List Token := b.header ++ (ForPass.flat b.body ++ b.rofLine.flat)

structure Block.WF (b : Block) : Prop where
  labels : ∀ x ∈ b.labels, isLabelTok x = true
  ctr : isLabelTok b.ctr = true
  forTyp : b.forTok.typ = .text
  forVal : lowerStr b.forTok.val = "for"
  count : ∀ x ∈ b.count, InLine x
  nl : b.nl.typ = .newline
  body : ∀ l ∈ b.body, l.WF
  balanced : Balanced b.body
  rofWF : b.rofLine.WF
  rofKind : lineKind b.rofLine.toks = .rof

def Block.ctx (b : Block) (n : Int) : Ctx := mkCtx (b.labels.map (·.val)) b.ctr.val n

/-- the renamed line labels `__for_<ctr>_<label>`: written once, in front of the expansion,
    if the body has a line with an opcode -/
def Block.renamed (b : Block) : List Token :=
  if hasOpLine b.body then labelToks ((b.labels.map (·.val)).map (forLabel b.ctr.val)) else []

/-- the manual unrolling of the block for the count `n`: the renamed labels, then iterations
    1..n of the body with counter and line labels substituted -/
def Block.unrolled (b : Block) (n : Int) : List Token :=
  b.renamed ++ repeated (b.ctx n) (bodyContent b.body) n.toNat

/-- the terminator as it is received: a tokEOF is replaced by the `token{tokEOF, ""}` of
    `run()`, a tokError is passed on -/
def endTok (z : Token) : Token := if z.typ = .eof then { typ := .eof, val := "" } else z

theorem endTok_isTerm {z : Token} (h : z.isTerm = true) : (endTok z).isTerm = true := by
  unfold endTok; split
  · rfl
  · exact h

theorem Block.WF.labels_ctr {b : Block} (hb : b.WF) :
    ∀ x ∈ b.labels ++ [b.ctr], isLabelTok x = true :=
  List.forall_mem_append.2 ⟨hb.labels, List.forall_mem_singleton.2 hb.ctr⟩

def Block.headerLine (b : Block) : Line :=
  { toks := b.labels ++ b.ctr :: b.forTok :: b.count, nl := b.nl }

def Block.lines (b : Block) : List Line := b.headerLine :: (b.body ++ [b.rofLine])

theorem Block.flat_lines (b : Block) : ForPass.flat b.lines = b.flat := by
  simp [Block.lines, Block.headerLine, Block.flat, Block.header, flat_append, Line.flat]

theorem Block.headerLine_WF (b : Block) (hb : b.WF) : b.headerLine.WF := by
  have hlabel : ∀ x : Token, isLabelTok x = true → InLine x := fun x hx =>
    inLine_of_text (isLabelTok_iff.1 hx).1
  exact ⟨hb.nl, List.forall_mem_append.2 ⟨fun t ht => hlabel t (hb.labels t ht),
    List.forall_mem_cons.2 ⟨hlabel _ hb.ctr,
      List.forall_mem_cons.2 ⟨inLine_of_text hb.forTyp, hb.count⟩⟩⟩⟩

theorem Block.lines_WF (b : Block) (hb : b.WF) : ∀ l ∈ b.lines, l.WF :=
  List.forall_mem_cons.2 ⟨b.headerLine_WF hb,
    List.forall_mem_append.2 ⟨hb.body, List.forall_mem_singleton.2 hb.rofWF⟩⟩

theorem bodyContent_noTerm {ls : List Line} (h : ∀ l ∈ ls, l.WF) :
    ∀ t ∈ bodyContent ls, t.isTerm = false := by
  refine flat_noTerm (List.forall_mem_map.2 fun l hl => ⟨(h l hl).1, fun t ht => ?_⟩)
  apply (h l hl).2
  simp only [Line.norm, lineContent] at ht
  split at ht
  · exact (List.dropWhile_sublist _).subset ht
  · exact ht

theorem Block.unrolled_noTerm (b : Block) (n : Int) (hb : b.WF) :
    ∀ t ∈ b.unrolled n, t.isTerm = false := by
  refine List.forall_mem_append.2 ⟨?_, repeated_noTerm _ _ _ (bodyContent_noTerm hb.body)⟩
  unfold Block.renamed
  split
  · exact labelToks_noTerm _
  · intro t ht; cases ht

theorem runLine_block (e : List Token → SymTab → EvalRes) (syms : SymTab) (b : Block)
    (hb : b.WF) (n : Int) (hev : e (exprToks b.count) syms = .ok n)
    (t : Token) (r : List Token) (o : Out) :
    runLine e syms (b.flat ++ t :: r) o = runECS (t :: r) (emits o (b.unrolled n)) := by
  obtain ⟨y2, ys2, h2⟩ := exists_cons (ForPass.flat b.body ++ b.rofLine.flat) t r
  obtain ⟨y3, ys3, h3⟩ := exists_cons b.rofLine.flat t r
  obtain ⟨y1, ys1, h1⟩ := exists_cons b.count b.nl (y2 :: ys2)
  have hflat : b.flat ++ t :: r = (b.labels ++ [b.ctr]) ++ b.forTok :: y1 :: ys1 := by
    rw [← h1, ← h2]; simp [Block.flat, Block.header]
  obtain ⟨a, as, ha, hm⟩ := exists_cons' (b.labels ++ [b.ctr]) b.forTok (y1 :: ys1)
  have hatext : a.typ = .text := by
    rcases hm with rfl | hm
    · exact hb.forTyp
    · exact (isLabelTok_iff.1 (hb.labels_ctr a hm)).1
  rw [hflat, ha, runLine_text e syms a as o hatext, ← ha,
    runCL_labels e syms hb.labels_ctr (List.cons_ne_nil _ _), runCL,
    cl_for e syms hb.forTyp hb.forVal, ← runCE, ← h1,
    runCE_count e syms _ _ _ _ _ _ _ hb.count hb.nl]
  have hexpr : ∀ x ∈ exprToks b.count, x.isTerm = false :=
    fun x hx => (hb.count x (List.mem_filter.1 hx).1).isTerm
  simp only [List.nil_append, List.map_append, List.map_cons, List.map_nil]
  rw [forFor_ok e syms _ _ _ _ _ _ n hexpr hev, ← runIL, ← h2, List.append_assoc, h3,
    runIL_body _ b.body y3 ys3 { toWrite := _, out := o } hb.body hb.balanced.1, ← h3,
    runIL_close _ b.rofLine t r _ hb.rofWF hb.rofKind
      (by rw [foldl_stepInner]; exact hb.balanced.2), expand_eq, foldl_stepInner]
  simp only [Block.unrolled, Block.renamed, Block.ctx, emits_append, mkCtx]
  split <;> simp [emitLabels_eq]

theorem Block.flat_noTerm (b : Block) (hb : b.WF) : ∀ t ∈ b.flat, t.isTerm = false := by
  rw [← b.flat_lines]
  exact ForPass.flat_noTerm (b.lines_WF hb)

theorem Block.flat_ne_nil (b : Block) : b.flat ≠ [] := by
  simp [Block.flat, Block.header]

/-- the closing tokEOF of `run()` and the list `Tokens()` receives -/
theorem finish (L : List Token) (z : Token) (hL : ∀ t ∈ L, t.isTerm = false)
    (hz : z.isTerm = true) :
    let oR : Out := if z.typ = .eof then emits {} L else emits {} (L ++ [z])
    let o := oR.emit { typ := .eof, val := "" }
    received o.toks.toList = L ++ [endTok z] ∧ o.unmodelled = false := by
  intro oR o
  -- after `L` nothing has ended the stream; `z` (or, for a tokEOF, the closing tokEOF) does
  have hL' : emits {} L = { toks := L.toArray } := by
    rw [emits_noTerm _ _ rfl hL]; simp
  have key : o = { toks := (L ++ [endTok z]).toArray, done := true } := by
    simp only [o, oR, endTok]
    split
    · rw [hL']; simp [Out.emit, Token.isTerm]
    · rw [emits_snoc, hL']; simp [Out.emit, hz]
  rw [key]
  exact ⟨received_append_term _ _ hL (endTok_isTerm hz), rfl⟩

/-- `expand_pass` when what stands in front of the first block `b` is any token list `P` that the
    expander sends on as `P'` -/
theorem expand_pass_front (e : List Token → SymTab → EvalRes) (syms : SymTab)
    (P P' : List Token) (b : Block) (q : List Token) (z : Token) (rest : List Token) (n : Int)
    (hP : ∀ t ∈ P, t.isTerm = false) (hP' : ∀ t ∈ P', t.isTerm = false)
    (hpass : ∀ (y : Token) (ys : List Token) (o : Out),
      runLine e syms (P ++ y :: ys) o = runLine e syms (y :: ys) (emits o P'))
    (hb : b.WF) (hq : ∀ x ∈ q, x.isTerm = false) (hz : z.isTerm = true)
    (hev : e (exprToks b.count) syms = .ok n) :
    forExpandWith e (P ++ b.flat ++ q ++ z :: rest) syms =
      .ok (some (P' ++ b.unrolled n ++ q ++ [endTok z]), false) := by
  obtain ⟨t, r, htr⟩ := exists_cons q z rest
  obtain ⟨c, bs, hc⟩ := List.exists_cons_of_ne_nil b.flat_ne_nil
  obtain ⟨y, ys, hy, hm⟩ := exists_cons' P c (bs ++ t :: r)
  have hyt : y.isTerm = false := by
    rcases hm with rfl | hm
    · exact b.flat_noTerm hb _ (hc ▸ List.mem_cons_self ..)
    · exact hP y hm
  have hts : P ++ b.flat ++ q ++ z :: rest = y :: ys := by
    rw [← hy, ← htr, hc]; simp
  have hfin := finish _ z (List.forall_mem_append.2 ⟨List.forall_mem_append.2
    ⟨hP', b.unrolled_noTerm n hb⟩, hq⟩) hz
  simp only [emits_append] at hfin
  rw [hts, forExpandWith, sendsWith, if_neg (by simp [hyt]), ← runLine, ← hy, hpass,
    ← List.cons_append, ← hc, runLine_block e syms b hb n hev, ← htr,
    runECS_stream q z rest _ hq hz]
  simp only [emits_append, Except.map, hfin.1, hfin.2]

/-- FOR-free lines `pre`, one block `b` whose count evaluates to `n`, then an arbitrary stream
    `q ++ z :: rest` whose first terminator is `z`. One pass of the expander sends `pre` through,
    replaces the block by its manual unrolling, and sends `q` and the terminator through
    (whatever follows the first terminator is never read). -/
theorem expand_pass (e : List Token → SymTab → EvalRes) (syms : SymTab)
    (pre : List Line) (b : Block) (q : List Token) (z : Token) (rest : List Token) (n : Int)
    (hpre : ∀ l ∈ pre, l.WF) (hpass : ∀ l ∈ pre, PassLine l.toks) (hb : b.WF)
    (hq : ∀ x ∈ q, x.isTerm = false) (hz : z.isTerm = true)
    (hev : e (exprToks b.count) syms = .ok n) :
    forExpandWith e (flat pre ++ b.flat ++ q ++ z :: rest) syms =
      .ok (some (flat pre ++ b.unrolled n ++ q ++ [endTok z]), false) :=
  expand_pass_front e syms _ _ b q z rest n (flat_noTerm hpre) (flat_noTerm hpre)
    (fun y ys o => runLine_passLines e syms pre y ys o hpre hpass) hb hq hz hev

/-- read from nesting depth `d`, the lines `ls` do not close the enclosing block and leave the
    reader at depth `d'`; `Balanced ls` is `Closes 0 ls 0` -/
def Closes (d : Nat) (ls : List Line) (d' : Nat) : Prop := NoClose d ls ∧ depthAfter d ls = d'

theorem Closes.single {d : Nat} {l : Line} {k : Kind} (hk : lineKind l.toks = k)
    (h : ¬(k = .rof ∧ d = 0)) : Closes d [l] (kindDepth k d) := by
  subst hk
  exact ⟨⟨h, trivial⟩, rfl⟩

theorem Closes.append {d d' d'' : Nat} {a b : List Line} (ha : Closes d a d')
    (hb : Closes d' b d'') : Closes d (a ++ b) d'' := by
  induction a generalizing d with
  | nil => cases ha.2; exact hb
  | cons l ls ih =>
    have := ih ⟨ha.1.2, ha.2⟩
    exact ⟨⟨ha.1.1, this.1⟩, this.2⟩

def SimpleLine (l : Line) : Prop :=
  l.WF ∧ ∃ op args, l.toks = op :: args ∧ op.typ = .text ∧ op.isOp = true ∧ op.isPseudoOp = false

theorem SimpleLine.kind {l : Line} (h : SimpleLine l) : lineKind l.toks = .op := by
  obtain ⟨_, op, args, e, h1, h2, h3⟩ := h
  rw [e]
  exact lineKind_op h1 h2 h3

theorem Balanced.nil : Balanced [] := ⟨trivial, rfl⟩

theorem lineContent_of_not_rof {l : List Token} (h : lineKind l ≠ .rof) : lineContent l = l := by
  simp [lineContent, h]

theorem bodyContent_verbatim (ls : List Line)
    (h : ∀ l ∈ ls, lineKind l.toks = .rof → ∀ x ∈ l.toks.head?, isLabelTok x = false) :
    bodyContent ls = flat ls := by
  have hnorm : ∀ l ∈ ls, l.norm = l := fun l hl => by
    have hc : lineContent l.toks = l.toks := by
      unfold lineContent
      split
      · have := h l hl ‹_›
        cases hlt : l.toks with
        | nil => rfl
        | cons a as => rw [hlt] at this; simp [this a rfl]
      · rfl
    rw [Line.norm, hc]
  rw [bodyContent, List.map_congr_left hnorm, List.map_id']

theorem simple_bodyContent (ls : List Line) (h : ∀ l ∈ ls, SimpleLine l) :
    bodyContent ls = flat ls :=
  bodyContent_verbatim ls (fun l hl hk => by rw [(h l hl).kind] at hk; cases hk)

theorem simple_hasOpLine (ls : List Line) (h : ∀ l ∈ ls, SimpleLine l) :
    hasOpLine ls = !ls.isEmpty := by
  cases ls with
  | nil => rfl
  | cons l ls => simp [hasOpLine, (h l (List.mem_cons_self ..)).kind]

def simpleUnrolled (b : Block) (n : Nat) : List Token :=
  (if b.body.isEmpty then [] else
    labelToks ((b.labels.map (·.val)).map (forLabel b.ctr.val))) ++
  (List.range n).flatMap (fun k => (flat b.body).map (substTok (b.ctx n) (k + 1)))

theorem expand_single (e : List Token → SymTab → EvalRes) (syms : SymTab)
    (pre : List Line) (b : Block) (q : List Token) (z : Token) (rest : List Token) (n : Nat)
    (hpre : ∀ l ∈ pre, l.WF) (hpass : ∀ l ∈ pre, PassLine l.toks) (hb : b.WF)
    (hsimple : ∀ l ∈ b.body, SimpleLine l)
    (hq : ∀ x ∈ q, x.isTerm = false) (hz : z.isTerm = true)
    (hev : e (exprToks b.count) syms = .ok (n : Int)) :
    forExpandWith e (flat pre ++ b.flat ++ q ++ z :: rest) syms =
      .ok (some (flat pre ++ simpleUnrolled b n ++ q ++ [endTok z]), false) := by
  rw [expand_pass e syms pre b q z rest n hpre hpass hb hq hz hev]
  have : b.unrolled (n : Int) = simpleUnrolled b n := by
    unfold Block.unrolled Block.renamed simpleUnrolled repeated iteration
    rw [simple_bodyContent _ hsimple, simple_hasOpLine _ hsimple]
    cases b.body.isEmpty <;> simp
  rw [this]

theorem substTok_spec (c : Ctx) (i : Nat) (t : Token) :
    substTok c i t =
      if t.typ = .text ∧ t.val = c.forCountLabel then { typ := .number, val := toString i }
      else if t.typ = .text ∧ t.val ∈ c.forLineLabels then
        { typ := .text, val := "__for_" ++ c.forCountLabel ++ "_" ++ t.val }
      else t := by
  unfold substTok forLabel
  by_cases h1 : t.typ = .text <;> simp [h1]

theorem unrolled_zero (b : Block) (n : Int) (hn : n ≤ 0) : b.unrolled n = b.renamed := by
  simp [Block.unrolled, repeated, Int.toNat_of_nonpos hn]

theorem renamed_nil_of_no_labels (b : Block) (h : b.labels = []) : b.renamed = [] := by
  simp [Block.renamed, h, labelToks]

theorem expand_zero (e : List Token → SymTab → EvalRes) (syms : SymTab)
    (pre : List Line) (b : Block) (q : List Token) (z : Token) (rest : List Token) (n : Int)
    (hpre : ∀ l ∈ pre, l.WF) (hpass : ∀ l ∈ pre, PassLine l.toks) (hb : b.WF)
    (hq : ∀ x ∈ q, x.isTerm = false) (hz : z.isTerm = true)
    (hev : e (exprToks b.count) syms = .ok n) (hn : n ≤ 0) :
    forExpandWith e (flat pre ++ b.flat ++ q ++ z :: rest) syms =
      .ok (some (flat pre ++ b.renamed ++ q ++ [endTok z]), false) := by
  rw [expand_pass e syms pre b q z rest n hpre hpass hb hq hz hev, unrolled_zero b n hn]

theorem expand_zero_nolabels (e : List Token → SymTab → EvalRes) (syms : SymTab)
    (pre : List Line) (b : Block) (q : List Token) (z : Token) (rest : List Token) (n : Int)
    (hpre : ∀ l ∈ pre, l.WF) (hpass : ∀ l ∈ pre, PassLine l.toks) (hb : b.WF)
    (hq : ∀ x ∈ q, x.isTerm = false) (hz : z.isTerm = true)
    (hev : e (exprToks b.count) syms = .ok n) (hn : n ≤ 0) (hl : b.labels = []) :
    forExpandWith e (flat pre ++ b.flat ++ q ++ z :: rest) syms =
      .ok (some (flat pre ++ q ++ [endTok z]), false) := by
  rw [expand_zero e syms pre b q z rest n hpre hpass hb hq hz hev hn,
    renamed_nil_of_no_labels b hl, List.append_nil]

theorem forLoop_done (fuel depth : Nat) (ts : List Token) (syms : SymTab)
    (h : scanInput ts = .ok (some (syms, false))) : forLoop (fuel + 1) depth ts = .ok ts := by
  simp [forLoop, h]

/-- a token list with a terminator in it and without any `for` token is returned unchanged, unless
    the scanner reports a redefined symbol -/
theorem forLoop_noForTok (fuel depth : Nat) (ts : List Token) (hnf : NoForTok ts)
    (hterm : HasTerm ts) :
    (∃ syms, scanInput ts = .ok (some (syms, false)) ∧ forLoop (fuel + 1) depth ts = .ok ts) ∨
    (scanInput ts = .ok none ∧ forLoop (fuel + 1) depth ts = .error .err) := by
  obtain ⟨h1, h2⟩ := scan_noForTok ts hnf
  match hs : scanInput ts with
  | .error f => exact absurd hs (h2 hterm f)
  | .ok none => exact .inr ⟨rfl, by simp [forLoop, hs]⟩
  | .ok (some (syms, true)) => exact absurd hs (h1 syms)
  | .ok (some (syms, false)) => exact .inl ⟨syms, rfl, forLoop_done fuel depth ts syms hs⟩

theorem forLoop_forFree (fuel depth : Nat) (ls : List Line) (z : Token) (rest : List Token)
    (syms : SymTab) (hwf : ∀ l ∈ ls, l.WF) (hpre : ScanPre ls [] syms) (hz : z.isTerm = true) :
    forLoop (fuel + 1) depth (flat ls ++ z :: rest) = .ok (flat ls ++ z :: rest) :=
  forLoop_done fuel depth _ syms (scan_forFree ls z rest syms hwf hpre hz)

theorem forLoop_end (fuel depth : Nat) (ls : List Line) (lbls : List Token) (f : Token)
    (rest : List Token) (syms : SymTab) (hwf : ∀ l ∈ ls, l.WF) (hpre : ScanPre ls [] syms)
    (hl : ∀ x ∈ lbls, isLabelTok x = true) (h1 : f.typ = .text) (h3 : lowerStr f.val = "end") :
    forLoop (fuel + 1) depth (flat ls ++ (lbls ++ f :: rest)) =
      .ok (flat ls ++ (lbls ++ f :: rest)) :=
  forLoop_done fuel depth _ syms (scan_end ls lbls f rest syms hwf hpre hl h1 h3)

theorem lineKind_equ (lbls : List Token) (q : Token) (v : List Token)
    (hl : ∀ x ∈ lbls, isLabelTok x = true) (h1 : q.typ = .text) (h3 : lowerStr q.val = "equ") :
    lineKind (lbls ++ q :: v) = .pseudo := by
  have hp : q.isPseudoOp = true := by unfold Token.isPseudoOp; rw [h3]; rfl
  rw [lineKind_labels _ hl]
  exact lineKind_pseudo h1 hp (by rw [h3]; decide) (by rw [h3]; decide)

theorem ScanPre.passLine {ls : List Line} {s s' : SymTab} (h : ScanPre ls s s') :
    ∀ l ∈ ls, PassLine l.toks := by
  induction h with
  | nil s => intro l hl; cases hl
  | skip hs _ ih =>
    exact List.forall_mem_cons.2 ⟨hs.imp_right (Or.imp_right (Or.imp_right And.left)), ih⟩
  | equ lbls q v hlt hl h1 h3 _ _ ih =>
    exact List.forall_mem_cons.2
      ⟨hlt ▸ Or.inr (Or.inr (Or.inr (lineKind_equ lbls q v hl h1 h3))), ih⟩

/-- `UnrollStep ts ts'`: `ts'` is `ts` with its first outermost FOR block replaced by its
    manual unrolling; the count is evaluated (by the real evaluator `expandAndEvaluate`)
    with the symbols of the EQU lines in front of the block -/
inductive UnrollStep : List Token → List Token → Prop
  | mk (pre : List Line) (b : Block) (q : List Token) (z : Token) (rest : List Token)
      (syms : SymTab) (n : Int) :
      (∀ l ∈ pre, l.WF) → ScanPre pre [] syms → b.WF →
      (∀ x ∈ q, x.isTerm = false) → z.isTerm = true →
      expandAndEvaluate (exprToks b.count) syms = .ok n →
      UnrollStep (flat pre ++ b.flat ++ q ++ z :: rest)
        (flat pre ++ b.unrolled n ++ q ++ [endTok z])

theorem UnrollStep.loop {ts ts' : List Token} (h : UnrollStep ts ts') (fuel depth : Nat) :
    forLoop (fuel + 1) depth ts =
      if depth + 1 > 12 then .error .err else forLoop fuel (depth + 1) ts' := by
  obtain ⟨pre, b, q, z, rest, syms, n, hwf, hpre, hb, hq, hz, hev⟩ := h
  have hscan : scanInput (flat pre ++ b.flat ++ q ++ z :: rest) = .ok (some (syms, true)) := by
    have := scan_for pre (b.labels ++ [b.ctr]) b.forTok
      (b.count ++ [b.nl] ++ (flat b.body ++ b.rofLine.flat) ++ q ++ z :: rest) syms hwf hpre
      hb.labels_ctr hb.forTyp hb.forVal
    rw [← this]
    simp [Block.flat, Block.header]
  have hexp := expand_pass expandAndEvaluate syms pre b q z rest n hwf hpre.passLine hb hq hz hev
  rw [forLoop]
  simp only [hscan, hexp, Bool.not_true, Bool.false_eq_true, ↓reduceIte]

inductive Steps : Nat → List Token → List Token → Prop
  | refl (ts : List Token) : Steps 0 ts ts
  | step {k : Nat} {ts ts' out : List Token} :
      UnrollStep ts ts' → Steps k ts' out → Steps (k + 1) ts out

theorem Steps.loop {k : Nat} {ts mid : List Token} (h : Steps k ts mid) (fuel depth : Nat)
    (hk : depth + k ≤ 12) : forLoop (k + fuel) depth ts = forLoop fuel (depth + k) mid := by
  induction h generalizing depth with
  | refl ts => rw [Nat.zero_add]; rfl
  | @step k ts ts1 out hstep _ ih =>
    have hk' : depth + 1 + k ≤ 12 := Nat.add_right_comm depth 1 k ▸ hk
    have hd : ¬(depth + 1 > 12) := Nat.not_lt.2 (Nat.le_trans (Nat.le_add_right ..) hk')
    rw [Nat.add_right_comm, hstep.loop, if_neg hd, ih (depth + 1) hk', Nat.add_assoc,
      Nat.add_comm 1 k]

/-- `Unrolls k ts out`: `k` manual unrolling steps lead from `ts` to the FOR-free `out` -/
inductive Unrolls : Nat → List Token → List Token → Prop
  | done (ts : List Token) (syms : SymTab) :
      scanInput ts = .ok (some (syms, false)) → Unrolls 0 ts ts
  | step {k : Nat} {ts ts' out : List Token} :
      UnrollStep ts ts' → Unrolls k ts' out → Unrolls (k + 1) ts out

theorem Unrolls.steps {k : Nat} {ts out : List Token} (h : Unrolls k ts out) :
    Steps k ts out ∧ ∃ syms, scanInput out = .ok (some (syms, false)) := by
  induction h with
  | done ts syms hs => exact ⟨.refl ts, syms, hs⟩
  | step hstep _ ih => exact ⟨.step hstep ih.1, ih.2⟩

/-- when at most 12 manual unrolling steps (each one expanding the first outermost block) lead to
    a FOR-free program, the pass loop returns that program -/
theorem for_unroll_partial {k : Nat} {ts out : List Token} (h : Unrolls k ts out)
    (fuel depth : Nat) (hk : depth + k ≤ 12) (hf : k < fuel) :
    forLoop fuel depth ts = .ok out := by
  obtain ⟨hs, syms, hscan⟩ := h.steps
  obtain ⟨f, rfl⟩ := Nat.exists_eq_add_of_lt hf
  rw [Nat.add_assoc, hs.loop _ _ hk, forLoop_done _ _ _ _ hscan]

/-- a 13th unrolling step is an error ("for loop depth exceeded"), whatever it produces -/
theorem for_unroll_too_deep {k : Nat} {ts mid ts' : List Token} (h : Steps k ts mid)
    (hlast : UnrollStep mid ts') (fuel depth : Nat) (hk : depth + k = 12) (hf : k < fuel) :
    forLoop fuel depth ts = .error .err := by
  obtain ⟨f, rfl⟩ := Nat.exists_eq_add_of_lt hf
  rw [Nat.add_assoc, h.loop _ _ (Nat.le_of_eq hk), hlast.loop,
    if_pos (Nat.lt_succ_of_le (Nat.le_of_eq hk.symm))]

theorem Block.headerLine_kind (b : Block) (hb : b.WF) : lineKind b.headerLine.toks = .for_ := by
  have : b.headerLine.toks = (b.labels ++ [b.ctr]) ++ b.forTok :: b.count := by
    simp [Block.headerLine]
  rw [this, lineKind_labels _ hb.labels_ctr]
  exact lineKind_for hb.forTyp hb.forVal

theorem Balanced.append {a b : List Line} (ha : Balanced a) (hb : Balanced b) :
    Balanced (a ++ b) :=
  Closes.append ha hb

end ForPass
end Gmars
