/-
  The '88 table: Go's validation of an '88 instruction (`getOpModeAndValidate88`) is the lookup in
  `Spec.table88` on '88 modes (`validate88_table`, evaluated once over all forms), every row of
  the table is made of '88 opcodes and '88 modes (`table88_rows`), and what `getOpCode88` and
  `getAddressMode88` deliver is in range. Shared by the load-file reader, the compiler stage and
  the printers.
-/
import Gmars.Model.Load
import Gmars.Spec.Legal88

namespace Gmars
open GoStr

/-- the opcodes `getOpCode88` can produce -/
def ops88 : List Op := [.dat, .mov, .add, .sub, .jmp, .jmz, .jmn, .djn, .cmp, .slt, .spl]

theorem getOpCode88_range {s : Str} {op : Op} (h : getOpCode88 s = some op) : op ∈ ops88 := by
  unfold getOpCode88 at h
  split at h <;> first | (cases h; decide) | (cases h)

theorem getAddressMode88_range {s : Str} {m : Mode} (h : getAddressMode88 s = some m) :
    Spec.mode88 m = true := by
  unfold getAddressMode88 at h
  split at h <;> first | (cases h; rfl) | (cases h)

theorem Op.mem_all (o : Op) : o ∈ Op.all := List.mem_of_getElem? (Op.ofNat?_toNat o)

theorem mode88_mem {m : Mode} (h : Spec.mode88 m = true) : m ∈ Spec.all4 := by
  cases m <;> first | decide | cases h

/-- the Go validation and the table, compared on all 17 × 4 × 4 forms with '88 modes -/
theorem validate88_table : ∀ op ∈ Op.all, ∀ am ∈ Spec.all4, ∀ bm ∈ Spec.all4,
    getOpModeAndValidate88 op am bm = Spec.implied88 op am bm := by
  decide +kernel

theorem validate88_eq (op : Op) (am bm : Mode) :
    Spec.mode88 am = true → Spec.mode88 bm = true →
    getOpModeAndValidate88 op am bm = Spec.implied88 op am bm :=
  fun ha hb => validate88_table op op.mem_all am (mode88_mem ha) bm (mode88_mem hb)

theorem table88_rows : ∀ r ∈ Spec.table88, (∀ o ∈ r.ops, o ∈ ops88) ∧
    (∀ m ∈ r.aModes, Spec.mode88 m = true) ∧ (∀ m ∈ r.bModes, Spec.mode88 m = true) := by
  decide

/-- the table only has '88 modes and `getOpCode88` opcodes: the row `find?` returns contains the
    form, and every row of the table is made of these -/
theorem implied88_some {op : Op} {am bm : Mode} {md : Modifier}
    (h : Spec.implied88 op am bm = some md) :
    Spec.mode88 am = true ∧ Spec.mode88 bm = true ∧ op ∈ ops88 := by
  unfold Spec.implied88 at h
  split at h
  · next r hr =>
    have hp := List.find?_some hr
    simp only [Bool.and_eq_true, List.contains_iff_mem] at hp
    obtain ⟨ho, ha, hb⟩ := table88_rows r (List.mem_of_find?_eq_some hr)
    exact ⟨ha _ hp.1.2, hb _ hp.2, ho _ hp.1.1⟩
  · cases h

theorem validate88_complete' {op : Op} {am bm : Mode} {md : Modifier}
    (h : Spec.implied88 op am bm = some md) :
    getOpModeAndValidate88 op am bm = some md := by
  obtain ⟨ha, hb, _⟩ := implied88_some h
  rw [validate88_eq op am bm ha hb]; exact h

theorem validate88_complete {op : Op} {am bm : Mode} {md : Modifier}
    (h : Spec.implied88 op am bm = some md)
    (ha : Spec.mode88 am = true) (hb : Spec.mode88 bm = true) (_hop : op ∈ ops88) :
    getOpModeAndValidate88 op am bm = some md := by
  rw [validate88_eq op am bm ha hb]; exact h

end Gmars
