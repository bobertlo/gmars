/-
  The fixpoint loop of `expandExpression` (compile.go) on a table without cycles, in closed form:
  the complete expansion of the symbols (`iterT`, any number of rounds that leaves no key), then
  every label as its offset (`substT (labC …)`); an ordinary error if a name is neither.  The one
  induction over the fuel (`expandLoop_spec`) also counts the rounds, so "never out of fuel",
  "the fuel is irrelevant", "at most `#values + 2` rounds" and the meaning of an operand are all
  read off the same statement.
-/
import Gmars.Proofs.ExpandFull

namespace Gmars
namespace Compile
open AsmLine

/-- the tokens `expandTok` writes for a label at offset `v` -/
def offToks (v : Int) : List Token :=
  if v < 0 then [{ typ := .symbol, val := "-" }, numTok (wrap64 (-v)).toNat] else [numTok v.toNat]

/-- the labels as `expandTok` on line `line` renders them -/
def labC (c : Compiler) (line : Int) (s : String) : Option (List Token) :=
  (c.labels.get? s).map fun label => offToks (Int.tmod (wrap64 (label - line)) (mInt c.m))

theorem labC_notext {c : Compiler} {line : Int} {s : String} {x : List Token}
    (h : labC c line s = some x) : ∀ t ∈ x, t.typ ≠ .text := by
  obtain ⟨l, _, rfl⟩ := Option.map_eq_some_iff.1 h
  unfold offToks
  split <;> simp [numTok]

/-- what `expandTok` answers once the core size is known not to be 0 -/
def expTokO (c : Compiler) (line : Int) (t : Token) : Option (List Token) :=
  if t.typ == .text then
    match c.values.get? t.val with
    | some v => some v
    | none => labC c line t.val
  else some [t]

def expOnceO (c : Compiler) (line : Int) : List Token → Option (List Token)
  | [] => some []
  | t :: r => (expTokO c line t).bind fun x => (expOnceO c line r).map fun rest => x ++ rest

theorem expandTok_eq (c : Compiler) (line : Int) (hm : mInt c.m ≠ 0) (t : Token) :
    expandTok c line t = optM (expTokO c line t) := by
  unfold expandTok expTokO labC
  split
  · cases c.values.get? t.val with
    | some v => rfl
    | none =>
      cases c.labels.get? t.val with
      | none => rfl
      | some label =>
        simp only [Option.map_some, offToks]
        rw [if_neg (by simpa using hm)]
        split <;> rfl
  · rfl

theorem expandOnce_eq (c : Compiler) (line : Int) (hm : mInt c.m ≠ 0) (ts : List Token) :
    expandOnce c line ts = optM (expOnceO c line ts) := by
  induction ts with
  | nil => rfl
  | cons t r ih =>
    unfold expandOnce expOnceO
    rw [expandTok_eq c line hm t, ih]
    cases expTokO c line t with
    | none => rfl
    | some x => cases expOnceO c line r <;> rfl

def finT (c : Compiler) (line : Int) (r : Nat) (ts : List Token) : Option (List Token) :=
  substT (labC c line) (iterT c.values r ts)

theorem finT_append (c : Compiler) (line : Int) (r : Nat) (a b : List Token) :
    finT c line r (a ++ b) = (finT c line r a).bind fun x => (finT c line r b).map fun y => x ++ y := by
  unfold finT
  rw [iterT_append, substT_append]

theorem finT_notext (c : Compiler) (line : Int) (r : Nat) (ts : List Token)
    (h : ∀ t ∈ ts, t.typ ≠ .text) : finT c line r ts = some ts := by
  unfold finT
  rw [iterT_keyfree _ _ _ (fun t ht htx => absurd htx (h t ht)), substT_notext _ _ h]

theorem finT_unique (c : Compiler) (line : Int) {a b : Nat} {ts : List Token}
    (ha : TKeyFree c.values (iterT c.values a ts)) (hb : TKeyFree c.values (iterT c.values b ts)) :
    finT c line a ts = finT c line b ts := by
  unfold finT
  rw [iterT_unique ha hb]

theorem finT_expTok {c : Compiler} {d : String → Nat} (hr : TRanked c.values d) (line : Int) (r : Nat)
    (t : Token) (hb : TBound c.values d r [t]) :
    (expTokO c line t).bind (finT c line r) = finT c line r [t] := by
  unfold expTokO
  by_cases htx : t.typ = .text
  · have hq : (t.typ == TokType.text) = true := by simpa using htx
    rw [if_pos hq]
    cases hv : c.values.get? t.val with
    | some v =>
      have hd := hb t (List.mem_singleton.2 rfl) htx (by rw [hv]; rfl)
      obtain ⟨r', rfl⟩ : ∃ r', r = r' + 1 := ⟨r - 1, by omega⟩
      have hbv : TBound c.values d r' v :=
        (show TBound c.values d (d t.val) v from hr t.val v hv).mono (by omega)
      unfold finT
      rw [Option.bind_some,
        iterT_of_keyfree (iterT_keyfree_of_bound hr _ _ hbv) (Nat.le_succ r')]
      simp only [iterT, stepT, List.flatMap_cons, List.flatMap_nil, List.append_nil,
        stepTTok_text _ t htx, hv, Option.getD_some]
    | none =>
      rw [show finT c line r [t] = substT (labC c line) [t] by
        rw [finT, iterT_keyfree _ _ _ (TKeyFree.single fun _ => hv)]]
      simp only [substT, hq, if_true]
      cases hl : labC c line t.val with
      | none => rfl
      | some x =>
        simp only [Option.map_some, Option.bind_some, List.append_nil]
        exact finT_notext c line r _ (labC_notext hl)
  · have hq : (t.typ == TokType.text) = false := by simpa using htx
    rw [hq]
    rfl

theorem finT_expOnce {c : Compiler} {d : String → Nat} (hr : TRanked c.values d) (line : Int) (r : Nat)
    (ts : List Token) (hb : TBound c.values d r ts) :
    (expOnceO c line ts).bind (finT c line r) = finT c line r ts := by
  induction ts with
  | nil => rfl
  | cons t rest ih =>
    rw [← List.singleton_append, finT_append,
      ← finT_expTok hr line r t (fun x hx => hb x (List.mem_cons.2 (.inl (List.mem_singleton.1 hx)))),
      ← ih (fun x hx => hb x (List.mem_cons_of_mem _ hx))]
    show ((expTokO c line t).bind fun x => (expOnceO c line rest).map fun y => x ++ y).bind _ = _
    cases expTokO c line t with
    | none => rfl
    | some x =>
      cases expOnceO c line rest with
      | none =>
        simp only [Option.bind_some, Option.map_none, Option.bind_none]
        cases finT c line r x <;> rfl
      | some y =>
        simp only [Option.bind_some, Option.map_some, finT_append]

def NBound (d : String → Nat) (n : Nat) (ts : List Token) : Prop :=
  ∀ t ∈ ts, t.typ = .text → d t.val < n

theorem NBound.tbound {V : SymTab} {d : String → Nat} {n r : Nat} {ts : List Token}
    (h : NBound d n ts) (hnr : n ≤ r) : TBound V d r ts :=
  fun t ht htx _ => Nat.lt_of_lt_of_le (h t ht htx) hnr

theorem mem_expOnceO {c : Compiler} {line : Int} {x : Token} (hxt : x.typ = .text) :
    ∀ {ts y : List Token}, expOnceO c line ts = some y → x ∈ y →
      ∃ t v, t ∈ ts ∧ t.typ = .text ∧ c.values.get? t.val = some v ∧ x ∈ v := by
  intro ts
  induction ts with
  | nil => intro y h hx; cases h; cases hx
  | cons t r ih =>
    intro y h hx
    obtain ⟨x1, h1, h⟩ := Option.bind_eq_some_iff.1 h
    obtain ⟨y1, h2, rfl⟩ := Option.map_eq_some_iff.1 h
    rcases List.mem_append.1 hx with hx | hx
    · refine ⟨t, ?_⟩
      unfold expTokO at h1
      by_cases htx : t.typ = .text
      · rw [if_pos (by simpa using htx)] at h1
        cases hv : c.values.get? t.val with
        | some v => rw [hv] at h1; cases h1; exact ⟨_, List.mem_cons_self .., htx, rfl, hx⟩
        | none => rw [hv] at h1; exact absurd hxt (labC_notext h1 x hx)
      · rw [if_neg (by simpa using htx)] at h1
        cases h1
        cases List.mem_singleton.1 hx
        exact absurd hxt htx
    · obtain ⟨t', v, ht', h'⟩ := ih h2 hx
      exact ⟨t', v, List.mem_cons_of_mem _ ht', h'⟩

theorem NBound.once {c : Compiler} {d : String → Nat} (hr : Ranked c.values d) {line : Int} {n : Nat}
    {ts y : List Token} (h : expOnceO c line ts = some y) (hb : NBound d (n + 1) ts) :
    NBound d n y := by
  intro x hx hxt
  obtain ⟨t, v, ht, htx, hv, hxv⟩ := mem_expOnceO hxt h hx
  have := hr _ _ hv x hxv hxt
  have := hb t ht htx
  omega

theorem expOnceO_notext (c : Compiler) (line : Int) {d : String → Nat} :
    ∀ {ts : List Token}, NBound d 0 ts → expOnceO c line ts = some ts := by
  intro ts
  induction ts with
  | nil => intro _; rfl
  | cons t r ih =>
    intro h
    have ht : (t.typ == TokType.text) = false := by
      simpa using fun htx => Nat.not_lt_zero _ (h t (List.mem_cons_self ..) htx)
    simp only [expOnceO, expTokO, ht, Bool.false_eq_true, if_false, Option.bind_some,
      ih (fun x hx => h x (List.mem_cons_of_mem _ hx)), Option.map_some, List.singleton_append]

theorem expOnceO_fix {c : Compiler} {d : String → Nat} (hr : Ranked c.values d) {line : Int}
    {ts : List Token} (hfix : expOnceO c line ts = some ts) :
    ∀ n, NBound d n ts → ∀ t ∈ ts, t.typ ≠ .text := by
  intro n
  induction n with
  | zero => exact fun h t ht htx => Nat.not_lt_zero _ (h t ht htx)
  | succ n ih => exact fun h => ih (h.once hr hfix)

/-- the number of rounds the loop `for !exprEqual(input, output)` performs when it may perform at
    most `fuel` (same recursion as `expandLoop`; a round that fails with an error counts) -/
def expandRounds (c : Compiler) (line : Int) : Nat → List Token → Nat
  | 0, _ => 0
  | fuel + 1, input =>
    match expandOnce c line input with
    | .ok output => if output == input then 1 else 1 + expandRounds c line fuel output
    | .error _ => 1

theorem expandRounds_le_fuel (c : Compiler) (line : Int) : ∀ (fuel : Nat) (ts : List Token),
    expandRounds c line fuel ts ≤ fuel := by
  intro fuel
  induction fuel with
  | zero => intro ts; simp [expandRounds]
  | succ fuel ih =>
    intro ts
    unfold expandRounds
    split
    · split
      · omega
      · have := ih ‹_›; omega
    · omega

/-- The loop on a ranked table.  A list whose names have rank below `n` is a fixpoint after at
    most `n` rounds, and the `n + 1`-st sees that nothing changes: with more fuel than that the loop
    answers `finT` (for every `r ≥ n`), whatever the fuel. -/
theorem expandLoop_spec {c : Compiler} {d : String → Nat} (hm : mInt c.m ≠ 0)
    (hr : Ranked c.values d) (line : Int) (r : Nat) :
    ∀ (fuel n : Nat) (ts : List Token), NBound d n ts → n ≤ r → n < fuel →
      expandLoop c line fuel ts = optM (finT c line r ts) ∧
        expandRounds c line fuel ts ≤ n + 1 := by
  intro fuel
  induction fuel with
  | zero => intro n ts _ _ h; omega
  | succ fuel ih =>
    intro n ts hts hnr hn
    have hinv := finT_expOnce (Ranked.tranked hr) line r ts (hts.tbound hnr)
    unfold expandLoop expandRounds
    rw [expandOnce_eq c line hm ts]
    cases hy : expOnceO c line ts with
    | none =>
      rw [hy] at hinv
      rw [← hinv]
      exact ⟨rfl, Nat.le_add_left ..⟩
    | some y =>
      rw [hy, Option.bind_some] at hinv
      show (if (y == ts) = true then pure y else expandLoop c line fuel y) = _ ∧
        (if (y == ts) = true then 1 else 1 + expandRounds c line fuel y) ≤ _
      by_cases heq : (y == ts) = true
      · rw [if_pos heq, if_pos heq]
        rw [eq_of_beq heq] at hy ⊢
        rw [finT_notext c line r ts (expOnceO_fix hr hy n hts)]
        exact ⟨rfl, Nat.le_add_left ..⟩
      · rw [if_neg heq, if_neg heq]
        cases n with
        | zero => exact absurd (Option.some.inj (hy.symm.trans
            (expOnceO_notext c line hts))) (by simpa using heq)
        | succ n =>
          obtain ⟨h1, h2⟩ := ih n y (hts.once hr hy) (by omega) (by omega)
          exact ⟨h1.trans (congrArg optM hinv), by omega⟩

/-- what the two tables `compile()` expands with have in common -/
structure GoodTable (c : Compiler) : Prop where
  m_ne : mInt c.m ≠ 0
  ranked : ∃ d, Ranked c.values d ∧ ∀ s, d s ≤ c.values.length

/-- the table as loaded, once the cycle check has passed -/
theorem GoodTable.of_acyclic {c : Compiler} (hm : mInt c.m ≠ 0)
    (hc : graphContainsCycle (buildReferenceGraph c.values) = false) : GoodTable c :=
  ⟨hm, _, ranked_of_acyclic hc⟩

/-- a table whose values mention none of its keys (what `expandExpressions` returns): rank 1 for
    the keys, 0 for every other name -/
theorem GoodTable.of_keyfree {c : Compiler} (hm : mInt c.m ≠ 0)
    (hk : ∀ k v, c.values.get? k = some v → TKeyFree c.values v) : GoodTable c := by
  refine ⟨hm, fun s => if c.values.has s then 1 else 0, fun k v hkv t ht htx => ?_, fun s => ?_⟩
  · have h2 : c.values.has t.val = false := by rw [SymTab.has_eq, hk k v hkv t ht htx]; rfl
    simp only [SymTab.has_of_get? hkv, h2, if_true]
    decide
  · simp only
    split
    · exact SymTab.length_pos_of_has ‹_›
    · exact Nat.zero_le _

theorem GoodTable.loop {c : Compiler} (hc : GoodTable c) (ts : List Token) (line : Int) {fuel : Nat}
    (hf : c.values.length + 2 ≤ fuel) :
    expandLoop c line fuel ts = optM (finT c line (c.values.length + 1) ts) ∧
      TKeyFree c.values (iterT c.values (c.values.length + 1) ts) := by
  obtain ⟨d, hr, hd⟩ := hc.ranked
  have hb : NBound d (c.values.length + 1) ts := fun t _ _ => Nat.lt_succ_of_le (hd t.val)
  exact ⟨(expandLoop_spec hc.m_ne hr line _ fuel _ ts hb (Nat.le_refl _) (by omega)).1,
    iterT_keyfree_of_bound (Ranked.tranked hr) _ _ (hb.tbound (Nat.le_refl _))⟩

theorem GoodTable.expand {c : Compiler} (hc : GoodTable c) (ts : List Token) (line : Int) {r : Nat}
    (hk : TKeyFree c.values (iterT c.values r ts)) :
    expandExpression c ts line = optM (finT c line r ts) := by
  unfold expandExpression
  cases ts with
  | nil => rw [finT, iterT_nil]; rfl
  | cons x rest =>
    obtain ⟨h1, h2⟩ := hc.loop (x :: rest) line
      (show c.values.length + 2 ≤ c.values.length + c.labels.length + 2 by omega)
    simp only [List.isEmpty_cons, Bool.false_eq_true, if_false]
    rw [h1, finT_unique c line h2 hk]

/-- `expandExpressions` changes nothing: on a table that passed the cycle check every expression
    expands to the same tokens with the resolved table as with the table as loaded (one round
    with completely expanded values = the complete expansion, `stepT_deep`). -/
theorem expandExpression_resolved {c : Compiler} {R : SymTab} (hm : mInt c.m ≠ 0)
    (hc : graphContainsCycle (buildReferenceGraph c.values) = false)
    (hres : expandExpressions c.values (buildReferenceGraph c.values) = some R)
    (ts : List Token) (line : Int) :
    expandExpression { c with values := R } ts line = expandExpression c ts line := by
  obtain ⟨hget, hkf⟩ := resolved_keyfree hc hres
  have hg := GoodTable.of_acyclic hm hc
  rw [(GoodTable.of_keyfree (c := { c with values := R }) hm hkf).expand ts line (r := 1)
      (stepT_keyfree_of_values hkf ts),
    hg.expand ts line (hg.loop ts line (Nat.le_refl _)).2]
  show optM (substT (labC c line) (stepT R ts)) = _
  rw [stepT_deep fun t _ _ => hget t.val]
  rfl

theorem GoodTable.noFault {c : Compiler} (hc : GoodTable c) (expr : List Token) (line : Int) :
    NoFault (expandExpression c expr line) := by
  rw [hc.expand expr line (hc.loop expr line (Nat.le_refl _)).2]
  exact NoFault.optM _

/-- the loop of `expandExpression` performs at most `#values + 2` rounds, however many it is allowed -/
theorem GoodTable.rounds {c : Compiler} (hc : GoodTable c) (expr : List Token) (line : Int)
    (fuel : Nat) : expandRounds c line fuel expr ≤ c.values.length + 2 := by
  obtain ⟨d, hr, hd⟩ := hc.ranked
  by_cases hf : c.values.length + 1 < fuel
  · exact (expandLoop_spec hc.m_ne hr line _ fuel _ expr
      (fun t _ _ => Nat.lt_succ_of_le (hd t.val)) (Nat.le_refl _) hf).2
  · exact Nat.le_trans (expandRounds_le_fuel c line fuel expr) (by omega)

/-- the fuel of the model (`#values + #labels + 2`) is never used up, and any larger fuel gives the
    same result -/
theorem GoodTable.fuel_irrelevant {c : Compiler} (hc : GoodTable c) (expr : List Token) (line : Int)
    (fuel : Nat) (hf : c.values.length + 2 ≤ fuel) :
    expandLoop c line fuel expr = expandLoop c line (c.values.length + c.labels.length + 2) expr := by
  rw [(hc.loop expr line hf).1, (hc.loop expr line (by omega)).1]

end Compile
end Gmars
