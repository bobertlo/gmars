/-
  C07: the reference evaluator (`Spec.Expr.binary`) and the model of `go/types.Eval`
  (`GoEval.parseBinary`) are the same precedence climbing parser over different tokens and
  values.  What they share is stated here as equations of three functions with fuel, and the
  parser is shown once to compute the value of every precedence-well-formed tree.
-/
import Gmars.Proofs.ExprCST

namespace Gmars.ExprProofs

structure Climber where
  τ : Type
  ν : Type
  num : Nat → τ
  op : String → τ
  lp : τ
  rp : τ
  toks : CST → List τ
  vnum : Nat → ν
  sgn : Bool → ν → Option ν
  app : String → ν → ν → Option ν
  prec : String → Nat
  U : Nat → List τ → Option (ν × List τ)
  B : Nat → List τ → Nat → Option (ν × List τ)
  L : Nat → ν → List τ → Nat → Option (ν × List τ)
  toks_eq : ∀ c, toks c = match c with
    | .num n => [num n]
    | .signs ss e => ss.map (fun s => op (signStr s)) ++ toks e
    | .paren e => lp :: (toks e ++ [rp])
    | .bin o l r => toks l ++ op o :: toks r
  prec_eq : ∀ o, isArith o → prec o = Spec.Expr.prec o
  op_inj : ∀ o o', op o = op o' → o = o'
  op_ne_rp : ∀ o, op o ≠ rp
  U_num : ∀ f n r, U (f + 1) (num n :: r) = some (vnum n, r)
  U_sgn : ∀ f s r, U (f + 1) (op (signStr s) :: r) =
    (U f r).bind fun x => (sgn s x.1).map (·, x.2)
  /-- stated for the two outcomes the proof meets inside a parenthesis: `B` gives up (`d = none`)
      or stops in front of the closing `rp` -/
  U_lp : ∀ f r (d : Option ν) rest, B f r 1 = d.map (·, rp :: rest) →
    U (f + 1) (lp :: r) = d.map (·, rest)
  B_eq : ∀ f ts p, B (f + 1) ts p = (U f ts).bind fun x => L f x.1 x.2 p
  L_stop : ∀ f x rest p, (∀ o r, rest = op o :: r → prec o < p ∨ prec o = 0) →
    L (f + 1) x rest p = some (x, rest)
  L_step : ∀ f x o r p, p ≤ prec o → prec o ≠ 0 →
    L (f + 1) x (op o :: r) p =
      (B f r (prec o + 1)).bind fun y => (app o x y.1).bind fun z => L f z y.2 p

namespace Climber
variable (K : Climber)

/-- `rest` does not continue an operand parsed at level `q` -/
def Stop (q : Nat) (rest : List K.τ) : Prop :=
  ∀ o r, rest = K.op o :: r → K.prec o < q ∨ K.prec o = 0

theorem Stop_rp (q : Nat) (r : List K.τ) : K.Stop q (K.rp :: r) :=
  fun o _ e => absurd (List.cons.inj e).1.symm (K.op_ne_rp o)

def den : CST → Option K.ν
  | .num n => some (K.vnum n)
  | .signs ss e => ss.foldr (fun s acc => acc.bind (K.sgn s)) (den e)
  | .paren e => den e
  | .bin o l r => (den l).bind fun a => (den r).bind fun b => K.app o a b

theorem U_signs (ss : List Bool) (F : Nat) (ts rest : List K.τ) (d : Option K.ν)
    (h : K.U F ts = d.map (·, rest)) :
    K.U (F + ss.length) (ss.map (fun s => K.op (signStr s)) ++ ts) =
      (ss.foldr (fun s acc => acc.bind (K.sgn s)) d).map (·, rest) := by
  induction ss with
  | nil => exact h
  | cons s ss ih =>
    rw [List.length_cons, ← Nat.add_assoc, List.map_cons, List.cons_append, K.U_sgn, ih,
      List.foldr_cons]
    cases ss.foldr (fun s acc => acc.bind (K.sgn s)) d <;> rfl

def Cont (rest : List K.τ) (p M : Nat) (k : K.ν → Option (K.ν × List K.τ)) : Prop :=
  ∀ F, M ≤ F → ∀ v, K.L F v rest p = k v

theorem Cont.stop {p : Nat} {rest : List K.τ} (h : K.Stop p rest) :
    K.Cont rest p 1 fun v => some (v, rest) := by
  intro F hF v
  obtain ⟨F, rfl⟩ : ∃ G, F = G + 1 := ⟨F - 1, by omega⟩
  exact K.L_stop F v rest p h

/-- The statement proved by induction on the tree.  `U` parses atoms and sign runs only
    (`prec = 6`); a binary node is consumed by `B`, which calls `U` on the leftmost atom and then
    `L` once per operator of the left spine.  The loop that goes on after the tree is any `k` with
    `Cont`, so no fuel has to be named exactly: every condition is a lower bound in `3 * c.ntoks`
    (a bound is needed also where the parser gives up, since it answers `none` for exhausted fuel
    as for a zero divisor). -/
def OK (c : CST) : Prop :=
  (c.prec = 6 → ∀ F, 3 * c.ntoks ≤ F + 2 → ∀ rest,
      K.U F (K.toks c ++ rest) = (K.den c).map (·, rest)) ∧
  (∀ p1 rest M k, p1 ≤ c.prec → K.Stop (c.prec + 1) rest → K.Cont rest p1 M k →
      ∀ F, M + 3 * c.ntoks ≤ F + 1 → K.B F (K.toks c ++ rest) p1 = (K.den c).bind k)

theorem Cont.step {o : String} {r : CST} {p1 M : Nat} {rest : List K.τ}
    {k : K.ν → Option (K.ν × List K.τ)} (hr : K.OK r) (hp : p1 ≤ K.prec o) (h0 : K.prec o ≠ 0)
    (hpr : K.prec o < r.prec) (hstop : K.Stop (K.prec o + 1) rest) (hk : K.Cont rest p1 M k) :
    K.Cont (K.op o :: (K.toks r ++ rest)) p1 (M + 3 * r.ntoks + 1)
      fun a => (K.den r).bind fun b => (K.app o a b).bind k := by
  intro G hG a
  show _ = (K.den r).bind fun b => (K.app o a b).bind k
  obtain ⟨G, rfl⟩ : ∃ G', G = G' + 1 := ⟨G - 1, by omega⟩
  rw [K.L_step G a o _ p1 hp h0,
    hr.2 (K.prec o + 1) rest 1 _ hpr
      (fun o' r' e => (hstop o' r' e).imp_left fun h => by omega) (Cont.stop K hstop) G (by omega)]
  cases K.den r with
  | none => rfl
  | some b =>
    show ((K.app o a b).bind fun z => K.L G z rest p1) = (K.app o a b).bind k
    cases K.app o a b with
    | none => rfl
    | some z => exact hk G (by omega) z

theorem ok_of_U (c : CST)
    (hu : ∀ F, 3 * c.ntoks ≤ F + 2 → ∀ rest, K.U F (K.toks c ++ rest) = (K.den c).map (·, rest)) :
    K.OK c := by
  refine ⟨fun _ => hu, fun p1 rest M k _ _ hk F hF => ?_⟩
  have := c.ntoks_pos
  obtain ⟨F, rfl⟩ : ∃ G, F = G + 1 := ⟨F - 1, by omega⟩
  rw [K.B_eq, hu F (by omega) rest]
  cases K.den c with
  | none => rfl
  | some v => exact hk F (by omega) v

theorem ok (c : CST) (hw : WFprec c) : K.OK c := by
  induction c with
  | num n =>
    refine K.ok_of_U _ fun F hF rest => ?_
    obtain ⟨F, rfl⟩ : ∃ G, F = G + 1 := ⟨F - 1, by simp only [CST.ntoks] at hF; omega⟩
    rw [K.toks_eq]
    exact K.U_num F n rest
  | signs ss e ih =>
    have h6 : e.prec = 6 := by cases e <;> first | rfl | exact nomatch hw.1
    refine K.ok_of_U _ fun F hF rest => ?_
    simp only [CST.ntoks] at hF
    obtain ⟨G, rfl⟩ : ∃ G, F = G + ss.length := ⟨F - ss.length, by have := e.ntoks_pos; omega⟩
    rw [K.toks_eq]
    simp only [List.append_assoc]
    exact K.U_signs ss G _ rest _ ((ih hw.2).1 h6 G (by omega) rest)
  | paren e ih =>
    refine K.ok_of_U _ fun F hF rest => ?_
    have h4 := prec_ge_four e hw
    simp only [CST.ntoks] at hF
    obtain ⟨F, rfl⟩ : ∃ G, F = G + 1 := ⟨F - 1, by omega⟩
    rw [K.toks_eq]
    simp only [List.cons_append, List.append_assoc, List.nil_append]
    apply K.U_lp
    rw [(ih hw).2 1 _ 1 _ (by omega) (K.Stop_rp _ _) (Cont.stop K (K.Stop_rp _ _)) F (by omega)]
    show _ = (K.den e).map _
    cases K.den e <;> rfl
  | bin o l r ihl ihr =>
    obtain ⟨hop, hwl, hwr, hpl, hpr⟩ := hw
    have hp := prec_arith hop
    have hgp := K.prec_eq o hop
    refine ⟨fun h => by simp only [CST.prec] at h; omega, fun p1 rest M k hp1 hstop hk F hF => ?_⟩
    simp only [CST.prec] at hp1 hstop
    simp only [CST.ntoks] at hF
    rw [K.toks_eq]
    simp only [List.append_assoc, List.cons_append]
    have hkl := Cont.step K (ihr hwr) (o := o) (p1 := p1) (by omega) (by omega) (by omega)
      (by rw [hgp]; exact hstop) hk
    rw [(ihl hwl).2 p1 _ _ _ (by omega) (fun o' r' e => by
      rw [← K.op_inj _ _ (List.cons.inj e).1]; left; omega) hkl F (by omega)]
    show _ = ((K.den l).bind fun a => (K.den r).bind fun b => K.app o a b).bind k
    cases K.den l with
    | none => rfl
    | some a => cases K.den r <;> rfl

theorem eval (c : CST) (hw : WFprec c) :
    K.B (3 * c.ntoks + 3) (K.toks c) 1 = (K.den c).map (·, []) := by
  have h := (K.ok c hw).2 1 [] 1 _ (by have := prec_ge_four c hw; omega) (fun _ _ e => nomatch e)
    (Cont.stop K fun _ _ e => nomatch e) (3 * c.ntoks + 3) (by omega)
  rw [List.append_nil] at h
  rw [h]
  cases K.den c <;> rfl

end Climber
end Gmars.ExprProofs
