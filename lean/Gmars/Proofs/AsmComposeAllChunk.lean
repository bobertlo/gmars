/-
  C03 / C08, labels + EQUs + FOR blocks in ONE program: the items of the parser-level programs
  (`AsmComposeEqu.PItem`: labelled instructions — every label optionally followed by a colon —,
  comment lines, ORG lines, EQU lines, each with trailing blank lines) are chunks of the FOR pass
  loop (`chunk_pitem`).  The expander sends an instruction line that stands in front of the block it
  expands on WITHOUT the colons behind its labels (`forConsumeLabels` skips colons and writes the
  labels without them): `clearP`.
-/
import Gmars.Proofs.ForPassLoop
import Gmars.Proofs.AsmComposeEquScan

namespace Gmars
namespace AsmComposeAll
open Gmars.ForPass Gmars.ForExpand Gmars.Render Gmars.AsmCompose Gmars.AsmComposeEqu

def clearLabels (ls : List (String × Bool)) : List (String × Bool) := ls.map (fun p => (p.1, false))

def clearStmt (s : Stmt) : Stmt := { s with labels := clearLabels s.labels }

def clearP : PItem → PItem
  | .x (.base (.stmt s)) => .x (.base (.stmt (clearStmt s)))
  | it => it

theorem clearLabels_idem (ls : List (String × Bool)) : clearLabels (clearLabels ls) = clearLabels ls := by
  simp [clearLabels, List.map_map]

theorem clearP_idem : ∀ it : PItem, clearP (clearP it) = clearP it
  | .x (.base (.stmt s)) => by simp [clearP, clearStmt, clearLabels_idem]
  | .equ .. | .x (.org ..) | .x (.base (.comment ..)) => rfl

theorem clearP_OK_iff : ∀ it : PItem, (clearP it).OK ↔ it.OK
  | .x (.base (.stmt _)) =>
    and_congr_left' (List.forall_mem_map (P := fun l : String × Bool => IsLabelName l.1))
  | .equ .. | .x (.org ..) | .x (.base (.comment ..)) => Iff.rfl

theorem clearP_equs : ∀ it : PItem, pitemsEqus [clearP it] = pitemsEqus [it]
  | .x (.base (.stmt _)) | .equ .. | .x (.org ..) | .x (.base (.comment ..)) => rfl

theorem labelTokens_clear (ls : List (String × Bool)) :
    labelTokens (clearLabels ls) = labelToks (ls.map (·.1)) := by
  induction ls with
  | nil => rfl
  | cons p r ih =>
    obtain ⟨l, c⟩ := p
    simp only [clearLabels, List.map_cons, labelTokens, labelToks] at ih ⊢
    simp [ih]

/-- `k` blank lines, with the newline token of the parser-level programs -/
theorem chunk_nls' (k : Nat) : Chunk (List.replicate k nlTok) (List.replicate k nlTok) [] :=
  chunk_nls k

theorem cl_colon (e : List Token → SymTab → EvalRes) (sy : SymTab) (t : Token) (r : List Token)
    (lb : List String) (o : Out) :
    consumeLabels e sy colonTok (t :: r) lb o = consumeLabels e sy t r lb o := by
  rw [consumeLabels]
  simp [colonTok]

theorem runCL_labelTokens (e : List Token → SymTab → EvalRes) (sy : SymTab) {rest : List Token}
    (hr : rest ≠ []) (o : Out) (ls : List (String × Bool)) (lb : List String)
    (hlab : ∀ l ∈ ls, IsLabelName l.1) :
    runCL e sy (labelTokens ls ++ rest) lb o = runCL e sy rest (lb ++ ls.map (·.1)) o := by
  induction ls generalizing lb with
  | nil => simp [labelTokens]
  | cons p ls ih =>
    obtain ⟨l, c⟩ := p
    have hlab := List.forall_mem_cons.1 hlab
    have hrec := ih (lb ++ [l]) hlab.2
    obtain ⟨x, xs, hx⟩ :=
      List.exists_cons_of_ne_nil (List.append_ne_nil_of_right_ne_nil (labelTokens ls) hr)
    rw [hx, runCL] at hrec
    have hlt : isLabelTok (⟨.text, l⟩ : Token) = true := isLabelTok_of_name hlab.1
    cases c with
    | false =>
      simp only [labelTokens, Bool.false_eq_true, if_false, List.nil_append, List.cons_append,
        List.map_cons]
      rw [hx, runCL, cl_label e sy hlt, hrec]
      simp
    | true =>
      simp only [labelTokens, if_true, List.cons_append, List.nil_append, List.map_cons]
      rw [hx, runCL, cl_label e sy hlt, cl_colon, hrec]
      simp

theorem clearStmt_tokens (s : Stmt) :
    (clearStmt s).tokens = labelToks (s.labels.map (·.1)) ++
      ((⟨.text, s.op⟩ : Token) :: (stmtArgs s ++ [nlTok])) ++ List.replicate s.blanks nlTok := by
  simp [Stmt.tokens, clearStmt, labelTokens_clear, stmtArgs, Stmt.bTokens]

theorem runLine_stmt (e : List Token → SymTab → EvalRes) (sy : SymTab) (s : Stmt) (hs : s.OK)
    (y : Token) (ys : List Token) (o : Out) :
    runLine e sy (s.tokens ++ y :: ys) o = runLine e sy (y :: ys) (emits o (clearStmt s).tokens) := by
  have hopl : ∀ x ∈ (⟨.text, s.op⟩ : Token) :: stmtArgs s, InLine x :=
    List.forall_mem_cons.2 ⟨inLine_text s.op, inLine_stmtArgs s hs⟩
  have hk : lineKind ((⟨.text, s.op⟩ : Token) :: stmtArgs s) = .op :=
    lineKind_op rfl hs.2.1.1 hs.2.1.2
  obtain ⟨t, r, htr⟩ := exists_cons (List.replicate s.blanks nlTok) y ys
  -- the line starts with a text token: `forLine` goes to `forConsumeLabels`
  obtain ⟨x, xs, hx, hxt⟩ : ∃ x xs, labelTokens s.labels ++
      (⟨.text, s.op⟩ : Token) :: (stmtArgs s ++ nlTok :: t :: r) = x :: xs ∧ x.typ = .text := by
    cases hl : s.labels with
    | nil => exact ⟨_, _, rfl, rfl⟩
    | cons p ps =>
      obtain ⟨l, c⟩ := p
      exact ⟨⟨.text, l⟩, _, rfl, rfl⟩
  rw [stmt_tokens_eq, htr, hx, runLine_text e sy x xs o hxt, ← hx,
    runCL_labelTokens e sy (List.cons_ne_nil _ _) o s.labels [] hs.1, ← List.cons_append,
    runCL_line e sy _ nlTok t r _ o hopl rfl (Or.inl hk), ← htr,
    (chunk_nls' s.blanks).pass e sy y ys, clearStmt_tokens, emitLabels_eq, List.nil_append,
    ← emits_append, ← emits_append]
  simp only [List.append_assoc, List.cons_append]

theorem noTerm_of_inLine {l : List Token} (h : ∀ t ∈ l, InLine t) : ∀ t ∈ l, t.isTerm = false :=
  fun t ht => (h t ht).isTerm

theorem noTerm_nls (k : Nat) : ∀ t ∈ List.replicate k nlTok, t.isTerm = false := by
  intro t ht
  rw [(List.mem_replicate.1 ht).2]; rfl

def lineToks : PItem → List Token
  | .equ name kw toks _ => ⟨.text, name⟩ :: ⟨.text, kw⟩ :: toks
  | .x (.org kw toks _) => ⟨.text, kw⟩ :: toks
  | .x (.base (.comment v _)) => [⟨.comment, v⟩]
  | .x (.base (.stmt s)) => labelTokens s.labels ++ ⟨.text, s.op⟩ :: stmtArgs s

theorem pitem_tokens : ∀ it : PItem,
    it.tokens = lineToks it ++ nlTok :: List.replicate it.blanks nlTok
  | .x (.base (.stmt s)) => by
    show s.tokens = (labelTokens s.labels ++ (⟨.text, s.op⟩ : Token) :: stmtArgs s) ++
      nlTok :: List.replicate s.blanks nlTok
    simpa using stmt_tokens_eq s []
  | .equ .. | .x (.org ..) | .x (.base (.comment ..)) => rfl

theorem pitem_inLine {it : PItem} (h : it.OK) : ∀ t ∈ lineToks it, InLine t := by
  intro t ht
  cases it with
  | equ name kw toks k =>
    simp only [lineToks, List.mem_cons] at ht
    rcases ht with rfl | rfl | ht
    · exact inLine_text name
    · exact inLine_text kw
    · exact inLine_of_exprTerm (h.2.2.2 t ht)
  | x it =>
    cases it with
    | org kw toks k =>
      simp only [lineToks, List.mem_cons] at ht
      rcases ht with rfl | ht
      · exact inLine_text kw
      · exact inLine_of_exprTerm (h.2.2 t ht)
    | base it =>
      cases it with
      | comment v k =>
        rw [List.mem_singleton.1 ht]
        unfold InLine
        simp
      | stmt s =>
        simp only [lineToks, List.mem_append, List.mem_cons] at ht
        rcases ht with ht | rfl | ht
        · exact inLine_labelTokens s.labels t ht
        · exact inLine_text s.op
        · exact inLine_stmtArgs s h t ht

theorem pitem_noTerm {it : PItem} (h : it.OK) : ∀ t ∈ it.tokens, t.isTerm = false := by
  intro t ht
  rw [pitem_tokens, List.mem_append, List.mem_cons] at ht
  rcases ht with ht | rfl | ht
  · exact (pitem_inLine h t ht).isTerm
  · rfl
  · exact noTerm_nls _ t ht

theorem runLine_passItem (e : List Token → SymTab → EvalRes) (sy : SymTab) (it : PItem) (h : it.OK)
    (hp : PassLine (lineToks it)) (y : Token) (ys : List Token) (o : Out) :
    runLine e sy (it.tokens ++ y :: ys) o = runLine e sy (y :: ys) (emits o it.tokens) := by
  obtain ⟨t, r, htr⟩ := exists_cons (List.replicate it.blanks nlTok) y ys
  have h1 := runLine_passLine e sy ⟨lineToks it, nlTok⟩ t r o ⟨rfl, pitem_inLine h⟩ hp
  simp only [Line.flat] at h1
  rw [pitem_tokens, List.append_assoc, List.cons_append, htr, List.append_cons, h1, ← htr,
    (chunk_nls' it.blanks).pass e sy y ys, ← emits_append, List.append_assoc]
  rfl

theorem runLine_pitem (e : List Token → SymTab → EvalRes) (sy : SymTab) (it : PItem) (h : it.OK)
    (y : Token) (ys : List Token) (o : Out) :
    runLine e sy (it.tokens ++ y :: ys) o = runLine e sy (y :: ys) (emits o (clearP it).tokens) := by
  cases it with
  | equ name kw toks k =>
    exact runLine_passItem e sy _ h (Or.inr (Or.inr (Or.inr (lineKind_equ [(⟨.text, name⟩ : Token)]
      ⟨.text, kw⟩ toks (fun x hx => by rw [List.mem_singleton.1 hx]; exact isLabelTok_of_name h.1)
      rfl h.2.1)))) y ys o
  | x it =>
    cases it with
    | org kw toks k =>
      have hp : (⟨.text, kw⟩ : Token).isPseudoOp = true := isPseudoOp_of_lower h.1 (Or.inl rfl)
      exact runLine_passItem e sy _ h (Or.inr (Or.inr (Or.inr
        (lineKind_pseudo rfl hp (by simp [h.1]) (by simp [h.1]))))) y ys o
    | base it =>
      cases it with
      | comment v k =>
        exact runLine_passItem e sy _ h (Or.inl (by simp [lineToks])) y ys o
      | stmt s => exact runLine_stmt e sy s h y ys o

theorem chunk_pitem (it : PItem) (h : it.OK) :
    Chunk it.tokens (clearP it).tokens (pitemsEqus [it]) where
  noTerm := pitem_noTerm h
  noTerm' := pitem_noTerm ((clearP_OK_iff it).2 h)
  scan := fun rest s hf => runScan_pitem it h rest s
    fun _ hx hs => nodup_disjoint hf hs hx
  pass := fun e sy y ys o => runLine_pitem e sy it h y ys o

theorem chunk_pitem_clear (it : PItem) (h : it.OK) :
    Chunk (clearP it).tokens (clearP it).tokens (pitemsEqus [it]) := by
  have := chunk_pitem (clearP it) ((clearP_OK_iff it).2 h)
  rw [clearP_idem, clearP_equs] at this
  exact this

end AsmComposeAll
end Gmars
