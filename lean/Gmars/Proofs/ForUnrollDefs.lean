/-
  C08, whole programs: a structured program (`Prog`: instruction lines and FOR blocks, nested to any
  depth, whose counts are number literals or counters of enclosing blocks) and its manual unrolling
  (`FullUnroll`): every block is replaced by the copies of its body with the counter substituted,
  and the copies are unrolled in turn.
-/
import Gmars.Proofs.ForPass
import Gmars.Proofs.ExprProofs

namespace Gmars
namespace ForPass

open ForExpand ExprProofs

def substC (c : String) (i : Nat) (t : Token) : Token :=
  if t.typ = .text ∧ t.val = c then numTok i else t

theorem substTok_noLabels (c : String) (n : Int) (i : Nat) (t : Token) :
    substTok (mkCtx [] c n) i t = substC c i t := by
  unfold substTok substC mkCtx numTok
  by_cases h1 : t.typ = .text <;> by_cases h2 : t.val = c <;> simp [h1, h2]

def Line.subst (c : String) (i : Nat) (l : Line) : Line :=
  { toks := l.toks.map (substC c i), nl := substC c i l.nl }

theorem flat_map_subst (c : String) (i : Nat) (ls : List Line) :
    flat (ls.map (Line.subst c i)) = (flat ls).map (substC c i) := by
  induction ls with
  | nil => rfl
  | cons l ls ih => simp [ih, Line.subst, Line.flat]

/-- a program: instruction lines and FOR blocks `ctr for count \n body rof… \n` -/
inductive Prog
  | nil
  | line (l : Line) (rest : Prog)
  | block (ctr forTok count nl : Token) (body : Prog) (rofLine : Line) (rest : Prog)

namespace Prog

def append : Prog → Prog → Prog
  | nil, q => q
  | line l r, q => line l (r.append q)
  | block c f n nl body rof r, q => block c f n nl body rof (r.append q)

def render : Prog → List Line
  | nil => []
  | line l r => l :: r.render
  | block c f n nl body rof r =>
    { toks := [c, f, n], nl := nl } :: (body.render ++ rof :: r.render)

def subst (c : String) (i : Nat) : Prog → Prog
  | nil => nil
  | line l r => line (l.subst c i) (r.subst c i)
  | block ct f n nl body rof r =>
    block (substC c i ct) (substC c i f) (substC c i n) (substC c i nl) (body.subst c i)
      (rof.subst c i) (r.subst c i)

theorem render_append (p q : Prog) : (p.append q).render = p.render ++ q.render := by
  induction p with
  | nil => rfl
  | line l r ih => simp [append, render, ih]
  | block c f n nl body rof r _ ih => simp [append, render, ih]

theorem render_subst (c : String) (i : Nat) (p : Prog) :
    (p.subst c i).render = p.render.map (Line.subst c i) := by
  induction p with
  | nil => rfl
  | line l r ih => simp [subst, render, ih]
  | block ct f n nl body rof r ihb ih => simp [subst, render, ih, ihb, Line.subst]

end Prog

def HeaderOK (c f n nl : Token) : Prop :=
  isLabelTok c = true ∧ f.typ = .text ∧ lowerStr f.val = "for" ∧ InLine n ∧ nl.typ = .newline

instance (c f n nl : Token) : Decidable (HeaderOK c f n nl) := by
  unfold HeaderOK; infer_instance

def RofOK (l : Line) : Prop :=
  l.WF ∧ ∃ t r, l.toks = t :: r ∧ t.typ = .text ∧ lowerStr t.val = "rof"

def Prog.Shape : Prog → Prop
  | .nil => True
  | .line l r => SimpleLine l ∧ r.Shape
  | .block c f n nl body rof r => HeaderOK c f n nl ∧ RofOK rof ∧ body.Shape ∧ r.Shape

theorem RofOK.kind {l : Line} (h : RofOK l) : lineKind l.toks = .rof := by
  obtain ⟨_, t, r, e, h1, h3⟩ := h
  rw [e]
  exact lineKind_rof h1 h3

theorem RofOK.head {l : Line} (h : RofOK l) : ∀ x ∈ l.toks.head?, isLabelTok x = false := by
  obtain ⟨_, t, r, e, h1, h3⟩ := h
  rw [e]
  rintro x ⟨⟩
  exact not_label_of_isOp (isOp_of_isPseudoOp h1 (isPseudoOp_of_lower_rof h3))

def mkBlock (c f n nl : Token) (body : Prog) (rof : Line) : Block :=
  { labels := [], ctr := c, forTok := f, count := [n], nl := nl, body := body.render,
    rofLine := rof }

def RofsBare (ls : List Line) : Prop :=
  ∀ l ∈ ls, lineKind l.toks = .rof → ∀ x ∈ l.toks.head?, isLabelTok x = false

theorem mkBlock_WF_of {c f n nl : Token} {body : Prog} {rof : Line} (hh : HeaderOK c f n nl)
    (hrof : RofOK rof) (hwf : ∀ l ∈ body.render, l.WF) (hbal : Balanced body.render) :
    (mkBlock c f n nl body rof).WF :=
  { labels := fun _ h => by cases h
    ctr := hh.1
    forTyp := hh.2.1
    forVal := hh.2.2.1
    count := List.forall_mem_singleton.2 hh.2.2.2.1
    nl := hh.2.2.2.2
    body := hwf
    balanced := hbal
    rofWF := hrof.1
    rofKind := hrof.kind }

theorem Prog.render_block (c f n nl : Token) (body : Prog) (rof : Line) (r : Prog) :
    (Prog.block c f n nl body rof r).render = (mkBlock c f n nl body rof).lines ++ r.render := by
  simp [Prog.render, Block.lines, Block.headerLine, mkBlock]

theorem shape_render (p : Prog) (h : p.Shape) :
    (∀ l ∈ p.render, l.WF) ∧ (∀ d, Closes d p.render d) ∧ RofsBare p.render := by
  induction p with
  | nil => exact ⟨fun _ h => (by cases h), fun _ => ⟨trivial, rfl⟩, fun _ h => (by cases h)⟩
  | line l r ih =>
    obtain ⟨h1, h2, h3⟩ := ih h.2
    exact ⟨List.forall_mem_cons.2 ⟨h.1.1, h1⟩,
      fun d => (Closes.single h.1.kind (by simp) : Closes d [l] d).append (h2 d),
      List.forall_mem_cons.2 ⟨(fun hk => by rw [h.1.kind] at hk; cases hk), h3⟩⟩
  | block c f n nl body rof r ihb ih =>
    obtain ⟨hh, hrof, hbody, hr⟩ := h
    obtain ⟨b1, b2, b3⟩ := ihb hbody
    obtain ⟨r1, r2, r3⟩ := ih hr
    have hb := mkBlock_WF_of hh hrof b1 (b2 0)
    rw [Prog.render_block]
    refine ⟨List.forall_mem_append.2 ⟨Block.lines_WF _ hb, r1⟩, fun d => ?_,
      List.forall_mem_append.2 ⟨?_, r3⟩⟩
    · -- the FOR line opens a level, the body keeps it, the ROF line closes it
      have hfor : Closes d [(mkBlock c f n nl body rof).headerLine] (d + 1) :=
        Closes.single (Block.headerLine_kind _ hb) (by simp)
      have hrof' : Closes (d + 1) [rof] d := Closes.single hrof.kind (by simp)
      exact (hfor.append ((b2 (d + 1)).append hrof')).append (r2 d)
    -- the lines of the block: the FOR line is no `rof` line, the body, the bare ROF line
    · exact List.forall_mem_cons.2 ⟨(fun hk => by rw [Block.headerLine_kind _ hb] at hk; cases hk),
        List.forall_mem_append.2 ⟨b3, List.forall_mem_singleton.2 fun _ => hrof.head⟩⟩

theorem mkBlock_WF {c f n nl : Token} {body : Prog} {rof : Line} (hh : HeaderOK c f n nl)
    (hrof : RofOK rof) (hbody : body.Shape) : (mkBlock c f n nl body rof).WF :=
  mkBlock_WF_of hh hrof (shape_render body hbody).1 ((shape_render body hbody).2.1 0)

/-- `FullUnroll p ls k`: the manual unrolling of `p` is the list of lines `ls`, and it takes
    `k` block expansions. A block whose count is the literal `m` is replaced by the unrollings
    of the `m` copies of its body with the counter replaced by 1..m; in the copies the counts
    of inner blocks that named the counter have become literals. -/
inductive FullUnroll : Prog → List Line → Nat → Prop
  | nil : FullUnroll .nil [] 0
  | line {l : Line} {r : Prog} {ls : List Line} {k : Nat} :
      SimpleLine l → FullUnroll r ls k → FullUnroll (.line l r) (l :: ls) k
  | block {c f nl : Token} {body : Prog} {rof : Line} {r : Prog} {ls : List Line} {k : Nat}
      (m : Nat) (L : Nat → List Line) (K : Nat → Nat) :
      HeaderOK c f (numTok m) nl → m < 2 ^ 31 → RofOK rof → body.Shape →
      (∀ i, i < m → FullUnroll (body.subst c.val (i + 1)) (L i) (K i)) →
      FullUnroll r ls k →
      FullUnroll (.block c f (numTok m) nl body rof r)
        ((List.range m).flatMap L ++ ls) (1 + ((List.range m).map K).sum + k)

theorem FullUnroll.simple {p : Prog} {ls : List Line} {k : Nat} (h : FullUnroll p ls k) :
    ∀ l ∈ ls, SimpleLine l := by
  induction h with
  | nil => intro l hl; cases hl
  | line hl _ ih => exact List.forall_mem_cons.2 ⟨hl, ih⟩
  | block m L K _ _ _ _ _ _ ihb ih =>
    refine List.forall_mem_append.2 ⟨fun l hl => ?_, ih⟩
    obtain ⟨i, hi, hli⟩ := List.mem_flatMap.1 hl
    exact ihb i (List.mem_range.1 hi) l hli

theorem FullUnroll.append {p q : Prog} {lp lq : List Line} {kp kq : Nat}
    (hp : FullUnroll p lp kp) (hq : FullUnroll q lq kq) :
    FullUnroll (p.append q) (lp ++ lq) (kp + kq) := by
  induction hp with
  | nil => simpa [Prog.append] using hq
  | line hl _ ih => exact FullUnroll.line hl ih
  | block m L K hh hm hrof hbody hcopies _ _ ih =>
    rw [List.append_assoc, Nat.add_assoc]
    exact FullUnroll.block m L K hh hm hrof hbody hcopies ih

/-- the tokEOF the lexer and the expander send -/
def eofTok : Token := { typ := .eof, val := "" }

/-- the unrolling of a block, whatever its count token is -/
theorem mkBlock_unrolled (c f n nl : Token) (m : Nat) (body : Prog) (rof : Line)
    (hbody : body.Shape) :
    (mkBlock c f n nl body rof).unrolled (m : Int) =
      (List.range m).flatMap (fun i => (flat body.render).map (substC c.val (i + 1))) := by
  rw [Block.unrolled, renamed_nil_of_no_labels _ rfl, List.nil_append, repeated]
  have hc : bodyContent (mkBlock c f n nl body rof).body = flat body.render :=
    bodyContent_verbatim _ (shape_render body hbody).2.2
  rw [hc, Int.toNat_natCast]
  congr 1
  funext i
  simp only [iteration, Block.ctx, mkBlock, List.map_nil]
  congr 1
  funext t
  exact substTok_noLabels _ _ _ _

end ForPass
end Gmars
