/-
  C09, layout perturbations: the lexer on the text of a `LoadLayout.Layout`.

  Gaps may consist of any ASCII white space but the newline (blank, tab, VT, FF, CR: `Blanks`,
  as for the loader); a trailing comment `;…` becomes one comment token (a CR in front of the LF
  belongs to it); a CR after the last field is white space.
-/
import Gmars.Proofs.AsmLayoutCase

namespace Gmars
namespace AsmLayout
open Gmars.Render Gmars.AsmCompose Gmars.AsmPrint Gmars.LoadLayout Gmars.ExprProofs
open Gmars.RoundTrip (Blanks Gaps DirGaps)
open Gmars.Lex (sends isTextRune)
open Gmars.Unicode (isSpaceU)

theorem blanks_crIf (cr : Bool) : Blanks (if cr = true then ['\r'] else []) := by
  unfold Blanks
  cases cr <;> decide

/-- a line of a (perturbed) load file as the parser sees it -/
inductive FLine
  | blank
  | cmt (v : String)
  | instr (op : String) (md : Option String) (i : Instr) (c : Option String)
  | dir (kw : String) (n : Nat) (c : Option String)

def modeTok (m : Mode) : Token := ⟨.symbol, String.singleton m.sym⟩

def instrToks (w : String) (i : Instr) : List Token :=
  [⟨.text, w⟩, modeTok i.am, numTok i.a.toNat, commaTok, modeTok i.bm, numTok i.b.toNat]

def FLine.tokens0 : FLine → List Token
  | .blank => []
  | .cmt v => [cmtTok v]
  | .instr op md i c => instrToks (AsmLine.opString op md) i ++ cmtToks c
  | .dir kw n c => [⟨.text, kw⟩, numTok n] ++ cmtToks c

def FLine.tokens (l : FLine) : List Token := l.tokens0 ++ [nlTok]

def flTokens : List FLine → List Token
  | [] => []
  | l :: r => l.tokens ++ flTokens r

/-- the comment token of a trailing comment: a CR in front of the LF is part of it -/
def trailCmt (t : Trail) : Option String :=
  t.comment.map (fun c => String.ofList (';' :: (c ++ if t.cr then ['\r'] else [])))

theorem sends_trail (w : Word) (hv : w.valid = true) (g : List Char) (hg : Blanks g) (t : Trail)
    (ht : t.ok) (tail : List Char) (hend : LineEnd tail) (hs : w.stopsBefore tail.head? = true) :
    sends (w.chars ++ (g ++ (t.render ++ tail))) = w.tok :: (cmtToks (trailCmt t) ++ sends tail) := by
  obtain ⟨cm, cr⟩ := t
  have hcr := blanks_crIf cr
  cases cm with
  | none =>
    simp only [Trail.render, List.nil_append, trailCmt, Option.map_none, cmtToks]
    rw [← List.append_assoc g, sends_word_gap w hv _ (List.forall_mem_append.2 ⟨hg, hcr⟩) tail (fun _ => hs)]
  | some c =>
    have hc : ∀ x ∈ c ++ (if cr = true then ['\r'] else []), x ≠ '\n' := by
      intro x hx
      rcases List.mem_append.mp hx with h | h
      · exact ht c rfl x h
      · exact (hcr x h).2
    simp only [Trail.render, trailCmt, Option.map_some, cmtToks, List.cons_append, List.append_assoc,
      List.nil_append]
    rw [sends_word_gap w hv g hg (';' :: (c ++ ((if cr = true then ['\r'] else []) ++ tail)))
      (fun _ => stopsBefore_semicolon w)]
    have := sends_comment (c ++ (if cr = true then ['\r'] else [])) hc tail hend
    simp only [List.cons_append, List.append_assoc] at this
    rw [this]
    rfl

def fillerLine : Filler → FLine
  | .blank _ => .blank
  | .comment _ text => .cmt (String.ofList (';' :: text))

theorem sends_filler (f : Filler) (hf : f.ok) (tail : List Char) (hend : LineEnd tail) :
    sends (f.content ++ tail) = (fillerLine f).tokens0 ++ sends tail := by
  cases f with
  | blank ws =>
    simp only [Filler.content, fillerLine, FLine.tokens0]
    rw [sends_gap ws hf]
    rfl
  | comment ws text =>
    simp only [Filler.content, fillerLine, FLine.tokens0, List.append_assoc]
    rw [sends_gap ws hf.1]
    have := sends_comment text hf.2 tail hend
    simp only [List.cons_append] at this ⊢
    rw [this]
    rfl

theorem stops_modeSym (w : Word) (m : Mode) : w.stopsBefore (some m.sym) = true := by
  cases m <;> exact stopsBefore_of_noText w _ (by decide) (by decide)

theorem modeWord_tok (m : Mode) : (modeWord m.sym).tok = modeTok m := by
  cases m <;> rfl

theorem stops_mode_digit (m : Mode) (d : Char) (hd : d.isDigit = true) :
    (modeWord m.sym).stopsBefore (some d) = true := by
  have hne : d ≠ '=' := by intro h; subst h; revert hd; decide
  cases m <;> simp [modeWord, Mode.sym, Word.stopsBefore, hne]

theorem sends_ident_then_mode (W : String) (hid : identOK W = true) (g : List Char) (hg : Blanks g)
    (m : Mode) (X : List Char) :
    sends (W.toList ++ (g ++ m.sym :: X)) = (⟨.text, W⟩ : Token) :: sends (m.sym :: X) := by
  have := sends_word_gap (identWord W) (identWord_valid hid) g hg (m.sym :: X)
    (fun _ => stops_modeSym _ m)
  rwa [identWord_chars hid, identWord_tok hid] at this

theorem sends_ident_gap (W : String) (hid : identOK W = true) (g : List Char) (hg : Blanks g)
    (hne : g ≠ []) (X : List Char) :
    sends (W.toList ++ (g ++ X)) = (⟨.text, W⟩ : Token) :: sends X := by
  have := sends_word_gap (identWord W) (identWord_valid hid) g hg X (fun h => absurd h hne)
  rwa [identWord_chars hid, identWord_tok hid] at this

theorem sends_mode_then_digits (m : Mode) (g : List Char) (hg : Blanks g) (n : Nat) (X : List Char) :
    sends (m.sym :: (g ++ (Nat.toDigits 10 n ++ X))) = modeTok m :: sends (Nat.toDigits 10 n ++ X) := by
  obtain ⟨d, ds, hd, _, hv⟩ := numWord_spec n
  simp only [Word.valid, Bool.and_eq_true] at hv
  have := sends_word_gap (modeWord m.sym) (modeWord_valid m) g hg (Nat.toDigits 10 n ++ X)
    (fun _ => by rw [hd]; exact stops_mode_digit m d hv.1.1)
  rwa [modeWord_chars, modeWord_tok, List.singleton_append] at this

theorem sends_num_then_comma (n : Nat) (g : List Char) (hg : Blanks g) (X : List Char) :
    sends (Nat.toDigits 10 n ++ (g ++ ',' :: X)) = numTok n :: sends (',' :: X) := by
  have := sends_word_gap (numWord n) (numWord_valid n) g hg (',' :: X)
    (fun _ => stopsBefore_sym _ ',' (by decide))
  rwa [numWord_chars, numWord_tok] at this

theorem sends_comma_gap (g : List Char) (hg : Blanks g) (X : List Char) :
    sends (',' :: (g ++ X)) = commaTok :: sends X :=
  sends_word_gap (Word.sym ',') (by decide) g hg X (fun _ => rfl)

theorem sends_num_trail (n : Nat) (g : List Char) (hg : Blanks g) (t : Trail) (ht : t.ok)
    (tail : List Char) (hend : LineEnd tail) :
    sends (Nat.toDigits 10 n ++ (g ++ (t.render ++ tail))) =
      numTok n :: (cmtToks (trailCmt t) ++ sends tail) := by
  have hs : (numWord n).stopsBefore tail.head? = true := by
    rcases hend with rfl | ⟨r, rfl⟩
    · obtain ⟨c, cs, _, hw, _⟩ := numWord_spec n
      rw [hw]
      rfl
    · exact stopsBefore_newline _
  have := sends_trail (numWord n) (numWord_valid n) g hg t ht tail hend hs
  rwa [numWord_chars, numWord_tok] at this

/-- the gaps of an instruction line for the assembler: white space, any of them may be empty -/
structure GapsBlank (g : Gaps) : Prop where
  b0 : Blanks g.g0
  b1 : Blanks g.g1
  b2 : Blanks g.g2
  b3 : Blanks g.g3
  b4 : Blanks g.g4
  b5 : Blanks g.g5
  b6 : Blanks g.g6

theorem GapsBlank.of_ok {g : Gaps} (h : g.ok) : GapsBlank g := ⟨h.b0, h.b1, h.b2, h.b3, h.b4, h.b5, h.b6⟩

def instrLine (legacy : Bool) (p : InstrLay) : FLine :=
  .instr (opR p.mask p.instr) (mdR legacy p.mask p.instr) p.instr (trailCmt p.trail)

theorem sends_instr (legacy : Bool) (p : InstrLay) (hg : GapsBlank p.gaps) (ht : p.trail.ok)
    (tail : List Char) (hend : LineEnd tail) :
    sends (p.content legacy ++ tail) = (instrLine legacy p).tokens0 ++ sends tail := by
  obtain ⟨pre, mask, g, t, i⟩ := p
  simp only at hg ht
  have hid := identOK_opWordR legacy mask i
  have hW : LoadLayout.recase mask (RoundTrip.opWord legacy i) = (opWordR legacy mask i).toList := by
    rw [opWordR, String.toList_ofList]
  simp only [InstrLay.content, instrBodyM, List.append_assoc, List.cons_append, List.nil_append]
  rw [sends_gap g.g0 hg.b0, hW, sends_ident_then_mode _ hid g.g1 hg.b1,
    sends_mode_then_digits i.am g.g2 hg.b2, sends_num_then_comma _ g.g3 hg.b3,
    sends_comma_gap g.g4 hg.b4, sends_mode_then_digits i.bm g.g5 hg.b5,
    sends_num_trail _ g.g6 hg.b6 t ht tail hend]
  simp [instrLine, FLine.tokens0, instrToks, opWordR_eq]

def dirLine (d : DirLay) (kw : String) (n : Nat) : FLine :=
  .dir (recaseS d.mask kw) n (trailCmt d.trail)

theorem sends_dir (d : DirLay) (kw : String) (hk : identOK (recaseS d.mask kw) = true) (n : Nat)
    (hg : d.gaps.ok) (ht : d.trail.ok) (tail : List Char) (hend : LineEnd tail) :
    sends (d.content kw.toList n ++ tail) = (dirLine d kw n).tokens0 ++ sends tail := by
  obtain ⟨pre, mask, g, t⟩ := d
  simp only at hg ht hk
  have hW : LoadLayout.recase mask kw.toList = (recaseS mask kw).toList := by
    rw [recaseS, String.toList_ofList]
  simp only [DirLay.content, dirBodyM, List.append_assoc]
  rw [sends_gap g.d0 hg.b0, hW, sends_ident_gap _ hk g.d1 hg.b1 hg.n1,
    sends_num_trail _ g.d2 hg.b2 t ht tail hend]
  simp [dirLine, FLine.tokens0]

end AsmLayout
end Gmars
