/-
  A source program `EProg` is a program of `AsmLine.compile_meaning_equ` (`AsmLine.XItem`:
  labelled instructions, `name equ tokens` lines anywhere, ORG lines, `;assert` lines, a final END
  line; every expression a list of reference tokens `Spec.ETok`) together with its layout: which
  labels carry a colon, blank lines, comment lines.  It is read three ways: `EProg.xitems` (what the
  compiler theorem and the reference read), `EProg.srcLines` (the canonical source lines made of
  words; an EQU line is the word line `name equ <expression words>`) and `EProg.toP` (the
  parser-level program).  Here: the lexer reads the source lines as the tokens of `p.toP`.
-/
import Gmars.Proofs.AsmComposeBridge

namespace Gmars
namespace AsmComposeEqu
open Gmars.Render Gmars.AsmLine Gmars.ExprProofs Gmars.AsmCompose

def etokWord : Spec.ETok → Word
  | .num n => numWord n
  | .name s => identWord s
  | .op s => opWord s
  | .lp => .sym '('
  | .rp => .sym ')'

def etokOK : Spec.ETok → Prop
  | .name s => identOK s = true
  | .op s => isArith s
  | _ => True

instance : (t : Spec.ETok) → Decidable (etokOK t)
  | .num _ => isTrue trivial
  | .name s => by unfold etokOK; infer_instance
  | .op s => by unfold etokOK; infer_instance
  | .lp => isTrue trivial
  | .rp => isTrue trivial

def ewords (e : List Spec.ETok) : List Word := e.map etokWord

def ELexOK (e : List Spec.ETok) : Prop := ∀ t ∈ e, etokOK t

instance (e : List Spec.ETok) : Decidable (ELexOK e) := by unfold ELexOK; infer_instance

theorem etokWord_tok {t : Spec.ETok} (h : etokOK t) : (etokWord t).tok = tokOf t := by
  cases t with
  | num n => exact numWord_tok n
  | name s => exact identWord_tok h
  | op s => exact (opWord_spec h).1
  | lp => rfl
  | rp => rfl

theorem etokWord_exprOK {t : Spec.ETok} (h : etokOK t) : exprWordOK (etokWord t) = true := by
  cases t with
  | num n => exact numWord_exprOK n
  | name s => exact identWord_exprOK h
  | op s => exact (opWord_spec h).2
  | lp => decide
  | rp => decide

theorem ewords_tok (e : List Spec.ETok) (h : ELexOK e) : (ewords e).map Word.tok = toksOf e := by
  unfold ewords toksOf
  rw [List.map_map]
  exact List.map_congr_left fun t ht => etokWord_tok (h t ht)

theorem ewords_exprOK (e : List Spec.ETok) (h : ELexOK e) : ∀ w ∈ ewords e, exprWordOK w = true :=
  List.forall_mem_map.mpr fun t ht => etokWord_exprOK (h t ht)

theorem toksOf_exprTerm (e : List Spec.ETok) (h : ELexOK e) :
    ∀ t ∈ toksOf e, t.isExpressionTerm = true := by
  intro t ht
  rw [← ewords_tok e h, List.mem_map] at ht
  obtain ⟨w, hw, rfl⟩ := ht
  exact isExpressionTerm_of_exprWordOK (ewords_exprOK e h w hw)

theorem etokWord_notMode {t : Spec.ETok} (h : etokOK t) (hs : t ≠ .op "*") :
    isModeWord (etokWord t) = false := by
  cases t with
  | num n => exact numWord_notMode n
  | name s => exact identWord_notMode h
  | op s =>
    rcases h with rfl | rfl | rfl | rfl | rfl
    · decide
    · decide
    · exact absurd rfl hs
    · decide
    · decide
  | lp => decide
  | rp => decide

/-- with the mode omitted the first token is not `*`: the parser would read it as the mode symbol -/
def OperandLexOK (o : XOperand) : Prop :=
  ELexOK o.expr ∧ o.expr ≠ [] ∧ (o.mode = none → o.expr.head? ≠ some (.op "*"))

def xwOperand (o : XOperand) : WOperand := { mode := o.mode.map Mode.sym, expr := ewords o.expr }

/-- `ls`: every label with its "followed by a colon" flag -/
def xwStmt (ls : List (String × Bool)) (op : String) (md : Option String) (a : XOperand)
    (b : Option XOperand) : WStmt :=
  { labels := ls.map (fun p => (identWord p.1, p.2)), op := identWord (opString op md),
    a := xwOperand a, b := b.map xwOperand }

/-- a line that is not empty and the `blanks` empty lines after it -/
inductive EItem
  /-- an instruction (labels with colon flags) and `blanks` empty lines -/
  | instr (labels : List (String × Bool)) (op : String) (md : Option String) (a : XOperand)
      (b : Option XOperand) (blanks : Nat)
  /-- `name equ e` (`kw` is the keyword as written) and `blanks` empty lines -/
  | equ (name kw : String) (e : List Spec.ETok) (blanks : Nat)
  /-- `ORG e` and `blanks` empty lines -/
  | org (kw : String) (e : List Spec.ETok) (blanks : Nat)
  /-- the comment line `;cs` (`cs` = `assert…`) asserting the expression `e`, and `blanks` empty
      lines -/
  | assert (cs : List Char) (e : List Spec.ETok) (blanks : Nat)
  /-- another comment line `;cs` and `blanks` empty lines -/
  | comment (cs : List Char) (blanks : Nat)

/-- `lead` empty lines, the items, optionally a last line `END [e]` and `trail` empty lines -/
structure EProg where
  lead : Nat := 0
  items : List EItem
  fin : Option (String × Option (List Spec.ETok)) := none
  trail : Nat := 0

def EItem.toX : EItem → Option AsmLine.XItem
  | .instr ls op md a b _ => some (.instr (ls.map (·.1)) op md a b)
  | .equ n kw e _ => some (.equ kw n e)
  | .org kw e _ => some (.org kw e)
  | .assert cs e _ => some (.assert (String.ofList (';' :: cs)) e)
  | .comment _ _ => none

def EProg.finX (p : EProg) : List AsmLine.XItem :=
  match p.fin with
  | some (kw, e) => [.end_ kw e]
  | none => []

def EProg.xitems (p : EProg) : List AsmLine.XItem := p.items.filterMap EItem.toX ++ p.finX

def EItem.srcLines : EItem → List SrcLine
  | .instr ls op md a b k => (WItem.stmt (xwStmt ls op md a b) k).srcLines
  | .equ n kw e k => pseudoSrcLine n (identWord kw :: ewords e) :: List.replicate k emptySrcLine
  | .org kw e k => pseudoSrcLine kw (ewords e) :: List.replicate k emptySrcLine
  | .assert cs _ k => (WItem.comment cs k).srcLines
  | .comment cs k => (WItem.comment cs k).srcLines

def eitemsSrcLines : List EItem → List SrcLine
  | [] => []
  | it :: r => it.srcLines ++ eitemsSrcLines r

def EProg.finSrcLines (p : EProg) : List SrcLine :=
  match p.fin with
  | none => []
  | some (kw, e) =>
    pseudoSrcLine kw ((e.map ewords).getD []) :: List.replicate p.trail emptySrcLine

def EProg.srcLines (p : EProg) : List SrcLine :=
  List.replicate p.lead emptySrcLine ++ (eitemsSrcLines p.items ++ p.finSrcLines)

def EItem.toP : EItem → PItem
  | .instr ls op md a b k => .x (.base (WItem.stmt (xwStmt ls op md a b) k).toItem)
  | .equ n kw e k => .equ n kw (toksOf e) k
  | .org kw e k => .x (.org kw (toksOf e) k)
  | .assert cs _ k => .x (.base (WItem.comment cs k).toItem)
  | .comment cs k => .x (.base (WItem.comment cs k).toItem)

def EProg.toP (p : EProg) : PProg :=
  { lead := p.lead, items := p.items.map EItem.toP,
    fin := p.fin.map (fun q => (q.1, (q.2.map toksOf).getD [])),
    trail := List.replicate p.trail nlTok ++ [eofTok] }

def EProg.meta (p : EProg) : AsmMeta := p.toP.metadata

def EItem.LexOK : EItem → Prop
  | .instr ls op md a b _ =>
    (∀ p ∈ ls, identOK p.1 = true) ∧ identOK (opString op md) = true ∧ OperandLexOK a ∧
      ∀ bo, b = some bo → OperandLexOK bo
  | .equ n kw e _ => identOK n = true ∧ identOK kw = true ∧ ELexOK e ∧ e ≠ []
  | .org kw e _ => identOK kw = true ∧ ELexOK e ∧ e ≠ []
  | .assert cs _ _ => ∀ c ∈ cs, c ≠ '\n'
  | .comment cs _ => ∀ c ∈ cs, c ≠ '\n'

structure EProg.LexOK (p : EProg) : Prop where
  items : ∀ it ∈ p.items, it.LexOK
  fin : ∀ kw e, p.fin = some (kw, e) → identOK kw = true ∧ ∀ x, e = some x → ELexOK x ∧ x ≠ []

instance (o : XOperand) : Decidable (OperandLexOK o) := by unfold OperandLexOK; infer_instance

instance (it : EItem) : Decidable it.LexOK := by
  cases it <;> simp only [EItem.LexOK] <;> infer_instance

theorem xwOperand_ok (o : XOperand) (h : OperandLexOK o) : (xwOperand o).ok = true := by
  obtain ⟨mode, expr⟩ := o
  obtain ⟨hl, hne, hm⟩ := h
  simp only [WOperand.ok, xwOperand, Bool.and_eq_true, List.all_eq_true]
  refine ⟨ewords_exprOK expr hl, ?_⟩
  cases expr with
  | nil => exact absurd rfl hne
  | cons t r =>
    cases mode with
    | none =>
      have hs : t ≠ .op "*" := fun ht => hm rfl (congrArg some ht)
      simp [ewords, etokWord_notMode (hl t List.mem_cons_self) hs]
    | some m => simpa [ewords] using mem_modeChars m

theorem xwStmt_ok {ls : List (String × Bool)} {op : String} {md : Option String} {a : XOperand}
    {b : Option XOperand} {k : Nat} (h : (EItem.instr ls op md a b k).LexOK) :
    (xwStmt ls op md a b).ok = true := by
  obtain ⟨hl, hop, ha, hb⟩ := h
  simp only [WStmt.ok, xwStmt, Bool.and_eq_true, List.all_eq_true]
  refine ⟨⟨⟨⟨?_, identWord_isIdent hop⟩, identWord_valid hop⟩, xwOperand_ok a ha⟩, ?_⟩
  · exact List.forall_mem_map.mpr fun p hp => ⟨identWord_isIdent (hl p hp), identWord_valid (hl p hp)⟩
  · cases b with
    | none => rfl
    | some bo => exact xwOperand_ok bo (hb bo rfl)

theorem ewords_spell (e : List Spec.ETok) (h : ELexOK e) : Spell (ewords e) (toksOf e) :=
  ⟨fun w hw => exprWordOK_valid (ewords_exprOK e h w hw), ewords_tok e h⟩

theorem EItem.lexesTo {it : EItem} (h : it.LexOK) : LexesTo it.srcLines it.toP.tokens := by
  cases it with
  | instr ls op md a b k => exact WItem.lexesTo (it := .stmt _ k) (xwStmt_ok h)
  | comment cs k => exact WItem.lexesTo (commentItem_ok k h)
  | assert cs e k => exact WItem.lexesTo (commentItem_ok k h)
  | org kw e k => exact pseudoLines_lexesTo kw k h.1 (ewords_spell e h.2.1)
  | equ n kw e k =>
    have := pseudoLines_lexesTo n k h.1 (.cons (identWord_valid h.2.1) (ewords_spell e h.2.2.1))
    rwa [identWord_tok h.2.1] at this

theorem eitems_lexesTo (items : List EItem) (h : ∀ it ∈ items, it.LexOK) :
    LexesTo (eitemsSrcLines items) (pitemsTokens (items.map EItem.toP)) := by
  induction items with
  | nil => exact .nil
  | cons it r ih =>
    rw [List.forall_mem_cons] at h
    exact (EItem.lexesTo h.1).append (ih h.2)

theorem EProg.lexesTo (p : EProg) (h : p.LexOK) :
    ∃ ts, LexesTo p.srcLines ts ∧ ts ++ [Lex.eofTok] = p.toP.tokens := by
  have hfin : ∃ ts, LexesTo p.finSrcLines ts ∧ ts ++ [Lex.eofTok] = p.toP.finTokens := by
    unfold EProg.finSrcLines PProg.finTokens EProg.toP
    rcases hf : p.fin with _ | ⟨kw, e⟩
    · exact ⟨[], .nil, rfl⟩
    · obtain ⟨hk, he⟩ := h.fin kw e hf
      have hs : Spell ((e.map ewords).getD []) ((e.map toksOf).getD []) := by
        cases e with
        | none => exact .nil
        | some x => exact ewords_spell x (he x rfl).1
      exact ⟨_, pseudoLines_lexesTo kw p.trail hk hs, by simp; rfl⟩
  obtain ⟨ts, h1, h2⟩ := hfin
  exact ⟨_, (LexesTo.blank p.lead).append ((eitems_lexesTo p.items h.items).append h1),
    by rw [PProg.tokens, ← h2]; simp [EProg.toP]⟩

theorem EProg.srcLines_ok (p : EProg) (h : p.LexOK) : ∀ l ∈ p.srcLines, l.ok (some '\n') = true := by
  obtain ⟨_, h1, _⟩ := p.lexesTo h
  exact h1.1

theorem EProg.lex_tokens (p : EProg) (h : p.LexOK) (ls : List SrcLine)
    (hls : ∀ l ∈ ls, l.ok (some '\n') = true) (hsame : SameLines ls p.srcLines) :
    Lex.tokens (renderLines ls) = p.toP.tokens := by
  obtain ⟨_, h1, h2⟩ := p.lexesTo h
  rw [lex_tokens_any_spacing ls hls hsame, h1.2, h2]

end AsmComposeEqu
end Gmars
