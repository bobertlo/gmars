/-
  Text as bytes: the Go reader (`bufio.Reader.ReadRune`, modelled by `decodeRunes`) decodes the
  UTF-8 encoding of a list of characters to these characters.
-/
import Gmars.Model.Lex

namespace Gmars
namespace Utf8

theorem u8_ofNat (n : Nat) (h : n < 256) : (UInt8.ofNat n).toNat = n := by
  rw [UInt8.toNat_ofNat']; omega

theorem between {lo hi b : UInt8} (hl : lo.toNat ≤ b.toNat) (hu : b.toNat ≤ hi.toNat) :
    (lo ≤ b && b ≤ hi) = true := by
  rw [Bool.and_eq_true, decide_eq_true_eq, decide_eq_true_eq]
  exact ⟨UInt8.le_iff_toNat_le.2 hl, UInt8.le_iff_toNat_le.2 hu⟩

theorem not_between {lo hi b : UInt8} (h : hi.toNat < b.toNat) : ¬(lo ≤ b && b ≤ hi) = true := by
  rw [Bool.and_eq_true, decide_eq_true_eq, decide_eq_true_eq, UInt8.le_iff_toNat_le (a := b)]
  exact fun h' => Nat.not_le.2 h h'.2

theorem isCont_iff (b : UInt8) : isCont b = true ↔ 128 ≤ b.toNat ∧ b.toNat ≤ 191 := by
  simp only [isCont, Bool.and_eq_true, decide_eq_true_eq, UInt8.le_iff_toNat_le, UInt8.toNat_ofNat]

/-- the second byte of a three- or four-byte form: a continuation byte, further restricted after
    the first bytes E0 and F0 (no overlong form), ED (no surrogate) and F4 (at most U+10FFFF) -/
theorem second_of {b0 b1 : UInt8} (h1 : isCont b1 = true)
    (h : (b0.toNat = 0xE0 → 0xA0 ≤ b1.toNat) ∧ (b0.toNat = 0xED → b1.toNat ≤ 0x9F) ∧
      (b0.toNat = 0xF0 → 0x90 ≤ b1.toNat) ∧ (b0.toNat = 0xF4 → b1.toNat ≤ 0x8F)) :
    second b0 b1 = true := by
  have ⟨hl, hu⟩ := (isCont_iff b1).1 h1
  have ⟨hE0, hED, hF0, hF4⟩ := h
  unfold second
  split
  · next e => exact between (hE0 (congrArg _ (eq_of_beq e))) hu
  split
  · next e => exact between hl (hED (congrArg _ (eq_of_beq e)))
  split
  · next e => exact between (hF0 (congrArg _ (eq_of_beq e))) hu
  split
  · next e => exact between hl (hF4 (congrArg _ (eq_of_beq e)))
  · exact h1

theorem decodeRune_one {b0 : UInt8} (h : b0.toNat < 0x80) (rest : List UInt8) :
    decodeRune b0 rest = (Char.ofNat b0.toNat, 1) :=
  if_pos (UInt8.lt_iff_toNat_lt.2 h)

theorem not_one {b0 : UInt8} (h : 0x80 ≤ b0.toNat) : ¬b0 < 0x80 :=
  fun h' => Nat.not_le.2 (UInt8.lt_iff_toNat_lt.1 h') h

theorem decodeRune_two {b0 b1 : UInt8} (hl : 0xC2 ≤ b0.toNat) (hu : b0.toNat ≤ 0xDF)
    (h1 : isCont b1 = true) (rest : List UInt8) :
    decodeRune b0 (b1 :: rest) = (Char.ofNat (b0.toNat % 32 * 64 + low6 b1), 2) := by
  rw [decodeRune, if_neg (not_one (Nat.le_trans (by decide) hl)),
    if_pos (between (lo := 0xC2) (hi := 0xDF) hl hu)]
  exact if_pos h1

theorem decodeRune_three {b0 b1 b2 : UInt8} (hl : 0xE0 ≤ b0.toNat) (hu : b0.toNat ≤ 0xEF)
    (h1 : second b0 b1 = true) (h2 : isCont b2 = true) (rest : List UInt8) :
    decodeRune b0 (b1 :: b2 :: rest) =
      (Char.ofNat (b0.toNat % 16 * 4096 + low6 b1 * 64 + low6 b2), 3) := by
  rw [decodeRune, if_neg (not_one (Nat.le_trans (by decide) hl)),
    if_neg (not_between (hi := 0xDF) (Nat.lt_of_lt_of_le (by decide) hl)),
    if_pos (between (lo := 0xE0) (hi := 0xEF) hl hu)]
  exact if_pos (by rw [h1, h2]; rfl)

theorem decodeRune_four {b0 b1 b2 b3 : UInt8} (hl : 0xF0 ≤ b0.toNat) (hu : b0.toNat ≤ 0xF4)
    (h1 : second b0 b1 = true) (h2 : isCont b2 = true) (h3 : isCont b3 = true) (rest : List UInt8) :
    decodeRune b0 (b1 :: b2 :: b3 :: rest) =
      (Char.ofNat (b0.toNat % 8 * 262144 + low6 b1 * 4096 + low6 b2 * 64 + low6 b3), 4) := by
  rw [decodeRune, if_neg (not_one (Nat.le_trans (by decide) hl)),
    if_neg (not_between (hi := 0xDF) (Nat.lt_of_lt_of_le (by decide) hl)),
    if_neg (not_between (hi := 0xEF) (Nat.lt_of_lt_of_le (by decide) hl)),
    if_pos (between (lo := 0xF0) (hi := 0xF4) hl hu)]
  exact if_pos (by rw [h1, h2, h3]; rfl)

theorem cont_byte {r : Nat} (h : r < 64) :
    (UInt8.ofNat (r + 128)).toNat = r + 128 ∧ isCont (UInt8.ofNat (r + 128)) = true ∧
      low6 (UInt8.ofNat (r + 128)) = r := by
  have e := u8_ofNat (r + 128) (by omega)
  rw [isCont_iff, low6, e]
  omega

/-- a first byte: marker `k` (C0, E0, F0) and payload below `m` (32, 16, 8) -/
theorem lead_byte {a : Nat} (k m : Nat) (h : a < m)
    (hk : k % m = 0 ∧ k + m ≤ 256 := by decide) :
    (UInt8.ofNat (a + k)).toNat = a + k ∧ (a + k) % m = a := by
  rw [u8_ofNat _ (by omega), Nat.add_mod, hk.1, Nat.add_zero, Nat.mod_mod, Nat.mod_eq_of_lt h]
  exact ⟨rfl, rfl⟩

theorem sextet (m : Nat) : ∃ q r, r < 64 ∧ m = q * 64 + r :=
  ⟨_, _, Nat.mod_lt _ (by decide), (Nat.div_add_mod' m 64).symm⟩

theorem sextet_div {q r : Nat} (h : r < 64) : (q * 64 + r) / 64 = q := by
  rw [Nat.mul_comm, Nat.mul_add_div (by decide), Nat.div_eq_of_lt h, Nat.add_zero]

theorem decodeRune_enc2 (n : Nat) (h1 : 127 < n) (h2 : n ≤ 2047) (rest : List UInt8) :
    decodeRune (UInt8.ofNat (n / 64 % 32 + 192)) (UInt8.ofNat (n % 64 + 128) :: rest) =
      (Char.ofNat n, 2) := by
  have lo : 2 ≤ n / 64 := Nat.div_le_div_right (c := 64) h1
  have hi : n / 64 < 32 := Nat.div_lt_of_lt_mul (Nat.lt_succ_of_le h2)
  obtain ⟨a, e, he, rfl⟩ := sextet n
  rw [sextet_div he] at lo hi
  rw [sextet_div he, Nat.mul_add_mod_of_lt he, Nat.mod_eq_of_lt hi]
  have ⟨t0, m0⟩ := lead_byte 192 32 hi
  have ⟨_, c1, l1⟩ := cont_byte he
  rw [decodeRune_two (by rw [t0]; omega) (by rw [t0]; omega) c1, t0, l1, m0]

theorem decodeRune_enc3 (n : Nat) (h2 : 2047 < n) (h3 : n ≤ 65535)
    (hs : n < 55296 ∨ 57343 < n) (rest : List UInt8) :
    decodeRune (UInt8.ofNat (n / 4096 % 16 + 224))
      (UInt8.ofNat (n / 64 % 64 + 128) :: UInt8.ofNat (n % 64 + 128) :: rest) = (Char.ofNat n, 3) := by
  have lo : 32 ≤ n / 64 := Nat.div_le_div_right (c := 64) h2
  have hi : n / 64 < 1024 := Nat.div_lt_of_lt_mul (Nat.lt_succ_of_le h3)
  have sur : n / 64 < 864 ∨ 896 ≤ n / 64 :=
    hs.imp (Nat.div_lt_of_lt_mul ·) (Nat.div_le_div_right (c := 64) ·)
  rw [show n / 4096 = n / 64 / 64 by simp only [Nat.div_div_eq_div_mul]]
  obtain ⟨p1, e, he, rfl⟩ := sextet n
  obtain ⟨a, b, hb, rfl⟩ := sextet p1
  simp only [sextet_div, Nat.mul_add_mod_of_lt, he, hb] at lo hi sur ⊢
  have ha : a < 16 := by omega
  have ⟨t0, m0⟩ := lead_byte 224 16 ha
  have ⟨t1, c1, l1⟩ := cont_byte hb
  have ⟨_, c2, l2⟩ := cont_byte he
  have hs := second_of c1 (b0 := UInt8.ofNat (a + 224)) (by rw [t0, t1]; omega)
  rw [Nat.mod_eq_of_lt ha, decodeRune_three (by rw [t0]; omega) (by rw [t0]; omega) hs c2,
    t0, l1, l2, m0]
  simp only [Nat.add_mul, Nat.mul_assoc, Nat.reduceMul]

theorem decodeRune_enc4 (n : Nat) (h3 : 65535 < n) (h4 : n < 1114112) (rest : List UInt8) :
    decodeRune (UInt8.ofNat (n / 262144 % 8 + 240))
      (UInt8.ofNat (n / 4096 % 64 + 128) :: UInt8.ofNat (n / 64 % 64 + 128) ::
        UInt8.ofNat (n % 64 + 128) :: rest) = (Char.ofNat n, 4) := by
  have lo : 16 ≤ n / 4096 := Nat.div_le_div_right (c := 4096) h3
  have hi : n / 4096 < 272 := Nat.div_lt_of_lt_mul h4
  rw [show n / 262144 = n / 64 / 64 / 64 by simp only [Nat.div_div_eq_div_mul],
    show n / 4096 = n / 64 / 64 by simp only [Nat.div_div_eq_div_mul]] at *
  obtain ⟨p1, e, he, rfl⟩ := sextet n
  obtain ⟨p2, d, hd, rfl⟩ := sextet p1
  obtain ⟨a, b, hb, rfl⟩ := sextet p2
  simp only [sextet_div, Nat.mul_add_mod_of_lt, he, hd, hb] at lo hi ⊢
  have ha : a < 8 := by omega
  have ⟨t0, m0⟩ := lead_byte 240 8 ha
  have ⟨t1, c1, l1⟩ := cont_byte hb
  have ⟨_, c2, l2⟩ := cont_byte hd
  have ⟨_, c3, l3⟩ := cont_byte he
  have hs := second_of c1 (b0 := UInt8.ofNat (a + 240)) (by rw [t0, t1]; omega)
  rw [Nat.mod_eq_of_lt ha, decodeRune_four (by rw [t0]; omega) (by rw [t0]; omega) hs c2 c3,
    t0, l1, l2, l3, m0]
  simp only [Nat.add_mul, Nat.mul_assoc, Nat.reduceMul]

end Utf8

namespace AsmCompose
open Utf8

theorem decodeRunes_enc (c : Char) (rest : List UInt8) :
    decodeRunes (String.utf8EncodeChar c ++ rest) = c :: decodeRunes rest := by
  have hv : c.toNat < 55296 ∨ 57343 < c.toNat ∧ c.toNat < 1114112 := c.valid
  have dec (b0 tl k) (h : decodeRune b0 (tl ++ rest) = (Char.ofNat c.toNat, k + 1))
      (hk : tl.length = k) : decodeRunes (b0 :: tl ++ rest) = c :: decodeRunes rest := by
    rw [List.cons_append, decodeRunes, h, Char.ofNat_toNat, ← hk]
    exact congrArg _ (congrArg _ (List.drop_left ..))
  unfold String.utf8EncodeChar
  simp only [Char.toNat_val]
  split
  · next h =>
    have t := u8_ofNat c.toNat (by omega)
    exact dec _ [] 0 (by rw [decodeRune_one (by omega), t]) rfl
  split
  · next h1 h2 => exact dec _ [_] 1 (decodeRune_enc2 _ (by omega) h2 rest) rfl
  split
  · next h2 h3 => exact dec _ [_, _] 2 (decodeRune_enc3 _ (by omega) h3 (by omega) rest) rfl
  · next h3 => exact dec _ [_, _, _] 3 (decodeRune_enc4 _ (by omega) (by omega) rest) rfl

theorem decodeRunes_utf8Encode (cs : List Char) :
    decodeRunes (cs.flatMap String.utf8EncodeChar) = cs := by
  induction cs with
  | nil => simp [decodeRunes]
  | cons c r ih => rw [List.flatMap_cons, decodeRunes_enc, ih]

theorem decodeRunes_toUTF8 (cs : List Char) :
    decodeRunes (String.ofList cs).toUTF8.data.toList = cs := by
  have : (String.ofList cs).toUTF8.data.toList = cs.flatMap String.utf8EncodeChar := by
    simp [String.toUTF8, List.utf8Encode]
  rw [this, decodeRunes_utf8Encode]

def asciiBytes (cs : List Char) : List UInt8 := cs.map (fun c => c.toNat.toUInt8)

theorem asciiBytes_eq (cs : List Char) (h : ∀ c ∈ cs, c.toNat < 128) :
    asciiBytes cs = cs.flatMap String.utf8EncodeChar := by
  induction cs with
  | nil => rfl
  | cons c r ih =>
    have e : String.utf8EncodeChar c = [c.toNat.toUInt8] :=
      if_pos (Nat.le_of_lt_succ (h c (List.mem_cons_self ..)))
    rw [List.flatMap_cons, e, ← ih (fun x hx => h x (List.mem_cons_of_mem _ hx))]
    rfl

theorem decodeRunes_ascii (cs : List Char) (h : ∀ c ∈ cs, c.toNat < 128) :
    decodeRunes (asciiBytes cs) = cs := by
  rw [asciiBytes_eq cs h, decodeRunes_utf8Encode]

end AsmCompose
end Gmars
