/-
  C03, parser stage: the parser on well-formed lines, walked once.

  `c.on e l`: the live, error-free parser state with context `c`, `endSeen = e`, reading the stream
  `l` (its head is the look-ahead).  `Reach`: some calls of state functions, the reader live after
  each; no fuel is counted, `Reach.run` gets it from `φ`, which falls at every call that leaves the
  reader live (`step_live`).  `Lines toks c c'`: `toks` are whole lines that take the parser from a
  line start in context `c` to a line start in `c'` (`Lines.nil`, `Lines.append`); `Final toks c c'`:
  `toks` are the end of the stream, the parser stops in `c'`; `parse_of_ends` turns a walk over the
  whole stream into `parse` (`parse_of_lines`: blank lines, whole lines, an end).  The kinds of line
  and of end there are (`lines_comment`, `lines_stmt`, `lines_pseudo`, `final_*`; a statement is a
  `Stmt`, a pseudo-op line a `PLine`) are walked here; a program type needs one lemma per item kind
  that names the kind, an induction over its items with `Lines.append`, and nothing else.
-/
import Gmars.Proofs.RenderParse
import Gmars.Proofs.AsmCostParse

namespace Gmars
namespace AsmCompose

theorem isPseudoOp_of_lower {kw k : String} (h : lowerStr kw = k)
    (hk : k = "org" ∨ k = "end") : (⟨.text, kw⟩ : Token).isPseudoOp = true := by
  unfold Token.isPseudoOp
  simp only [h]
  rcases hk with rfl | rfl <;> rfl

end AsmCompose
end Gmars

namespace Gmars.Render
open Gmars.Parser Gmars.AsmCompose Gmars.AsmLayout

def Ctx.on (c : Ctx) (e : Bool) (l : List Token) : PState :=
  { c.st (l.headD default) l.tail with endSeen := e }

theorem on_cons (c : Ctx) (e : Bool) (t : Token) (r : List Token) :
    c.on e (t :: r) = { c.st t r with endSeen := e } := rfl

@[simp] theorem on_nextToken (c : Ctx) (e : Bool) (t : Token) (r : List Token) :
    (c.on e (t :: r)).nextToken = t := rfl

theorem frozen_on (c : Ctx) (e : Bool) (t t' : Token) (r : List Token) :
    frozen (c.on e (t :: t' :: r)) = false := rfl

theorem on_live (c : Ctx) (e : Bool) (l : List Token) : (c.on e l).atEOF = false := rfl

/-- a configuration `(none, p)`: the machine has stopped in `p` -/
inductive Reach : Option St → PState → Option St → PState → Prop
  | refl (o : Option St) (p : PState) : Reach o p o p
  | call {s : St} {p p₁ p' : PState} {o₁ o' : Option St} :
      step s p = .ok (p₁, o₁) → p₁.atEOF = false → Reach o₁ p₁ o' p' → Reach (some s) p o' p'

theorem Reach.trans {a b d : Option St} {p q r : PState} (h₁ : Reach a p b q) (h₂ : Reach b q d r) :
    Reach a p d r := by
  induction h₁ with
  | refl => exact h₂
  | call hs hl _ ih => exact .call hs hl (ih h₂)

theorem Reach.one {s : St} {p : PState} {o : Option St} {c : Ctx} {e : Bool} {l : List Token}
    (h : step s p = .ok (c.on e l, o)) : Reach (some s) p o (c.on e l) :=
  .call h (on_live c e l) (.refl _ _)

theorem Reach.eq {a b : Option St} {p q q' : PState} (h : Reach a p b q) (e : q = q') :
    Reach a p b q' := e ▸ h

theorem Reach.eq' {a b : Option St} {p p' q : PState} (h : Reach a p b q) (e : p' = p) :
    Reach a p' b q := e ▸ h

theorem Reach.run {o : Option St} {p q : PState} (h : Reach o p none q) :
    ∀ s, o = some s → ∀ fuel, φ s p < fuel → run fuel s p = .ok q := by
  generalize ho' : (none : Option St) = o' at h
  induction h with
  | refl => intro s hs; rw [hs] at ho'; cases ho'
  | @call s p p₁ p' o₁ o' hs hl hr ih =>
    intro s₀ hs₀ fuel hf
    cases hs₀
    obtain ⟨f, rfl⟩ : ∃ f, fuel = f + 1 := ⟨fuel - 1, by omega⟩
    subst ho'
    cases o₁ with
    | none =>
      cases hr
      exact run_none hs f
    | some s₁ =>
      rw [run_some hs]
      exact ih rfl s₁ rfl f (by have := step_live hs hl; omega)

theorem advance_on (c : Ctx) (e : Bool) (t t' : Token) (r : List Token)
    (h : (t.typ == .newline) = false) : advance (c.on e (t :: t' :: r)) = c.on e (t' :: r) := by
  simp [advance, next, Ctx.on, Ctx.st, h]

theorem advance_on_nl (c : Ctx) (e : Bool) (t' : Token) (r : List Token) :
    advance (c.on e (nlTok :: t' :: r)) = ({ c with line := c.line + 1 } : Ctx).on e (t' :: r) := rfl

theorem noteReference_on (c : Ctx) (e : Bool) (t : Token) (r : List Token) :
    noteReference (c.on e (t :: r)) =
      ({ c with references := addRefs [t] c.references } : Ctx).on e (t :: r) := by
  by_cases h : (t.typ == .text && !c.references.contains t.val) = true
  · exact (if_pos h).trans (by rw [addRefs, if_pos h]; rfl)
  · exact (if_neg h).trans (by rw [addRefs, if_neg h]; rfl)

theorem exprLoop_on (site : String) (e : Bool) (t' : Token)
    (ht' : t'.isExpressionTerm = false) (r : List Token) :
    ∀ (ts : List Token) (c : Ctx) (acc : List Token) (fuel : Nat),
      (∀ t ∈ ts, t.isExpressionTerm = true) → ts.length < fuel →
      exprLoop site fuel (c.on e (ts ++ t' :: r)) acc =
        .ok (({ c with references := addRefs ts c.references } : Ctx).on e (t' :: r),
             ts.reverse ++ acc) := by
  intro ts
  induction ts with
  | nil =>
    intro c acc fuel _ hf
    obtain ⟨k, rfl⟩ : ∃ k, fuel = k + 1 := ⟨fuel - 1, by omega⟩
    rw [List.nil_append, exprLoop, if_neg (by simp [ht'])]
    rfl
  | cons t ts ih =>
    intro c acc fuel hts hf
    obtain ⟨k, rfl⟩ : ∃ k, fuel = k + 1 := ⟨fuel - 1, by simp at hf; omega⟩
    have ht := hts t (by simp)
    obtain ⟨u, w, hu⟩ := exists_cons_eq_append_cons ts t' r
    rw [List.cons_append, ← hu, exprLoop, if_pos (show (c.on e (t :: u :: w)).nextToken.isExpressionTerm = true from ht),
      frozen_on, if_neg Bool.false_ne_true, noteReference_on,
      advance_on _ _ _ _ _ (isExpressionTerm_not_newline ht), hu,
      ih _ _ k (fun x hx => hts x (by simp [hx])) (by simpa using hf)]
    simp [addRefs]

theorem collectExpr_on (site : String) (c : Ctx) (e : Bool) (ts : List Token)
    (hts : ∀ t ∈ ts, t.isExpressionTerm = true) (t' : Token) (ht' : t'.isExpressionTerm = false)
    (r : List Token) :
    collectExpr site (c.on e (ts ++ t' :: r)) =
      .ok (({ c with references := addRefs ts c.references } : Ctx).on e (t' :: r), ts) := by
  have hl : ts.length < (c.on e (ts ++ t' :: r)).rest.length + 1 := by
    cases ts <;> simp [Ctx.on, Ctx.st]
  simp only [collectExpr]
  rw [exprLoop_on site e t' ht' r ts c [] _ hts hl]
  simp [bind, Except.bind, pure, Except.pure]

theorem skipLoop_on (e : Bool) (t' : Token) (ht' : (t'.typ == TokType.newline) = false)
    (r : List Token) :
    ∀ (k : Nat) (c : Ctx) (fuel : Nat), k < fuel →
      skipLoop "parseEmptyLines" .newline true fuel (c.on e (List.replicate k nlTok ++ t' :: r)) =
        .ok (({ c with line := c.line + k,
                       cur := { c.cur with newlines := c.cur.newlines + k } } : Ctx).on e (t' :: r)) := by
  intro k
  induction k with
  | zero =>
    intro c fuel hf
    obtain ⟨n, rfl⟩ : ∃ n, fuel = n + 1 := ⟨fuel - 1, by omega⟩
    rw [List.replicate_zero, List.nil_append, skipLoop, if_neg (by simp [ht'])]
    simp
  | succ k ih =>
    intro c fuel hf
    obtain ⟨n, rfl⟩ : ∃ n, fuel = n + 1 := ⟨fuel - 1, by omega⟩
    obtain ⟨u, w, hu⟩ := exists_cons_eq_append_cons (List.replicate k nlTok) t' r
    have hinc : incNewlines (c.on e (nlTok :: u :: w)) =
        ({ c with cur := { c.cur with newlines := c.cur.newlines + 1 } } : Ctx).on e (nlTok :: u :: w) := rfl
    rw [List.replicate_succ, List.cons_append, ← hu, skipLoop, if_pos rfl, frozen_on,
      if_neg Bool.false_ne_true,
      if_pos (show ((c.on e (nlTok :: u :: w)).nextToken.typ == TokType.newline) = true from rfl),
      hinc, advance_on_nl, hu, ih _ n (by omega)]
    simp only [Int.natCast_add, Int.natCast_one, Int.add_assoc, Int.add_comm 1]

section steps
variable (c : Ctx) (e : Bool)

theorem step_line_text (l : List Token) (h : ∃ v r, (⟨.text, v⟩ : Token) :: r = l) :
    step .line (c.on false l) =
      .ok (({ c with cur := { line := c.line } } : Ctx).on false l, some .labels) := by
  obtain ⟨v, r, rfl⟩ := h
  simp [step, on_cons, Ctx.st]

theorem step_line_newline (r : List Token) :
    step .line (c.on false (nlTok :: r)) =
      .ok (({ c with cur := { line := c.line, typ := .empty } } : Ctx).on false (nlTok :: r),
           some .emptyLines) := by
  simp [step, on_cons, Ctx.st, nlTok]

theorem step_line_comment (v : String) (r : List Token) :
    step .line (c.on false (cmtTok v :: r)) =
      .ok (({ c with cur := { line := c.line, typ := .comment },
                     metadata := captureMeta c.metadata v } : Ctx).on false (cmtTok v :: r),
           some .comment) := by
  simp [step, on_cons, Ctx.st, cmtTok]

theorem step_line_eof (r : List Token) :
    step .line (c.on false (eofTok :: r)) =
      .ok (({ c with cur := { line := c.line } } : Ctx).on false (eofTok :: r), none) := by
  simp [step, on_cons, Ctx.st, eofTok]

theorem step_line_end (l : List Token) : step .line (c.on true l) = .ok (c.on true l, none) := by
  simp [step, Ctx.on]

theorem step_emptyLines (k : Nat) (t' : Token) (ht' : (t'.typ == TokType.newline) = false)
    (r : List Token) :
    step .emptyLines (c.on e (List.replicate k nlTok ++ t' :: r)) =
      .ok (({ c with line := c.line + k,
                     cur := { c.cur with newlines := c.cur.newlines + k },
                     lines := c.lines ++ [{ c.cur with newlines := c.cur.newlines + k }] } : Ctx).on e
             (t' :: r), some .line) := by
  have hl : k < (c.on e (List.replicate k nlTok ++ t' :: r)).rest.length + 1 := by
    cases k <;> simp [List.replicate_succ, on_cons, Ctx.st]
  simp only [step]
  rw [skipLoop_on e t' ht' r k c _ hl]
  simp [bind, Except.bind, pure, Except.pure, on_cons, Ctx.st, emit]

theorem step_comment_nl (v : String) (l : List Token) (hl : l ≠ []) :
    step .comment (c.on e (cmtTok v :: nlTok :: l)) =
      .ok (({ c with line := c.line + 1,
                     cur := { c.cur with comment := v, newlines := c.cur.newlines + 1 },
                     lines := c.lines ++ [{ c.cur with comment := v, newlines := c.cur.newlines + 1 }] } :
              Ctx).on e l, some .line) := by
  obtain ⟨t'', r, rfl⟩ := List.exists_cons_of_ne_nil hl
  simp [step, on_cons, Ctx.st, consumeEmitLine, advance, next, nlTok, emit, incNewlines, cmtTok]

theorem step_comment_eof (v : String) (r : List Token) :
    step .comment (c.on e (cmtTok v :: eofTok :: r)) =
      .ok (({ c with cur := { c.cur with comment := v },
                     lines := c.lines ++ [{ c.cur with comment := v }] } : Ctx).on e (eofTok :: r),
           none) := by
  simp [step, on_cons, Ctx.st, consumeEmitLine, advance, next, eofTok, emit, cmtTok]

theorem step_labels_label (l : String) (hl : IsLabelName l) (hs : c.symbols.contains l = false)
    (l' : List Token) (hne : l' ≠ []) :
    step .labels (c.on e (⟨.text, l⟩ :: l')) =
      .ok (({ c with symbols := l :: c.symbols,
                     cur := { c.cur with labels := c.cur.labels ++ [l] } } : Ctx).on e l',
           some .labels) := by
  obtain ⟨t', r, rfl⟩ := List.exists_cons_of_ne_nil hne
  have hl' : (⟨.text, l⟩ : Token).isOp = false := hl
  have hs' : l ∉ c.symbols := by simpa using hs
  simp [step, on_cons, Ctx.st, next, hl', hs']

theorem step_labels_colon (r : List Token) :
    step .labels (c.on e (colonTok :: r)) = .ok (c.on e (colonTok :: r), some .colon) := by
  simp [step, on_cons, Ctx.st, colonTok, Token.isOp]

theorem step_labels_op (t : Token) (ht : t.isOp = true) (r : List Token) :
    step .labels (c.on e (t :: r)) = .ok (c.on e (t :: r), some (opState t)) := by
  have h1 := typ_of_isOp ht
  simp [step, on_cons, Ctx.st, ht, h1]

theorem step_colon_op (t : Token) (ht : t.isOp = true) (r : List Token) :
    step .colon (c.on e (colonTok :: t :: r)) = .ok (c.on e (t :: r), some (opState t)) := by
  have h1 := typ_of_isOp ht
  simp [step, on_cons, Ctx.st, skipLoop, colonTok, frozen, advance, next, bind, Except.bind, pure,
    Except.pure, ht, h1]

theorem step_colon_label (l : String) (hl : IsLabelName l) (r : List Token) :
    step .colon (c.on e (colonTok :: ⟨.text, l⟩ :: r)) = .ok (c.on e (⟨.text, l⟩ :: r), some .labels) := by
  have hl' : (⟨.text, l⟩ : Token).isOp = false := hl
  simp [step, on_cons, Ctx.st, skipLoop, colonTok, frozen, advance, next, bind, Except.bind, pure,
    Except.pure, hl']

theorem step_op_mode (op m : String) (hm : m ∈ modeStrs) (r : List Token) :
    step .op (c.on e (⟨.text, op⟩ :: ⟨.symbol, m⟩ :: r)) =
      .ok (({ c with cur := { c.cur with op := op, typ := .instruction, codeLine := c.codeLine },
                     codeLine := c.codeLine + 1 } : Ctx).on e (⟨.symbol, m⟩ :: r), some .modeA) := by
  have := isAddressMode_mode hm
  simp [step, on_cons, Ctx.st, advance, next, this]

theorem step_op_expr (op : String) (t : Token) (ht : t.isExpressionTerm = true)
    (hm : t.isAddressMode = false) (hs : t.val ≠ "*") (r : List Token) :
    step .op (c.on e (⟨.text, op⟩ :: t :: r)) =
      .ok (({ c with cur := { c.cur with op := op, typ := .instruction, codeLine := c.codeLine },
                     codeLine := c.codeLine + 1 } : Ctx).on e (t :: r), some .exprA) := by
  simp [step, on_cons, Ctx.st, advance, next, ht, hm, hs]

theorem step_modeA (m : String) (t : Token) (ht : t.isExpressionTerm = true) (r : List Token) :
    step .modeA (c.on e (⟨.symbol, m⟩ :: t :: r)) =
      .ok (({ c with cur := { c.cur with amode := m } } : Ctx).on e (t :: r), some .exprA) := by
  simp [step, on_cons, Ctx.st, advance, next, ht]

theorem step_modeB (m : String) (t : Token) (ht : t.isExpressionTerm = true) (r : List Token) :
    step .modeB (c.on e (⟨.symbol, m⟩ :: t :: r)) =
      .ok (({ c with cur := { c.cur with bmode := m } } : Ctx).on e (t :: r), some .exprB) := by
  simp [step, on_cons, Ctx.st, advance, next, ht]

theorem step_comma_mode (m : String) (hm : m ∈ modeStrs) (r : List Token) :
    step .comma (c.on e (commaTok :: ⟨.symbol, m⟩ :: r)) =
      .ok (c.on e (⟨.symbol, m⟩ :: r), some .modeB) := by
  have := isAddressMode_mode hm
  simp [step, on_cons, Ctx.st, advance, next, this, commaTok]

theorem step_comma_expr (t : Token) (ht : t.isExpressionTerm = true)
    (hm : t.isAddressMode = false) (r : List Token) :
    step .comma (c.on e (commaTok :: t :: r)) = .ok (c.on e (t :: r), some .exprB) := by
  simp [step, on_cons, Ctx.st, advance, next, ht, hm, commaTok]

/-- `end` switches `endSeen` on; nothing switches it off -/
theorem step_pseudoOp_expr (kw : String) (t : Token) (ht : t.isExpressionTerm = true)
    (r : List Token) :
    step .pseudoOp (c.on e (⟨.text, kw⟩ :: t :: r)) =
      .ok (({ c with cur := { c.cur with op := kw, typ := .pseudoOp } } : Ctx).on
             (e || lowerStr kw == "end") (t :: r), some .pseudoExpr) := by
  simp [step, on_cons, Ctx.st, advance, next, ht]

theorem step_pseudoOp_nl (kw : String) (hk : (⟨.text, kw⟩ : Token).noOperandsOk = true)
    (l : List Token) (hl : l ≠ []) :
    step .pseudoOp (c.on e (⟨.text, kw⟩ :: nlTok :: l)) =
      .ok (({ c with
              cur := { c.cur with op := kw, typ := .pseudoOp, newlines := c.cur.newlines + 1 },
              lines := c.lines ++ [{ c.cur with op := kw, typ := .pseudoOp,
                                                newlines := c.cur.newlines + 1 }],
              line := c.line + 1 } : Ctx).on (e || lowerStr kw == "end") l, some .line) := by
  obtain ⟨t'', r, rfl⟩ := List.exists_cons_of_ne_nil hl
  simp [step, on_cons, Ctx.st, advance, next, hk, nlTok, Token.isExpressionTerm, emit, incNewlines]

def IsExpr (s : St) : Prop := s = .pseudoExpr ∨ s = .exprA ∨ s = .exprB

def store : St → SourceLine → List Token → SourceLine
  | .exprB, l, ts => { l with b := some (l.b.getD [] ++ ts) }
  | _, l, ts => { l with a := some (l.a.getD [] ++ ts) }

variable {s : St} (hs : IsExpr s) (ts : List Token) (hts : ∀ t ∈ ts, t.isExpressionTerm = true)
include hs hts

theorem step_expr_comment (v : String) (r : List Token) :
    step s (c.on e (ts ++ cmtTok v :: r)) =
      .ok (({ c with references := addRefs ts c.references, cur := store s c.cur ts } : Ctx).on e
             (cmtTok v :: r), some .comment) := by
  rcases hs with rfl | rfl | rfl <;>
  · simp only [step]
    rw [collectExpr_on _ c e ts hts (cmtTok v) rfl r]
    simp [bind, Except.bind, pure, Except.pure, on_cons, Ctx.st, cmtTok, store]

/-- EOF, and for `parseExprA` also a newline: the line is emitted, the token stays in the look-ahead
    (a newline is neither consumed nor counted) -/
theorem step_expr_emit (t' : Token) (ht' : t'.typ = .eof ∨ (s = .exprA ∧ t'.typ = .newline))
    (r : List Token) :
    step s (c.on e (ts ++ t' :: r)) =
      .ok (({ c with references := addRefs ts c.references, cur := store s c.cur ts,
                     lines := c.lines ++ [store s c.cur ts] } : Ctx).on e (t' :: r), some .line) := by
  have hterm : t'.isExpressionTerm = false := by
    rcases ht' with h | ⟨_, h⟩ <;> simp [Token.isExpressionTerm, h]
  rcases hs with rfl | rfl | rfl <;>
  · simp only [step]
    rw [collectExpr_on _ c e ts hts t' hterm r]
    rcases ht' with h | ⟨h', h⟩ <;>
      first
      | (simp [bind, Except.bind, pure, Except.pure, on_cons, Ctx.st, emit, store, h]; done)
      | cases h'

theorem step_expr_nl (hs' : s ≠ .exprA) (l : List Token) (hl : l ≠ []) :
    step s (c.on e (ts ++ nlTok :: l)) =
      .ok (({ c with references := addRefs ts c.references, line := c.line + 1,
                     cur := { store s c.cur ts with newlines := c.cur.newlines + 1 },
                     lines := c.lines ++ [{ store s c.cur ts with newlines := c.cur.newlines + 1 }] } :
              Ctx).on e l, some .line) := by
  obtain ⟨t'', r, rfl⟩ := List.exists_cons_of_ne_nil hl
  rcases hs with rfl | rfl | rfl <;>
    first
    | exact absurd rfl hs'
    | simp only [step]
      rw [collectExpr_on _ c e ts hts nlTok rfl _]
      simp [bind, Except.bind, pure, Except.pure, on_cons, Ctx.st, nlTok, emit, incNewlines, advance,
        next, store]

omit hs in
theorem step_exprA_comma (r : List Token) :
    step .exprA (c.on e (ts ++ commaTok :: r)) =
      .ok (({ c with references := addRefs ts c.references, cur := store .exprA c.cur ts } : Ctx).on e
             (commaTok :: r), some .comma) := by
  simp only [step]
  rw [collectExpr_on _ c e ts hts commaTok rfl r]
  simp [bind, Except.bind, pure, Except.pure, on_cons, Ctx.st, commaTok, store]

end steps

theorem reach_labels (e : Bool) (t : Token) (ht : t.isOp = true) (r : List Token) :
    ∀ (ls : List (String × Bool)) (c : Ctx),
      (∀ l ∈ ls, IsLabelName l.1) → FreshLabels (ls.map (·.1)) c.symbols →
      Reach (some .labels) (c.on e (labelTokens ls ++ t :: r)) (some (opState t))
        (({ c with symbols := (ls.map (·.1)).reverse ++ c.symbols,
                   cur := { c.cur with labels := c.cur.labels ++ ls.map (·.1) } } : Ctx).on e (t :: r)) := by
  intro ls
  induction ls with
  | nil =>
    intro c _ _
    simpa [labelTokens] using Reach.one (step_labels_op c e t ht r)
  | cons lc ls ih =>
    intro c hl hf
    obtain ⟨l, colon⟩ := lc
    have hl0 : IsLabelName l := hl (l, colon) (by simp)
    have hls : ∀ x ∈ ls, IsLabelName x.1 := fun x hx => hl x (by simp [hx])
    obtain ⟨hs, hf⟩ := hf
    have h1 := Reach.one (step_labels_label c e l hl0 hs
      ((if colon then [colonTok] else []) ++ (labelTokens ls ++ t :: r)) (by simp))
    cases colon with
    | false =>
      refine ((h1.trans (ih _ hls hf)).eq ?_).eq' (by simp [labelTokens])
      simp
    | true =>
      have h2 := h1.trans (Reach.one (step_labels_colon _ e _))
      cases ls with
      | nil =>
        refine ((h2.trans (Reach.one (step_colon_op _ e t ht r))).eq ?_).eq' (by simp [labelTokens])
        simp
      | cons lc' ls' =>
        obtain ⟨l', colon'⟩ := lc'
        refine (((h2.trans (Reach.one (step_colon_label _ e l' (hls (l', colon') (by simp)) _))).trans
          (ih _ hls hf)).eq ?_).eq' (by simp [labelTokens])
        simp

theorem reach_opA (c : Ctx) (e : Bool) (op : String) (o : Operand) (ho : o.OK true) (tail : List Token) :
    Reach (some .op) (c.on e (⟨.text, op⟩ :: (o.tokens ++ tail))) (some .exprA)
      (({ c with cur := { c.cur with op := op, typ := .instruction, codeLine := c.codeLine,
                                     amode := o.mode.getD c.cur.amode },
                 codeLine := c.codeLine + 1 } : Ctx).on e (o.toks ++ tail)) := by
  obtain ⟨mode, toks⟩ := o
  obtain ⟨hts, t, ts, rfl, hmode⟩ := ho
  have ht : t.isExpressionTerm = true := hts t (by simp)
  cases mode with
  | none => exact Reach.one (step_op_expr c e op t ht hmode.1 (hmode.2 rfl) _)
  | some m =>
    exact (Reach.one (step_op_mode c e op m hmode _)).trans (Reach.one (step_modeA _ e m t ht _))

theorem reach_commaB (c : Ctx) (e : Bool) (o : Operand) (ho : o.OK false) (tail : List Token) :
    Reach (some .comma) (c.on e (commaTok :: (o.tokens ++ tail))) (some .exprB)
      (({ c with cur := { c.cur with bmode := o.mode.getD c.cur.bmode } } : Ctx).on e (o.toks ++ tail)) := by
  obtain ⟨mode, toks⟩ := o
  obtain ⟨hts, t, ts, rfl, hmode⟩ := ho
  have ht : t.isExpressionTerm = true := hts t (by simp)
  cases mode with
  | none => exact Reach.one (step_comma_expr c e t ht hmode.1 _)
  | some m =>
    exact (Reach.one (step_comma_mode c e m hmode _)).trans (Reach.one (step_modeB _ e m t ht _))

theorem reach_exprA (s : Stmt) (hs : s.OK) (c : Ctx) (hf : FreshLabels s.labelNames c.symbols)
    (tail : List Token) :
    Reach (some .line) (c.on false (labelTokens s.labels ++ (⟨.text, s.op⟩ : Token) :: (s.a.tokens ++ tail)))
      (some .exprA)
      (({ line := c.line, codeLine := c.codeLine + 1,
          cur := { line := c.line, codeLine := c.codeLine, typ := .instruction,
                   labels := s.labelNames, op := s.op, amode := s.a.mode.getD "" },
          metadata := c.metadata, lines := c.lines,
          symbols := s.labelNames.reverse ++ c.symbols,
          references := c.references } : Ctx).on false (s.a.toks ++ tail)) := by
  have hop : opState (⟨.text, s.op⟩ : Token) = .op := by simp [opState, hs.2.1.2]
  have h2 := reach_labels false _ hs.2.1.1 (s.a.tokens ++ tail) s.labels
    ({ c with cur := { line := c.line } } : Ctx) hs.1 hf
  rw [hop] at h2
  refine (((Reach.one (step_line_text c _ (labelTokens_head ..))).trans h2).trans
    (reach_opA _ false s.op s.a hs.2.2.1 tail)).eq ?_
  simp [Stmt.labelNames]

theorem reach_exprB (s : Stmt) (hs : s.OK) (bo : Operand) (hb : s.b = some bo) (c : Ctx)
    (hf : FreshLabels s.labelNames c.symbols) (tail : List Token) :
    Reach (some .line)
      (c.on false (labelTokens s.labels ++
        (⟨.text, s.op⟩ : Token) :: (s.a.tokens ++ (commaTok :: (bo.tokens ++ tail)))))
      (some .exprB)
      (({ line := c.line, codeLine := c.codeLine + 1,
          cur := { line := c.line, codeLine := c.codeLine, typ := .instruction,
                   labels := s.labelNames, op := s.op, amode := s.a.mode.getD "",
                   a := some s.a.toks, bmode := bo.mode.getD "" },
          metadata := c.metadata, lines := c.lines,
          symbols := s.labelNames.reverse ++ c.symbols,
          references := addRefs s.a.toks c.references } : Ctx).on false (bo.toks ++ tail)) := by
  refine (((reach_exprA s hs c hf _).trans
    (Reach.one (step_exprA_comma _ false s.a.toks hs.2.2.1.1 _))).trans
    (reach_commaB _ false bo (hs.2.2.2 bo hb) tail)).eq ?_
  simp [store]

theorem reach_nl {s : St} (hs : IsExpr s) (c : Ctx) (e : Bool) (ts : List Token)
    (hts : ∀ t ∈ ts, t.isExpressionTerm = true) (cm : Option String) (hA : s ≠ .exprA ∨ cm ≠ none)
    (l : List Token) (hl : l ≠ []) :
    Reach (some s) (c.on e (ts ++ (cmtToks cm ++ nlTok :: l))) (some .line)
      (({ c with references := addRefs ts c.references, line := c.line + 1,
                 cur := { store s c.cur ts with comment := cm.getD c.cur.comment,
                                                newlines := c.cur.newlines + 1 },
                 lines := c.lines ++ [{ store s c.cur ts with comment := cm.getD c.cur.comment,
                                                              newlines := c.cur.newlines + 1 }] } :
          Ctx).on e l) := by
  cases cm with
  | none =>
    refine (Reach.one (step_expr_nl c e hs ts hts (hA.resolve_right (· rfl)) l hl)).eq ?_
    rcases hs with rfl | rfl | rfl <;> simp [store]
  | some v =>
    refine ((Reach.one (step_expr_comment c e hs ts hts v _)).trans
      (Reach.one (step_comment_nl _ e v l hl))).eq ?_
    rcases hs with rfl | rfl | rfl <;> simp [store]

theorem reach_eof {s : St} (hs : IsExpr s) (c : Ctx) (e : Bool) (ts : List Token)
    (hts : ∀ t ∈ ts, t.isExpressionTerm = true) (cm : Option String) :
    ∃ cur', Reach (some s) (c.on e (ts ++ (cmtToks cm ++ [eofTok]))) none
      (({ c with references := addRefs ts c.references, cur := cur',
                 lines := c.lines ++ [{ store s c.cur ts with comment := cm.getD c.cur.comment }] } :
          Ctx).on e [eofTok]) := by
  cases cm with
  | none =>
    have h1 := Reach.one (step_expr_emit c e hs ts hts eofTok (.inl rfl) [])
    cases e with
    | true => exact ⟨store s c.cur ts, (h1.trans (Reach.one (step_line_end _ _))).eq
        (by rcases hs with rfl | rfl | rfl <;> simp [store])⟩
    | false => exact ⟨{ line := c.line }, (h1.trans (Reach.one (step_line_eof _ _))).eq
        (by rcases hs with rfl | rfl | rfl <;> simp [store])⟩
  | some v =>
    refine ⟨{ store s c.cur ts with comment := v }, ((Reach.one (step_expr_comment c e hs ts hts v _)).trans
      (Reach.one (step_comment_eof _ e v []))).eq ?_⟩
    rcases hs with rfl | rfl | rfl <;> simp [store]

def HeadOK (l : List Token) : Prop := ∀ t r, l = t :: r → (t.typ == TokType.newline) = false

theorem HeadOK.cons {t : Token} (h : (t.typ == TokType.newline) = false) (r : List Token) :
    HeadOK (t :: r) := fun _ _ e => (List.cons.inj e).1 ▸ h

def Starts (l : List Token) : Prop := ∃ t r, l = t :: r ∧ (t.typ == TokType.newline) = false

theorem Starts.headOK {a : List Token} (h : Starts a) : HeadOK a := by
  obtain ⟨t, r, rfl, ht⟩ := h
  exact .cons ht _

theorem HeadOK.append {a b : List Token} (ha : HeadOK a) (hb : HeadOK b) : HeadOK (a ++ b) := by
  cases a with
  | nil => exact hb
  | cons t r => exact .cons (ha t r rfl) _

/-- `toks` are whole lines: from a line start in `c` the parser comes to the line start after them
    in `c'`, whatever follows (no newline: it would belong to the blank lines before it; for the
    same reason `toks` does not begin with one).  `cur` is not part of a context at a line start,
    `parseLine` resets it. -/
structure Lines (toks : List Token) (c c' : Ctx) : Prop where
  head : HeadOK toks
  reach : ∀ (cur : SourceLine) (t' : Token) (rest' : List Token), (t'.typ == TokType.newline) = false →
    ∃ cur', Reach (some .line) (({ c with cur := cur } : Ctx).on false (toks ++ t' :: rest')) (some .line)
      (({ c' with cur := cur' } : Ctx).on false (t' :: rest'))

def Ends (toks : List Token) (c c' : Ctx) : Prop :=
  ∀ cur : SourceLine, ∃ cur' e l,
    Reach (some .line) (({ c with cur := cur } : Ctx).on false toks) none (({ c' with cur := cur' } : Ctx).on e l)

/-- an end that can follow whole lines -/
def Final (toks : List Token) (c c' : Ctx) : Prop := Starts toks ∧ Ends toks c c'

theorem Lines.nil (c : Ctx) : Lines [] c c := ⟨fun _ _ e => (nomatch e), fun cur _ _ _ => ⟨cur, .refl _ _⟩⟩

theorem Lines.append {a b : List Token} {c c' c'' : Ctx} (ha : Lines a c c') (hb : Lines b c' c'') :
    Lines (a ++ b) c c'' := by
  refine ⟨ha.head.append hb.head, fun cur t' rest' ht' => ?_⟩
  obtain ⟨t1, r1, h1, ht1⟩ : ∃ t1 r1, b ++ t' :: rest' = t1 :: r1 ∧ (t1.typ == TokType.newline) = false := by
    cases b with
    | nil => exact ⟨t', rest', rfl, ht'⟩
    | cons t r => exact ⟨t, _, rfl, hb.head t r rfl⟩
  obtain ⟨cur1, r1'⟩ := ha.reach cur t1 r1 ht1
  obtain ⟨cur2, r2⟩ := hb.reach cur1 t' rest' ht'
  rw [← h1] at r1'
  exact ⟨cur2, (List.append_assoc a b _ ▸ r1').trans r2⟩

theorem Lines.final {a b : List Token} {c c' c'' : Ctx} (ha : Lines a c c') (hb : Final b c' c'') :
    Final (a ++ b) c c'' := by
  obtain ⟨⟨t, r, rfl, ht⟩, hb⟩ := hb
  refine ⟨?_, fun cur => ?_⟩
  · cases a with
    | nil => exact ⟨t, r, rfl, ht⟩
    | cons u w => exact ⟨u, _, rfl, ha.head u w rfl⟩
  · obtain ⟨cur1, r1⟩ := ha.reach cur t r ht
    obtain ⟨cur2, e, l, r2⟩ := hb cur1
    exact ⟨cur2, e, l, r1.trans r2⟩

theorem reach_blanks (c : Ctx) (k : Nat) (t' : Token) (ht' : (t'.typ == TokType.newline) = false)
    (rest' : List Token) :
    ∃ cur', Reach (some .line) (c.on false (List.replicate k nlTok ++ t' :: rest')) (some .line)
      (({ c with line := c.line + k, cur := cur', lines := c.lines ++ blankLines c.line k } : Ctx).on false
        (t' :: rest')) := by
  cases k with
  | zero => exact ⟨c.cur, by simpa [blankLines] using Reach.refl (some .line) (c.on false (t' :: rest'))⟩
  | succ k =>
    refine ⟨emptyLine c.line (k + 1), ((Reach.one (step_line_newline c _)).trans
      (Reach.one (step_emptyLines _ false (k + 1) t' ht' rest'))).eq ?_⟩
    simp [blankLines, emptyLine]

theorem Final.lead {toks : List Token} {c c' : Ctx} (k : Nat)
    (h : Final toks ({ c with line := c.line + k, lines := c.lines ++ blankLines c.line k } : Ctx) c') :
    Ends (List.replicate k nlTok ++ toks) c c' := by
  obtain ⟨⟨t, r, rfl, ht⟩, h⟩ := h
  intro cur
  obtain ⟨cur1, r1⟩ := reach_blanks ({ c with cur := cur } : Ctx) k t ht r
  obtain ⟨cur2, e, l, r2⟩ := h cur1
  exact ⟨cur2, e, l, r1.trans r2⟩

theorem Lines.eq {a a' : List Token} {c c' c'' : Ctx} (h : Lines a c c') (ha : a' = a) (hc : c' = c'') :
    Lines a' c c'' := ha ▸ hc ▸ h

theorem Final.eq {a a' : List Token} {c c' c'' : Ctx} (h : Final a c c') (ha : a' = a) (hc : c' = c'') :
    Final a' c c'' := ha ▸ hc ▸ h

theorem lines_comment (v : String) (k : Nat) (c : Ctx) :
    Lines (cmtTok v :: nlTok :: List.replicate k nlTok) c
      { c with line := c.line + 1 + k, metadata := captureMeta c.metadata v,
               lines := c.lines ++ commentLine c.line v :: blankLines (c.line + 1) k } := by
  refine ⟨.cons rfl _, fun cur t' rest' ht' => ?_⟩
  obtain ⟨cur', h2⟩ := reach_blanks _ k t' ht' rest'
  refine ⟨cur', (((Reach.one (step_line_comment _ v _)).trans
    (Reach.one (step_comment_nl _ false v _ (by simp)))).trans h2).eq ?_⟩
  simp [commentLine]

def stmtTokens (s : Stmt) (cm : Option String) : List Token :=
  labelTokens s.labels ++ ((⟨.text, s.op⟩ : Token) ::
    (s.a.tokens ++ (s.bTokens ++ (cmtToks cm ++ nlTok :: List.replicate s.blanks nlTok))))

/-- as `Stmt.lines`; with a comment there is one instruction entry also without B operand -/
def stmtLines (s : Stmt) (cm : Option String) (ln cl : Int) : List SourceLine :=
  match s.b, cm with
  | none, none => [s.instrLine ln cl, emptyLine ln (s.blanks + 1)]
  | _, _ => { s.instrLine ln cl with comment := cm.getD "", newlines := 1 } :: blankLines (ln + 1) s.blanks

theorem starts_labels (ls : List (String × Bool)) (op : String) (tail : List Token) :
    Starts (labelTokens ls ++ (⟨.text, op⟩ : Token) :: tail) := by
  obtain ⟨v, r, h⟩ := labelTokens_head ls op tail
  exact ⟨_, r, h.symm, rfl⟩

theorem lines_stmt (s : Stmt) (hs : s.OK) (cm : Option String) (c : Ctx)
    (hf : FreshLabels s.labelNames c.symbols) :
    Lines (stmtTokens s cm) c
      { line := c.line + 1 + s.blanks, codeLine := c.codeLine + 1, cur := c.cur, metadata := c.metadata,
        lines := c.lines ++ stmtLines s cm c.line c.codeLine,
        symbols := s.labelNames.reverse ++ c.symbols, references := s.refs c.references } := by
  refine ⟨(starts_labels ..).headOK, fun cur t' rest' ht' => ?_⟩
  cases hb : s.b with
  | none =>
    cases cm with
    | none =>
      have h1 := (reach_exprA s hs { c with cur := cur } hf
        (List.replicate (s.blanks + 1) nlTok ++ t' :: rest')).trans
        (Reach.one (step_expr_emit _ false (.inr (.inl rfl)) s.a.toks hs.2.2.1.1 nlTok (.inr ⟨rfl, rfl⟩) _))
      obtain ⟨cur', h2⟩ := reach_blanks _ (s.blanks + 1) t' ht' rest'
      refine ⟨cur', ((h1.trans h2).eq ?_).eq' ?_⟩
      · have e : c.line + ((s.blanks : Int) + 1) = c.line + 1 + s.blanks := by omega
        simp [stmtLines, hb, Stmt.instrLine, Stmt.refs, store, blankLines, e]
      · simp [stmtTokens, Stmt.bTokens, hb, cmtToks, List.replicate_succ]
    | some v =>
      have h1 := (reach_exprA s hs { c with cur := cur } hf _).trans
        (reach_nl (.inr (.inl rfl)) _ false s.a.toks hs.2.2.1.1 (some v) (.inr nofun)
          (List.replicate s.blanks nlTok ++ t' :: rest') (by simp))
      obtain ⟨cur', h2⟩ := reach_blanks _ s.blanks t' ht' rest'
      refine ⟨cur', ((h1.trans h2).eq ?_).eq' ?_⟩
      · simp [stmtLines, hb, Stmt.instrLine, Stmt.refs, store]
      · simp [stmtTokens, Stmt.bTokens, hb, cmtToks]
  | some bo =>
    have h1 := (reach_exprB s hs bo hb { c with cur := cur } hf _).trans
      (reach_nl (.inr (.inr rfl)) _ false bo.toks (hs.2.2.2 bo hb).1 cm (.inl nofun)
        (List.replicate s.blanks nlTok ++ t' :: rest') (by simp))
    obtain ⟨cur', h2⟩ := reach_blanks _ s.blanks t' ht' rest'
    refine ⟨cur', ((h1.trans h2).eq ?_).eq' ?_⟩
    · cases cm <;> simp [stmtLines, hb, Stmt.instrLine, Stmt.refs, store]
    · simp [stmtTokens, Stmt.bTokens, hb]

structure PLine where
  labels : List (String × Bool) := []
  kw : String
  toks : List Token
  cm : Option String := none

namespace PLine

def names (p : PLine) : List String := p.labels.map (·.1)

def tokens (p : PLine) (tail : List Token) : List Token :=
  labelTokens p.labels ++ (⟨.text, p.kw⟩ : Token) :: (p.toks ++ (cmtToks p.cm ++ tail))

def entry (p : PLine) (ln : Int) : SourceLine :=
  { endLine ln p.kw p.toks with labels := p.names, comment := p.cm.getD "" }

structure OK (p : PLine) : Prop where
  labels : ∀ l ∈ p.labels, IsLabelName l.1
  kw : (⟨.text, p.kw⟩ : Token).isPseudoOp = true
  toks : ∀ t ∈ p.toks, t.isExpressionTerm = true

def after (p : PLine) (c : Ctx) (ln : Int) (new : List SourceLine) : Ctx :=
  { line := ln, codeLine := c.codeLine, cur := c.cur, metadata := c.metadata,
    lines := c.lines ++ new, symbols := p.names.reverse ++ c.symbols,
    references := addRefs p.toks c.references }

end PLine

theorem reach_pseudoOp (p : PLine) (hp : p.OK) (c : Ctx) (hf : FreshLabels p.names c.symbols)
    (tail : List Token) :
    Reach (some .line) (c.on false (labelTokens p.labels ++ (⟨.text, p.kw⟩ : Token) :: tail))
      (some .pseudoOp)
      (({ c with symbols := p.names.reverse ++ c.symbols,
                 cur := { line := c.line, labels := p.names } } : Ctx).on false
        ((⟨.text, p.kw⟩ : Token) :: tail)) := by
  have hop : (⟨.text, p.kw⟩ : Token).isOp = true := by simp [Token.isOp, hp.kw]
  have hst : opState (⟨.text, p.kw⟩ : Token) = .pseudoOp := by simp [opState, hp.kw]
  refine (hst ▸ (Reach.one (step_line_text c _ (labelTokens_head p.labels p.kw _))).trans
    (reach_labels false _ hop tail p.labels _ hp.labels hf)).eq ?_
  simp [PLine.names]

/-- `end` (and `rof`) may stand without operand (`noOperandsOk`) -/
theorem reach_pseudo (p : PLine) (hp : p.OK)
    (hk : p.toks ≠ [] ∨ ((⟨.text, p.kw⟩ : Token).noOperandsOk = true ∧ p.cm = none))
    (c : Ctx) (hf : FreshLabels p.names c.symbols) (l : List Token) (hne : l ≠ []) :
    Reach (some .line) (c.on false (p.tokens (nlTok :: l))) (some .line)
      (({ p.after c (c.line + 1) [p.entry c.line] with cur := p.entry c.line } : Ctx).on
        (lowerStr p.kw == "end") l) := by
  obtain ⟨ls, kw, toks, cm⟩ := p
  have h12 := reach_pseudoOp ⟨ls, kw, toks, cm⟩ hp c hf (toks ++ (cmtToks cm ++ nlTok :: l))
  cases toks with
  | nil =>
    obtain ⟨hno, rfl⟩ := hk.resolve_left (· rfl)
    refine (h12.trans (Reach.one (step_pseudoOp_nl _ false kw hno l hne))).eq ?_
    simp [PLine.after, PLine.entry, PLine.names, endLine, addRefs]
  | cons t1 ts1 =>
    refine ((h12.trans (Reach.one (step_pseudoOp_expr _ false kw t1 (hp.toks t1 (by simp)) _))).trans
      (reach_nl (.inl rfl) _ _ (t1 :: ts1) hp.toks cm (.inl nofun) l hne)).eq ?_
    simp [PLine.after, PLine.entry, PLine.names, endLine, store]

theorem lines_pseudo (p : PLine) (hp : p.OK) (hke : (lowerStr p.kw == "end") = false) (hne : p.toks ≠ [])
    (k : Nat) (c : Ctx) (hf : FreshLabels p.names c.symbols) :
    Lines (p.tokens (nlTok :: List.replicate k nlTok)) c
      (p.after c (c.line + 1 + k) (p.entry c.line :: blankLines (c.line + 1) k)) := by
  refine ⟨(starts_labels ..).headOK, fun cur t' rest' ht' => ?_⟩
  have h1 := reach_pseudo p hp (.inl hne) { c with cur := cur } hf
    (List.replicate k nlTok ++ t' :: rest') (by simp)
  rw [hke] at h1
  obtain ⟨cur', h2⟩ := reach_blanks _ k t' ht' rest'
  refine ⟨cur', ((h1.trans h2).eq ?_).eq' (by simp [PLine.tokens])⟩
  simp [PLine.after]

theorem final_eof (c : Ctx) : Final [eofTok] c c :=
  ⟨⟨_, _, rfl, rfl⟩, fun _ => ⟨{ line := c.line }, false, _, Reach.one (step_line_eof _ _)⟩⟩

/-- the END line: what follows its newline is not read -/
theorem final_end (p : PLine) (hp : p.OK) (hk : lowerStr p.kw = "end") (hcm : p.cm.isSome → p.toks ≠ [])
    (trail : List Token) (htr : trail ≠ []) (c : Ctx) (hf : FreshLabels p.names c.symbols) :
    Final (p.tokens (nlTok :: trail)) c (p.after c (c.line + 1) [p.entry c.line]) := by
  refine ⟨starts_labels .., fun cur => ?_⟩
  have hk' : p.toks ≠ [] ∨ ((⟨.text, p.kw⟩ : Token).noOperandsOk = true ∧ p.cm = none) := by
    cases h : p.toks with
    | cons => exact .inl nofun
    | nil => cases h' : p.cm with
      | none => exact .inr ⟨by simp [Token.noOperandsOk, hk], rfl⟩
      | some v => exact absurd h (hcm (by simp [h']))
  have h1 := reach_pseudo p hp hk' { c with cur := cur } hf trail htr
  rw [hk] at h1
  exact ⟨_, _, _, h1.trans (Reach.one (step_line_end _ _))⟩

theorem final_cmtU (v : String) (c : Ctx) :
    Final [cmtTok v, eofTok] c
      { c with metadata := captureMeta c.metadata v,
               lines := c.lines ++ [{ line := c.line, typ := .comment, comment := v }] } :=
  ⟨⟨_, _, rfl, rfl⟩, fun _ => ⟨_, false, _, (Reach.one (step_line_comment _ v _)).trans
    (Reach.one (step_comment_eof _ false v []))⟩⟩

theorem final_stmtU (s : Stmt) (hs : s.OK) (cm : Option String) (c : Ctx)
    (hf : FreshLabels s.labelNames c.symbols) :
    Final (labelTokens s.labels ++ (⟨.text, s.op⟩ : Token) ::
        (s.a.tokens ++ (s.bTokens ++ (cmtToks cm ++ [eofTok])))) c
      { line := c.line, codeLine := c.codeLine + 1, cur := c.cur, metadata := c.metadata,
        lines := c.lines ++ [{ s.instrLine c.line c.codeLine with comment := cm.getD "", newlines := 0 }],
        symbols := s.labelNames.reverse ++ c.symbols, references := s.refs c.references } := by
  refine ⟨starts_labels .., fun cur => ?_⟩
  cases hb : s.b with
  | none =>
    obtain ⟨cur', h2⟩ := reach_eof (.inr (.inl rfl)) _ false s.a.toks hs.2.2.1.1 cm
    refine ⟨cur', false, [eofTok], (((reach_exprA s hs { c with cur := cur } hf _).trans h2).eq ?_).eq' ?_⟩
    · simp [Stmt.instrLine, Stmt.refs, store, hb]
    · simp [Stmt.bTokens, hb]
  | some bo =>
    obtain ⟨cur', h2⟩ := reach_eof (.inr (.inr rfl)) _ false bo.toks (hs.2.2.2 bo hb).1 cm
    refine ⟨cur', false, [eofTok], (((reach_exprB s hs bo hb { c with cur := cur } hf _).trans h2).eq ?_).eq' ?_⟩
    · simp [Stmt.instrLine, Stmt.refs, store, hb]
    · simp [Stmt.bTokens, hb]

theorem final_pseudoU (p : PLine) (hp : p.OK) (hne : p.toks ≠ []) (c : Ctx)
    (hf : FreshLabels p.names c.symbols) :
    Final (p.tokens [eofTok]) c (p.after c c.line [{ p.entry c.line with newlines := 0 }]) := by
  obtain ⟨ls, kw, toks, cm⟩ := p
  refine ⟨starts_labels .., fun cur => ?_⟩
  obtain ⟨t1, ts1, rfl⟩ := List.exists_cons_of_ne_nil hne
  obtain ⟨cur', h2⟩ := reach_eof (.inl rfl) _ _ (t1 :: ts1) hp.toks cm
  refine ⟨cur', lowerStr kw == "end", [eofTok], (((reach_pseudoOp ⟨ls, kw, t1 :: ts1, cm⟩ hp
    { c with cur := cur } hf _).trans
    (Reach.one (step_pseudoOp_expr _ false kw t1 (hp.toks t1 (by simp)) _))).trans h2).eq ?_⟩
  simp [PLine.after, PLine.entry, PLine.names, endLine, store]

theorem parse_of_ends {toks : List Token} {c' : Ctx} (h : Ends toks {} c')
    (hv : ∀ x ∈ c'.references, x ∈ c'.symbols) : parse toks = .ok (some (c'.lines, c'.metadata)) := by
  obtain ⟨cur', e, l, r⟩ := h {}
  cases toks with
  | nil =>
    -- the empty stream is refused at once, in a state with `err` set
    generalize hq : ({ c' with cur := cur' } : Ctx).on e l = q at r
    cases r with
    | call hs _ hr =>
      simp [step, Ctx.on, Ctx.st] at hs
      obtain ⟨rfl, rfl⟩ := hs
      cases hr
      cases congrArg PState.err hq
  | cons t0 rest0 =>
    have := parse_of_run (r.run _ rfl _ (φ_newParser t0 rest0)) rfl hv
    simpa [Ctx.on, Ctx.st] using this

theorem parse_of_lines {a b : List Token} {c c' : Ctx} (k : Nat)
    (ha : Lines a { line := 1 + k, lines := blankLines 1 k } c) (hb : Final b c c')
    (hv : ∀ x ∈ c'.references, x ∈ c'.symbols) :
    parse (List.replicate k nlTok ++ (a ++ b)) = .ok (some (c'.lines, c'.metadata)) :=
  parse_of_ends (Final.lead (c := {}) k (ha.final hb)) hv

theorem stmtLines_none (s : Stmt) (ln cl : Int) : stmtLines s none ln cl = s.lines ln cl := by
  cases hb : s.b <;> simp [stmtLines, Stmt.lines, Stmt.instrLine, hb]

theorem lines_item (it : Item) (hok : it.OK) (c : Ctx) (hf : FreshLabels it.labelNames c.symbols) :
    Lines it.tokens c
      { line := c.line + 1 + it.blanks, codeLine := c.codeLine + it.codeLines, cur := c.cur,
        metadata := it.metadata c.metadata, lines := c.lines ++ it.lines c.line c.codeLine,
        symbols := it.labelNames.reverse ++ c.symbols, references := it.refs c.references } := by
  cases it with
  | stmt s => exact (lines_stmt s hok none c hf).eq rfl (by rw [stmtLines_none]; rfl)
  | comment v k => exact (lines_comment v k c).eq rfl (by simp [Item.lines, Item.blanks, Item.codeLines,
      Item.metadata, Item.labelNames, Item.refs])

theorem lines_items : ∀ (items : List Item) (c : Ctx), (∀ it ∈ items, it.OK) →
    FreshLabels (itemsLabels items) c.symbols →
    Lines (itemsTokens items) c
      { line := itemsEndLine items c.line, codeLine := itemsEndCode items c.codeLine, cur := c.cur,
        metadata := itemsMeta items c.metadata, lines := c.lines ++ itemsLines items c.line c.codeLine,
        symbols := (itemsLabels items).reverse ++ c.symbols, references := itemsRefs items c.references }
  | [], c, _, _ => (Lines.nil c).eq rfl (by simp [itemsLines, itemsLabels]; rfl)
  | it :: items, c, hok, hf => by
    rw [itemsLabels, FreshLabels_append] at hf
    refine ((lines_item it (hok it (by simp)) c hf.1).append
      (lines_items items _ (fun x hx => hok x (by simp [hx])) hf.2)).eq rfl ?_
    simp [itemsEndLine, itemsEndCode, itemsMeta, itemsLines, itemsLabels, itemsRefs]

theorem parse_prog (p : Prog) (hp : p.OK) : parse p.tokens = .ok (some (p.lines, p.metadata)) := by
  have h := lines_items p.items { line := 1 + p.lead, lines := blankLines 1 p.lead } hp.items
    ((FreshLabels_iff _ _).mpr ⟨hp.nodup, hp.notPredefined⟩)
  exact parse_of_lines p.lead h (final_eof _)
    (by simpa [Prog.labels, predefined] using hp.refs_valid)

theorem parse_instr_lines (ss : List Stmt) (h0 : ∀ s ∈ ss, s.blanks = 0)
    (hok : Prog.OK ⟨0, ss.map .stmt⟩) :
    parse (stmtsTokens ss ++ [eofTok]) = .ok (some (stmtsLines ss 0, {})) := by
  have h : itemsLines (ss.map .stmt) 1 0 = stmtsLines ss 0 := itemsLines_stmts ss h0 0
  simpa [Prog.tokens, Prog.lines, Prog.metadata, blankLines, itemsTokens_stmts, itemsMeta_stmts, h]
    using parse_prog ⟨0, ss.map .stmt⟩ hok

end Gmars.Render
