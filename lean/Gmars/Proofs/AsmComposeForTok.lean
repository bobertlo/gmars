/-
  C03 / C08, composition with FOR blocks at the token level: label-free instructions and their
  token lines (`FInstr`), on which parser and compiler return `Spec.meaningFlat`
  (`parseCompile_instrs`); so a structured token program whose manual unrolling (`FullUnroll`, at
  most 12 expansions) consists of such lines assembles to the meaning of the unrolled instructions
  (`assemble_for_lexed`).
-/
import Gmars.Proofs.AsmCompose
import Gmars.Proofs.ForUnroll

namespace Gmars
namespace AsmComposeFor
open Gmars.AsmCompose Gmars.Render Gmars.AsmLine Gmars.ForPass

structure FInstr where
  op : String
  md : Option String
  a : LOperand
  b : Option LOperand

def FInstr.toL (i : FInstr) : LItem := .instr [] i.op i.md i.a i.b

def FInstr.toItem (i : FInstr) : Spec.Item := i.toL.toItem

/-- as an item of a source program: no colon, no blank line behind it -/
def FInstr.toS (i : FInstr) : SItem := .instr [] i.op i.md i.a i.b 0

def operandToks (o : LOperand) : List Token :=
  (match o.mode with
   | some m => [(⟨.symbol, String.singleton m.sym⟩ : Token)]
   | none => []) ++ o.expr.tokens

def bToks : Option LOperand → List Token
  | some bo => commaTok :: operandToks bo
  | none => []

/-- `op[.md] [mode]exprA [, [mode]exprB]` and a newline -/
def FInstr.line (i : FInstr) : Line :=
  { toks := (⟨.text, opString i.op i.md⟩ : Token) :: (operandToks i.a ++ bToks i.b), nl := nlTok }

def FInstr.LexOK (i : FInstr) : Prop := i.toS.LexOK

def FInstr.OpOK (i : FInstr) : Prop := IsOpName (opString i.op i.md)

def FInstr.names (i : FInstr) : List String := LItemNames i.toL

theorem wOperand_tokens (o : LOperand) (h : NTLexOK o.expr) :
    (wOperand o).toOperand.tokens = operandToks o := by
  unfold Operand.tokens operandToks
  rw [wOperand_toks o h]
  cases hm : o.mode <;> simp [wOperand, WOperand.toOperand, hm]

theorem FInstr.toX_tokens (i : FInstr) (h : i.LexOK) : i.toS.toX.tokens = i.line.flat := by
  obtain ⟨op, md, a, b⟩ := i
  obtain ⟨_, hop, ha, hb⟩ := h
  simp only [FInstr.toS, SItem.toX, XItem.tokens, WItem.toItem, Item.tokens, Stmt.tokens,
    WStmt.toStmt, wStmt, List.map_nil, labelTokens, List.nil_append, identWord_val hop,
    FInstr.line, Line.flat, List.replicate_zero, List.cons_append, List.append_assoc]
  show _ :: (WOperand.toOperand (wOperand a)).tokens ++ _ = _
  rw [wOperand_tokens a ha]
  congr 2
  cases b with
  | none => rfl
  | some bo =>
    simp only [Stmt.bTokens, Option.map_some, bToks, List.cons_append,
      wOperand_tokens bo (hb bo rfl)]

def instrProg (U : List FInstr) : SProg := { items := U.map FInstr.toS }

theorem instrProg_litems (U : List FInstr) : (instrProg U).litems = U.map FInstr.toL := by
  unfold SProg.litems instrProg SProg.finL
  simp only [List.append_nil]
  induction U with
  | nil => rfl
  | cons i r ih => simp only [List.map_cons, List.filterMap_cons, FInstr.toS, SItem.toL, ih,
      List.map_nil, FInstr.toL]

theorem instrProg_tokens (U : List FInstr) (h : ∀ i ∈ U, i.LexOK) :
    (instrProg U).toX.tokens = flat (U.map FInstr.line) ++ [ForPass.eofTok] := by
  simp only [XProg.tokens, SProg.toX, instrProg, List.replicate_zero, List.nil_append,
    XProg.finTokens, Option.map_none]
  congr 1
  induction U with
  | nil => rfl
  | cons i r ih =>
    have h := List.forall_mem_cons.1 h
    simp only [List.map_cons, xitemsTokens, flat_cons,
      ih h.2]
    rw [← FInstr.toX_tokens i h.1]

theorem instrProg_meta (U : List FInstr) : (instrProg U).meta = {} := by
  unfold SProg.meta XProg.metadata SProg.toX instrProg
  simp only
  generalize ({} : AsmMeta) = m
  induction U with
  | nil => rfl
  | cons i r ih => simpa [xitemsMeta, FInstr.toS, SItem.toX, XItem.metadata, WItem.toItem,
      Item.metadata] using ih

theorem labelsFrom_toL (U : List FInstr) (k : Nat) : labelsFrom k (U.map FInstr.toL) = [] := by
  induction U generalizing k with
  | nil => rfl
  | cons i r ih => simp [FInstr.toL, labelsFrom, ih]

theorem instrProg_names (U : List FInstr) : (instrProg U).names = U.flatMap FInstr.names := by
  unfold SProg.names
  rw [instrProg_litems, List.flatMap_map]
  rfl

/-- `U` is a list of instructions without labels whose operands are expressions over numbers (no
    names: there are no labels to refer to).  The parser and the compiler stage on their token lines
    return the reference meaning of `U`, or an error exactly when the reference rejects the program. -/
theorem parseCompile_instrs (cfg : Config) (sc : Spec.Cfg) (U : List FInstr)
    (hv : cfg.validate = true) (h63 : cfg.coreSize.toNat < 2 ^ 63) (hr : CfgRel cfg sc)
    (hlex : ∀ i ∈ U, i.LexOK) (hop : ∀ i ∈ U, i.OpOK) (hnames : ∀ i ∈ U, i.names = [])
    (hsmall : U.length < 2 ^ 63)
    (hw : ProgWF sc.M [] 0 (U.map FInstr.toL)) :
    parseCompile cfg (flat (U.map FInstr.line) ++ [ForPass.eofTok]) =
      match Spec.meaningFlat sc (U.map FInstr.toItem) with
      | some m => .ok (toWD {} m)
      | none => .err := by
  have hlf : labelsFrom 0 (instrProg U).litems = [] := by
    rw [instrProg_litems, labelsFrom_toL]
  have hmain := parseCompile_labels cfg sc (instrProg U) hv h63 hr
    ⟨List.forall_mem_map.2 hlex, fun _ _ h => by cases h⟩
    ⟨List.forall_mem_map.2 fun i hi => ⟨fun p hp => (by cases hp), hop i hi⟩,
      fun _ _ h => by cases h⟩
    (List.forall_mem_map.2 fun _ _ => trivial)
    (by unfold SProg.labels; rw [hlf]; decide)
    (by
      intro x hx
      rw [instrProg_names] at hx
      obtain ⟨i, hi, hxi⟩ := List.mem_flatMap.1 hx
      rw [hnames i hi] at hxi
      cases hxi)
    (by
      rw [instrProg_litems]
      exact Nat.lt_of_le_of_lt (List.length_filter_le _ _) (by rwa [List.length_map]))
    (by rw [hlf, instrProg_litems]; exact hw)
  rw [instrProg_tokens U hlex, instrProg_meta, instrProg_litems, List.map_map] at hmain
  exact hmain

/-- `p` is a structured token program (instruction lines and FOR blocks,
    nested and sequential, label-free, literal counts or counters of enclosing blocks) whose manual
    unrolling `ls` (`FullUnroll p ls k`: every block replaced by the copies of its body with the
    counter substituted) takes `k ≤ 12` block expansions and consists of the token lines of the
    label-free instructions `U`; `src` is any source the lexer turns into the tokens of `p`.  Then
    `CompileWarrior` — pass loop, parser, compiler — returns the reference meaning of the unrolled
    program `U`, or an error exactly when the reference rejects `U`. -/
theorem assemble_for_lexed (cfg : Config) (sc : Spec.Cfg) (p : ForPass.Prog) (ls : List Line) (k : Nat)
    (h : FullUnroll p ls k) (hk : k ≤ 12) (U : List FInstr) (hls : ls = U.map FInstr.line)
    (hv : cfg.validate = true) (h63 : cfg.coreSize.toNat < 2 ^ 63) (hr : CfgRel cfg sc)
    (hlex : ∀ i ∈ U, i.LexOK) (hop : ∀ i ∈ U, i.OpOK) (hnames : ∀ i ∈ U, i.names = [])
    (hsmall : U.length < 2 ^ 63)
    (hw : ProgWF sc.M [] 0 (U.map FInstr.toL))
    (src : List UInt8) (hsrc : lexBytes src = flat p.render ++ [ForPass.eofTok]) :
    assemble cfg src =
      match Spec.meaningFlat sc (U.map FInstr.toItem) with
      | some m => .ok (toWD {} m)
      | none => .err := by
  rw [assemble_of_forLoop cfg src (hsrc ▸ for_unroll_full p ls k h hk), hls]
  exact parseCompile_instrs cfg sc U hv h63 hr hlex hop hnames hsmall hw

end AsmComposeFor
end Gmars
