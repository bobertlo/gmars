/-
  C08 "FOR/ROF blocks assemble exactly like their manual unrolling": the vocabulary of the proofs
  about the FOR expander (Gmars/Model/ForExpand.lean): lines, the kind of a line as the three line
  machines `forConsumeLabels`, `forInnerLabels`, `scanLabels` decide it after the leading labels,
  and the output record `Out`.
-/
import Gmars.Model.Assemble
import Gmars.Proofs.AsmTermBase

namespace Gmars
namespace ForPass

open ForExpand

def InLine (t : Token) : Prop := t.typ ≠ .newline ∧ t.typ ≠ .eof ∧ t.typ ≠ .error

instance (t : Token) : Decidable (InLine t) := by unfold InLine; infer_instance

/-- the machines take the look-ahead and the remaining input apart: a list with a token in it is
    such a pair -/
theorem exists_cons' (a : List Token) (x : Token) (r : List Token) :
    ∃ y ys, a ++ x :: r = y :: ys ∧ (y = x ∨ y ∈ a) := by
  cases a with
  | nil => exact ⟨_, _, rfl, Or.inl rfl⟩
  | cons b bs => exact ⟨_, _, rfl, Or.inr (List.mem_cons_self ..)⟩

theorem exists_cons (a : List Token) (x : Token) (r : List Token) :
    ∃ y ys, a ++ x :: r = y :: ys :=
  let ⟨y, ys, h, _⟩ := exists_cons' a x r
  ⟨y, ys, h⟩

theorem inLine_of_text {t : Token} (h : t.typ = .text) : InLine t := by
  unfold InLine
  rw [h]
  decide

theorem InLine.isTerm {t : Token} (h : InLine t) : t.isTerm = false :=
  (isTerm_false_iff _).2 ⟨h.2.1, h.2.2⟩

/-- a text token that every line machine takes for a label: not an opcode, not a pseudo-op -/
def isLabelTok (t : Token) : Bool := t.typ == .text && !t.isOp

theorem isOp_of_isPseudoOp {t : Token} (ht : t.typ = .text) (h : t.isPseudoOp = true) :
    t.isOp = true := by
  unfold Token.isOp
  simp [ht, h]

theorem isLabelTok_iff {t : Token} :
    isLabelTok t = true ↔ (t.typ = .text ∧ t.isPseudoOp = false ∧ t.isOp = false) := by
  unfold isLabelTok
  constructor
  · intro h
    simp only [Bool.and_eq_true, beq_iff_eq, Bool.not_eq_eq_eq_not, Bool.not_true] at h
    exact ⟨h.1, Bool.eq_false_iff.2 fun hp =>
      Bool.false_ne_true (h.2.symm.trans (isOp_of_isPseudoOp h.1 hp)), h.2⟩
  · rintro ⟨h1, _, h3⟩
    simp [h1, h3]

theorem isPseudoOp_of_lower_for {t : Token} (h : lowerStr t.val = "for") : t.isPseudoOp = true := by
  unfold Token.isPseudoOp
  rw [h]; rfl

theorem isPseudoOp_of_lower_rof {t : Token} (h : lowerStr t.val = "rof") : t.isPseudoOp = true := by
  unfold Token.isPseudoOp
  rw [h]; rfl

/-- what stands after the leading labels of a line (the tokens of a line without its newline) -/
inductive Kind
  | blank    -- nothing, or a token that is not text (comment, colon, number, ...)
  | op
  | for_
  | rof
  | pseudo   -- another pseudo-op: `equ`, `end`, `org`
  deriving DecidableEq, Repr

/-- the decision tree shared by `forConsumeLabels`, `forInnerLabels` and `scanLabels` -/
def lineKind : List Token → Kind
  | [] => .blank
  | t :: r =>
    if t.typ == .text then
      if t.isPseudoOp then
        if lowerStr t.val == "for" then .for_
        else if lowerStr t.val == "rof" then .rof
        else .pseudo
      else if t.isOp then .op
      else lineKind r
    else .blank

theorem lineKind_nontext {t : Token} {r : List Token} (h : t.typ ≠ .text) :
    lineKind (t :: r) = .blank := by
  simp [lineKind, h]

theorem lineKind_op {t : Token} {r : List Token} (h1 : t.typ = .text) (h2 : t.isOp = true)
    (h3 : t.isPseudoOp = false) : lineKind (t :: r) = .op := by
  simp [lineKind, h1, h2, h3]

theorem lineKind_for {t : Token} {r : List Token} (h1 : t.typ = .text)
    (h3 : lowerStr t.val = "for") : lineKind (t :: r) = .for_ := by
  simp [lineKind, h1, isPseudoOp_of_lower_for h3, h3]

theorem lineKind_rof {t : Token} {r : List Token} (h1 : t.typ = .text)
    (h3 : lowerStr t.val = "rof") : lineKind (t :: r) = .rof := by
  simp [lineKind, h1, isPseudoOp_of_lower_rof h3, h3]

theorem lineKind_pseudo {t : Token} {r : List Token} (h1 : t.typ = .text)
    (h2 : t.isPseudoOp = true) (h3 : lowerStr t.val ≠ "for") (h4 : lowerStr t.val ≠ "rof") :
    lineKind (t :: r) = .pseudo := by
  simp [lineKind, h1, h2, h3, h4]

theorem lineKind_label {t : Token} {r : List Token} (h : isLabelTok t = true) :
    lineKind (t :: r) = lineKind r := by
  obtain ⟨h1, h2, h3⟩ := isLabelTok_iff.1 h
  simp [lineKind, h1, h2, h3]

theorem lineKind_labels {lbls : List Token} (r : List Token)
    (h : ∀ x ∈ lbls, isLabelTok x = true) : lineKind (lbls ++ r) = lineKind r := by
  induction lbls with
  | nil => rfl
  | cons a as ih =>
    have h := List.forall_mem_cons.1 h
    rw [List.cons_append, lineKind_label h.1]
    exact ih h.2

theorem exists_labels (l : List Token) :
    ∃ lbls r, l = lbls ++ r ∧ (∀ x ∈ lbls, isLabelTok x = true) ∧
      l.dropWhile isLabelTok = r ∧ ∀ x ∈ r.head?, isLabelTok x = false := by
  induction l with
  | nil => exact ⟨[], [], rfl, fun _ h => (List.not_mem_nil h).elim, rfl, fun _ h => by cases h⟩
  | cons a as ih =>
    cases ha : isLabelTok a with
    | false =>
      exact ⟨[], a :: as, rfl, fun _ h => (List.not_mem_nil h).elim,
        List.dropWhile_cons_of_neg (ha ▸ Bool.false_ne_true), fun x hx => Option.some.inj hx ▸ ha⟩
    | true =>
      obtain ⟨lbls, r, rfl, hl, hd, hr⟩ := ih
      exact ⟨a :: lbls, r, rfl, fun x hx => (List.mem_cons.1 hx).elim (· ▸ ha) (hl x),
        (List.dropWhile_cons_of_pos ha).trans hd, hr⟩

theorem lineKind_cases (t : Token) (r : List Token) :
    (isLabelTok t = true ∧ lineKind (t :: r) = lineKind r) ∨
    (t.typ ≠ .text ∧ lineKind (t :: r) = .blank) ∨
    (t.typ = .text ∧ t.isOp = true ∧ t.isPseudoOp = false ∧ lineKind (t :: r) = .op) ∨
    (t.typ = .text ∧ t.isOp = true ∧ lowerStr t.val = "for" ∧ lineKind (t :: r) = .for_) ∨
    (t.typ = .text ∧ t.isOp = true ∧ lowerStr t.val = "rof" ∧ lineKind (t :: r) = .rof) ∨
    (t.typ = .text ∧ t.isOp = true ∧ t.isPseudoOp = true ∧ lowerStr t.val ≠ "for" ∧
      lowerStr t.val ≠ "rof" ∧ lineKind (t :: r) = .pseudo) := by
  by_cases h1 : t.typ = .text
  · cases hp : t.isPseudoOp with
    | true =>
      have hop := isOp_of_isPseudoOp h1 hp
      by_cases hf : lowerStr t.val = "for"
      · exact .inr (.inr (.inr (.inl ⟨h1, hop, hf, lineKind_for h1 hf⟩)))
      · by_cases hr : lowerStr t.val = "rof"
        · exact .inr (.inr (.inr (.inr (.inl ⟨h1, hop, hr, lineKind_rof h1 hr⟩))))
        · exact .inr (.inr (.inr (.inr (.inr ⟨h1, hop, rfl, hf, hr, lineKind_pseudo h1 hp hf hr⟩))))
    | false =>
      cases hop : t.isOp with
      | true => exact .inr (.inr (.inl ⟨h1, rfl, rfl, lineKind_op h1 hop hp⟩))
      | false =>
        have : isLabelTok t = true := isLabelTok_iff.2 ⟨h1, hp, hop⟩
        exact .inl ⟨this, lineKind_label this⟩
  · exact .inr (.inl ⟨h1, lineKind_nontext h1⟩)

theorem not_label_of_isOp {t : Token} (h : t.isOp = true) : isLabelTok t = false := by
  simp [isLabelTok, h]

theorem lineKind_head_text {l : List Token} (h : lineKind l ≠ .blank) :
    ∃ a as, l = a :: as ∧ a.typ = .text := by
  cases l with
  | nil => simp [lineKind] at h
  | cons a as =>
    exact ⟨a, as, rfl, Decidable.byContradiction fun h1 => h (lineKind_nontext h1)⟩

structure Line where
  toks : List Token
  nl : Token
  deriving Repr

def Line.flat (l : Line) : List Token := l.toks ++ [l.nl]

def Line.WF (l : Line) : Prop := l.nl.typ = .newline ∧ ∀ t ∈ l.toks, InLine t

def flat (ls : List Line) : List Token := ls.flatMap Line.flat

@[simp] theorem flat_nil : flat [] = [] := rfl
@[simp] theorem flat_cons (l : Line) (ls : List Line) : flat (l :: ls) = l.flat ++ flat ls := rfl
theorem flat_append (a b : List Line) : flat (a ++ b) = flat a ++ flat b := by
  simp [flat]

theorem flat_flatMap (is : List Nat) (L : Nat → List Line) :
    flat (is.flatMap L) = is.flatMap (fun j => flat (L j)) := by
  induction is with
  | nil => rfl
  | cons i r ih => simp [flat_append, ih]

theorem Line.WF.noTerm {l : Line} (h : l.WF) : ∀ t ∈ l.flat, t.isTerm = false :=
  List.forall_mem_append.2 ⟨fun t ht => (h.2 t ht).isTerm,
    List.forall_mem_singleton.2 ((isTerm_false_iff _).2 (by rw [h.1]; simp))⟩

theorem flat_noTerm {ls : List Line} (h : ∀ l ∈ ls, l.WF) : ∀ t ∈ flat ls, t.isTerm = false := by
  induction ls with
  | nil => intro t ht; cases ht
  | cons l ls ih =>
    obtain ⟨hl, hls⟩ := List.forall_mem_cons.1 h
    rw [flat_cons]
    exact List.forall_mem_append.2 ⟨hl.noTerm, ih hls⟩

def emits (o : Out) (l : List Token) : Out := l.foldl Out.emit o

@[simp] theorem emits_nil (o : Out) : emits o [] = o := rfl
@[simp] theorem emits_cons (o : Out) (t : Token) (l : List Token) :
    emits o (t :: l) = emits (o.emit t) l := rfl
theorem emits_append (o : Out) (a b : List Token) : emits o (a ++ b) = emits (emits o a) b := by
  simp [emits, List.foldl_append]
theorem emits_snoc (o : Out) (a : List Token) (t : Token) :
    emits o (a ++ [t]) = (emits o a).emit t := by
  simp [emits_append]

def labelToks (ls : List String) : List Token := ls.map (fun l => { typ := .text, val := l })

theorem emitLabels_eq (o : Out) (ls : List String) : o.emitLabels ls = emits o (labelToks ls) := by
  unfold Out.emitLabels emits labelToks
  rw [List.foldl_map]

theorem labelToks_vals {ls : List Token} (h : ∀ t ∈ ls, t.typ = .text) :
    labelToks (ls.map (·.val)) = ls := by
  induction ls with
  | nil => rfl
  | cons t r ih =>
    obtain ⟨ht, hr⟩ := List.forall_mem_cons.1 h
    obtain ⟨typ, val⟩ := t
    cases ht
    show _ :: labelToks (r.map (·.val)) = _
    rw [ih hr]

theorem labelToks_append (a b : List String) : labelToks (a ++ b) = labelToks a ++ labelToks b := by
  simp [labelToks]

theorem labelToks_noTerm (ls : List String) : ∀ t ∈ labelToks ls, t.isTerm = false := by
  intro t ht
  simp only [labelToks, List.mem_map] at ht
  obtain ⟨l, _, rfl⟩ := ht
  rfl

theorem emits_noTerm (o : Out) (l : List Token) (hd : o.done = false)
    (h : ∀ t ∈ l, t.isTerm = false) :
    emits o l = { o with toks := o.toks ++ l.toArray } := by
  induction l generalizing o with
  | nil => simp
  | cons t r ih =>
    have ht := List.forall_mem_cons.1 h
    have : o.emit t = { o with toks := o.toks.push t } := by simp [Out.emit, hd, ht.1]
    rw [emits_cons, this, ih _ (by exact hd) ht.2]
    simp

theorem received_append_term (l : List Token) (e : Token) (h : ∀ t ∈ l, t.isTerm = false)
    (he : e.isTerm = true) : received (l ++ [e]) = l ++ [e] := by
  induction l with
  | nil => simp [received, he]
  | cons t r ih =>
    have ht := List.forall_mem_cons.1 h
    simp [received, ht.1, ih ht.2]

end ForPass
end Gmars
