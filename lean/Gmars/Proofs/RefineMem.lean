/-
  The bookkeeping layer of the step refinement: the state predicate `St` that is threaded through
  one `exec`, and how `rd`, `upd`, `report`, `push` act on it, each as an `Ok` triple.
-/
import Gmars.Proofs.RefineArith
import Gmars.Proofs.Triple
import Gmars.Proofs.RefineStmt
import Gmars.Proofs.Queue

namespace Gmars

def Instr.Bd (M : Nat) (x : Instr) : Prop := x.a.toNat < M ∧ x.b.toNat < M

/-- the part of the invariant the arithmetic of one step depends on -/
structure Ctx (M R W : Nat) (s : Sim) : Prop where
  dim    : Dim M R W
  hm     : s.m.toNat = M
  hr     : s.readLimit.toNat = R
  hw     : s.writeLimit.toNat = W
  size   : s.mem.size = M
  fields : ∀ i (h : i < s.mem.size), (s.mem[i]).Bd M

theorem Frame.trans {s1 s2 s3 : Sim} {wi : Nat} (h12 : Frame s1 s2 wi) (h23 : Frame s2 s3 wi) :
    Frame s1 s3 wi where
  m := h23.m.trans h12.m
  maxProcs := h23.maxProcs.trans h12.maxProcs
  maxCycles := h23.maxCycles.trans h12.maxCycles
  readLimit := h23.readLimit.trans h12.readLimit
  writeLimit := h23.writeLimit.trans h12.writeLimit
  legacy := h23.legacy.trans h12.legacy
  size := h23.size.trans h12.size
  wsize := h23.wsize.trans h12.wsize
  others := fun j hj => (h23.others j hj).trans (h12.others j hj)
  same := by
    intro w w'' h1 h3
    have hlt : wi < s2.warriors.size := by
      rw [h12.wsize]
      exact (Array.getElem?_eq_some_iff.mp h1).1
    have h2 : s2.warriors[wi]? = some s2.warriors[wi] := Array.getElem?_eq_getElem hlt
    obtain ⟨a1, a2, a3⟩ := h12.same _ _ h1 h2
    obtain ⟨b1, b2, b3⟩ := h23.same _ _ h2 h3
    exact ⟨b1.trans a1, b2.trans a2, b3.trans a3⟩
  widx := h23.widx.trans h12.widx
  count := h23.count.trans h12.count
  living := h23.living.trans h12.living
  cycle := h23.cycle.trans h12.cycle
  log := by
    obtain ⟨n1, e1⟩ := h12.log
    obtain ⟨n2, e2⟩ := h23.log
    exact ⟨n1 ++ n2, by rw [e2, e1, List.append_assoc]⟩

theorem Frame.of_mem_log (s : Sim) (wi : Nat) (mem : Array Instr) (hsz : mem.size = s.mem.size)
    (new : List Report) :
    Frame s { s with mem := mem, log := s.log ++ new.toArray } wi where
  m := rfl
  maxProcs := rfl
  maxCycles := rfl
  readLimit := rfl
  writeLimit := rfl
  legacy := rfl
  size := hsz
  wsize := rfl
  others := fun _ _ => rfl
  same := fun w w' h h' => by
    have h'' : s.warriors[wi]? = some w' := h'
    rw [h] at h''; cases h''; exact ⟨rfl, rfl, rfl⟩
  widx := rfl
  count := rfl
  living := rfl
  cycle := rfl
  log := ⟨new, by simp⟩

theorem Frame.of_mem (s : Sim) (wi : Nat) (mem : Array Instr) (hsz : mem.size = s.mem.size) :
    Frame s { s with mem := mem } wi := by
  simpa using Frame.of_mem_log s wi mem hsz []

theorem Frame.refl (s : Sim) (wi : Nat) : Frame s s wi :=
  Frame.of_mem s wi s.mem rfl

theorem Frame.report (s : Sim) (wi : Nat) (r : Report) : Frame s (s.report r) wi := by
  have := Frame.of_mem_log s wi s.mem rfl [r]
  simpa [Sim.report] using this

theorem absCore_at (s : Sim) (i : Nat) (h : i < s.mem.size) : s.absCore.at i = (s.mem[i]).abs := by
  simp [Sim.absCore, Spec.Core.at, List.getD_eq_getElem?_getD, h]

theorem absCore_report (s : Sim) (r : Report) : (s.report r).absCore = s.absCore := rfl

theorem pqOf_report (s : Sim) (r : Report) (wi : Nat) : (s.report r).pqOf wi = s.pqOf wi := rfl

theorem Ctx.report {M R W : Nat} {s : Sim} (h : Ctx M R W s) (r : Report) : Ctx M R W (s.report r) :=
  { h with }

theorem Ctx.rd {M R W : Nat} {s : Sim} (h : Ctx M R W s) (i : UInt64) (hi : i.toNat < M) :
    Ok (s.rd i) (fun x => x.abs = s.absCore.at i.toNat ∧ x.Bd M) := by
  have hlt : i.toNat < s.mem.size := by rw [h.size]; exact hi
  refine ⟨s.mem[i.toNat], ?_, (absCore_at s _ hlt).symm, h.fields _ hlt⟩
  simp [Sim.rd, hlt]

/-- What a task needs of the state it starts in. Weaker than `Sim.WF`: `RunCycle` calls `exec`
    just after the task has been popped, when an alive warrior may momentarily have an empty queue. -/
structure ExecPre (s : Sim) (wi : Nat) (q : PQ) : Prop where
  size   : s.mem.size = s.m.toNat
  m3     : 3 ≤ s.m.toNat
  rl     : 1 ≤ s.readLimit.toNat
  wl     : 1 ≤ s.writeLimit.toNat
  fields : s.FieldsOK
  pq     : s.pqOf wi = some q
  qinv   : q.Inv
  qent   : ∀ a ∈ q.toList, a < s.m

/-- the bounds of C01: no product of two fields wraps in `uint64`, the limits lie within the core -/
structure Sim.Bounds (s : Sim) : Prop where
  m32 : s.m.toNat ≤ 2 ^ 32
  rl  : s.readLimit.toNat ≤ s.m.toNat
  wl  : s.writeLimit.toNat ≤ s.m.toNat

/-- `s` is an intermediate state of the task started in `s0`: its core reads as `c`,
    the queue of warrior `wi` reads as `ql`, everything else is as in `s0`. -/
structure St (M R W : Nat) (s0 : Sim) (wi : Nat) (P : UInt64) (s : Sim) (c : Spec.Core)
    (ql : List Nat) : Prop where
  ctx   : Ctx M R W s
  core  : s.absCore = c
  pq    : ∃ q, s.pqOf wi = some q ∧ q.Inv ∧ q.size = P ∧ q.toList.map (·.toNat) = ql
  frame : Frame s0 s wi

section St
variable {M R W : Nat} {s0 s : Sim} {wi : Nat} {P : UInt64} {c : Spec.Core} {ql : List Nat}

theorem St.length (h : St M R W s0 wi P s c ql) : c.length = M := by
  simp [← h.core, Sim.absCore, h.ctx.size]

theorem St.report (h : St M R W s0 wi P s c ql) (r : Report) :
    St M R W s0 wi P (s.report r) c ql :=
  ⟨h.ctx.report r, h.core, h.pq, h.frame.trans (Frame.report s wi r)⟩

theorem St.rd (h : St M R W s0 wi P s c ql) (i : UInt64) (hi : i.toNat < M) :
    Ok (s.rd i) (fun x => x.abs = c.at i.toNat ∧ x.Bd M) := by
  have := h.ctx.rd i hi
  rwa [h.core] at this

theorem St.upd (h : St M R W s0 wi P s c ql) (i : UInt64) (hi : i.toNat < M)
    (f : Instr → Instr) (g : SInstr → SInstr)
    (hfg : ∀ x : Instr, x.Bd M → (f x).abs = g x.abs ∧ (f x).Bd M) :
    Ok (s.upd i f) (fun s' => St M R W s0 wi P s' (c.set i.toNat (g (c.at i.toNat))) ql) := by
  have hlt : i.toNat < s.mem.size := by rw [h.ctx.size]; exact hi
  obtain ⟨hfa, hfb⟩ := hfg _ (h.ctx.fields _ hlt)
  refine ⟨{ s with mem := s.mem.set i.toNat (f s.mem[i.toNat]) hlt }, ?_, ?_, ?_, h.pq, ?_⟩
  · simp [Sim.upd, hlt]
  · refine ⟨h.ctx.dim, h.ctx.hm, h.ctx.hr, h.ctx.hw, ?_, ?_⟩
    · simp [h.ctx.size]
    · intro j hj
      simp only [Array.size_set] at hj
      simp only [Array.getElem_set]
      split
      · exact hfb
      · exact h.ctx.fields j hj
  · rw [← h.core, absCore_at s _ hlt, ← hfa]
    simp [Sim.absCore, List.map_set]
  · exact h.frame.trans (Frame.of_mem s wi _ (Array.size_set hlt))

end St


section Push
variable {M R W : Nat} {s0 s : Sim} {wi : Nat} {P : UInt64} {c : Spec.Core} {ql : List Nat}

theorem pqOf_some {s : Sim} {wi : Nat} {q : PQ} (h : s.pqOf wi = some q) :
    ∃ hlt : wi < s.warriors.size, (s.warriors[wi]).pq = some q := by
  obtain ⟨w, hw, hq⟩ := Option.bind_eq_some_iff.mp h
  obtain ⟨hlt, rfl⟩ := Array.getElem?_eq_some_iff.mp hw
  exact ⟨hlt, hq⟩

theorem Sim.pqOf_warriorOK {s : Sim} {wi : Nat} {q : PQ} (hwf : s.WF) (hq : s.pqOf wi = some q) :
    q.Inv ∧ q.size = s.maxProcs ∧ (∀ a ∈ q.toList, a < s.m) := by
  obtain ⟨hlt, hpq⟩ := pqOf_some hq
  have h := (hwf.warriors wi hlt).2
  rw [hpq] at h
  exact ⟨h.1, h.2.1, h.2.2.1⟩

theorem ExecPre.of_wf {s : Sim} {wi : Nat} {q : PQ} (hwf : s.WF) (hq : s.pqOf wi = some q) :
    ExecPre s wi q :=
  ⟨hwf.size, hwf.m3, hwf.rl, hwf.wl, hwf.fields, hq, (Sim.pqOf_warriorOK hwf hq).1,
    (Sim.pqOf_warriorOK hwf hq).2.2⟩

theorem pqOf_setPq (s : Sim) (wi : Nat) (hlt : wi < s.warriors.size) (q' : PQ) :
    Sim.pqOf { s with warriors := s.warriors.set wi { s.warriors[wi] with pq := some q' } hlt } wi =
      some q' := by
  simp [Sim.pqOf]

theorem Frame.setPq (s : Sim) (wi : Nat) (hlt : wi < s.warriors.size) (q' : PQ) :
    Frame s { s with warriors := s.warriors.set wi { s.warriors[wi] with pq := some q' } hlt } wi where
  m := rfl
  maxProcs := rfl
  maxCycles := rfl
  readLimit := rfl
  writeLimit := rfl
  legacy := rfl
  size := rfl
  wsize := by simp
  others := fun j hj => by
    show (s.warriors.set wi _ hlt)[j]? = _
    rw [Array.getElem?_set_ne hlt (Ne.symm hj)]
  same := fun w w' h h' => by
    have h'' : (s.warriors.set wi { s.warriors[wi] with pq := some q' } hlt)[wi]? = some w' := h'
    rw [Array.getElem?_set_self hlt] at h''
    obtain ⟨_, rfl⟩ := Array.getElem?_eq_some_iff.mp h
    cases h''
    exact ⟨rfl, rfl, rfl⟩
  widx := rfl
  count := rfl
  living := rfl
  cycle := rfl
  log := ⟨[], by simp⟩

theorem Frame.warriors_eq {s s' : Sim} {wi : Nat} {q' : PQ} (hf : Frame s s' wi)
    (hlt : wi < s.warriors.size) (hq : s'.pqOf wi = some q') :
    s'.warriors = s.warriors.set wi { s.warriors[wi] with pq := some q' } hlt := by
  apply Array.ext_getElem?
  intro j
  rw [Array.getElem?_set]
  split
  · rename_i hj; subst hj
    obtain ⟨hlt', hpq⟩ := pqOf_some hq
    obtain ⟨hd, hi, hs⟩ := hf.same _ _ (Array.getElem?_eq_getElem hlt)
      (Array.getElem?_eq_getElem hlt')
    rw [Array.getElem?_eq_getElem hlt']
    congr 1
    generalize s'.warriors[wi] = w' at hd hi hs hpq
    obtain ⟨d, ix, p, st⟩ := w'
    simp only at hd hi hs hpq
    subst hd hi hs hpq
    rfl
  · exact hf.others j (by omega)

theorem St.push (h : St M R W s0 wi P s c ql) (a : UInt64) :
    Ok (s.push wi a) (fun s' => St M R W s0 wi P s' c (Spec.enqueue P.toNat ql [a.toNat])) := by
  obtain ⟨q, hq, hinv, hsz, hl⟩ := h.pq
  obtain ⟨hlt, hwq⟩ := pqOf_some hq
  obtain ⟨q', hp, hinv', hsz', hl'⟩ := PQ.push_ok q a hinv
  refine ⟨{ s with warriors := s.warriors.set wi { s.warriors[wi] with pq := some q' } hlt },
    ?_, { h.ctx with }, h.core, ?_, h.frame.trans (Frame.setPq s wi hlt q')⟩
  · simp only [Sim.push, hlt, ↓reduceDIte, hwq, hp]
    rfl
  · refine ⟨q', ?_, hinv', hsz'.trans hsz, ?_⟩
    · exact pqOf_setPq s wi hlt q'
    · rw [hl', ← hl, ← hsz]
      show _ = if (q.toList.map (·.toNat)).length < q.size.toNat then _ else _
      rw [List.length_map]
      split <;> simp

theorem St.pushNext (h : St M R W s0 wi P s c ql) (a : UInt64) :
    Ok (s.pushNext wi a) (fun s' => St M R W s0 wi P s' c (Spec.enqueue P.toNat ql [a.toNat])) :=
  (h.report _).push a

end Push

end Gmars
