/-
  C03 / C06, labels on the END line, programs with labels (no EQUs): `compile_meaning_labels_tail`.
  The program is read as a program with EQUs (`LItem.toX`); the theorem is
  `compile_meaning_equ_tail` for it.
-/
import Gmars.Proofs.AsmTailEqu
import Gmars.Proofs.AsmLabels

namespace Gmars.AsmLine
open Gmars.Compile

def tailLabels (body : List LItem) (tail : List String) : List (String × Nat) :=
  labelsFrom 0 body ++ tail.map (fun l => (l, linstrCount body))

/-- the END line as the parser records it: the labels in front of `end` are its `labels` -/
def endLineT (kw : String) (e : Option NT) (tail : List String) : SourceLine :=
  { (LItem.end_ kw e).toLine 0 with labels := tail }

def lrenderT (body : List LItem) (kw : String) (e : Option NT) (tail : List String) : List SourceLine :=
  lrender 0 body ++ [endLineT kw e tail]

theorem xrenderT_toX (body : List LItem) (kw : String) (e : Option NT) (tail : List String) :
    xrenderT (body.map LItem.toX) kw (e.map NT.etoks) tail = lrenderT body kw e tail := by
  unfold xrenderT lrenderT xendLineT endLineT
  rw [xrender_toX, ← LItem.toLine_toX]
  rfl

theorem xtailLabels_toX (body : List LItem) (tail : List String) :
    xtailLabels (body.map LItem.toX) tail = tailLabels body tail := by
  unfold xtailLabels tailLabels
  rw [xlabelsFrom_toX, xinstrCount_toX]

theorem compileX_meaning_labels_tail (lexTokens : String → List Token) (cfg : Config) (sc : Spec.Cfg)
    (body : List LItem) (kw : String) (e : Option NT) (tail : List String) (ameta : AsmMeta)
    (hv : cfg.validate = true) (h63 : cfg.coreSize.toNat < 2 ^ 63) (hr : CfgRel cfg sc)
    (hnd : ((labelsFrom 0 body).map (·.1) ++ tail ++ constNames).Nodup)
    (hsmall : linstrCount body < 2 ^ 63)
    (hw : ProgWF sc.M (tailLabels body tail) 0 (body ++ [LItem.end_ kw e])) :
    compileX lexTokens cfg (lrenderT body kw e tail) ameta =
      optM ((Spec.meaningFlatT sc ((body ++ [LItem.end_ kw e]).map LItem.toItem) tail).map (toWD ameta)) := by
  have happ : body.map LItem.toX ++ [XItem.end_ kw (e.map NT.etoks)] =
      (body ++ [LItem.end_ kw e]).map LItem.toX := by
    rw [List.map_append]; rfl
  have ht : xtablesT sc (body.map LItem.toX) kw (e.map NT.etoks) tail =
      ⟨tailLabels body tail, Spec.predefined sc⟩ := by
    unfold xtablesT xtablesS
    rw [xtailLabels_toX, happ, xequs_toX]
    rfl
  have := compileX_meaning_equ_tail lexTokens cfg sc (body.map LItem.toX) kw (e.map NT.etoks) tail ameta
    (fun _ => 0) hv h63 hr (by rw [xlabelsFrom_toX, xequs_toX]; simpa using hnd)
    (by rw [xinstrCount_toX]; exact hsmall) (by rw [xequs_toX]; exact predefined_ranked sc)
    (fun _ => by omega) (by rw [ht, happ]; exact ProgWF.toX rfl _ 0 hw)
  rwa [xrenderT_toX, happ, toItem_toX] at this

/-- `compile_meaning_labels` for programs whose last line is `l1 l2 … END [e]`.  The labels of
    `tail` stand for the address just after the code, `linstrCount body`, in every operand and in
    ORG / END arguments (`tailLabels`). -/
theorem compile_meaning_labels_tail (lexTokens : String → List Token) (cfg : Config) (sc : Spec.Cfg)
    (body : List LItem) (kw : String) (e : Option NT) (tail : List String) (ameta : AsmMeta)
    (hv : cfg.validate = true) (h63 : cfg.coreSize.toNat < 2 ^ 63) (hr : CfgRel cfg sc)
    (hnd : ((labelsFrom 0 body).map (·.1) ++ tail ++ constNames).Nodup)
    (hsmall : linstrCount body < 2 ^ 63)
    (hw : ProgWF sc.M (tailLabels body tail) 0 (body ++ [LItem.end_ kw e])) :
    compile lexTokens cfg (lrenderT body kw e tail) ameta =
      .ok ((Spec.meaningFlatT sc ((body ++ [LItem.end_ kw e]).map LItem.toItem) tail).map (toWD ameta)) :=
  compile_of_compileX
    (compileX_meaning_labels_tail lexTokens cfg sc body kw e tail ameta hv h63 hr hnd hsmall hw)

theorem compile_meaning_labels_tail_modelled (lexTokens : String → List Token) (cfg : Config)
    (sc : Spec.Cfg) (body : List LItem) (kw : String) (e : Option NT) (tail : List String)
    (ameta : AsmMeta)
    (hv : cfg.validate = true) (h63 : cfg.coreSize.toNat < 2 ^ 63) (hr : CfgRel cfg sc)
    (hnd : ((labelsFrom 0 body).map (·.1) ++ tail ++ constNames).Nodup)
    (hsmall : linstrCount body < 2 ^ 63)
    (hw : ProgWF sc.M (tailLabels body tail) 0 (body ++ [LItem.end_ kw e])) :
    compileUnmodelled lexTokens cfg (lrenderT body kw e tail) ameta = false :=
  compileUnmodelled_of_compileX
    (compileX_meaning_labels_tail lexTokens cfg sc body kw e tail ameta hv h63 hr hnd hsmall hw)

end Gmars.AsmLine
