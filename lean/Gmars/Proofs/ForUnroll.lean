/-
  C08 "FOR/ROF blocks assemble exactly like their manual unrolling": whole programs.

  `for_unroll_full`: if the manual unrolling (`FullUnroll`, ForUnrollDefs.lean) of a structured
  program takes at most 12 block expansions, the pass loop of `CompileWarrior` returns exactly the
  token list of the unrolled program. It is the case without EQUs and with literal counts of
  `AsmComposeAll.for_unroll_all`. A worked example follows.
-/
import Gmars.Proofs.ForPassLoop

namespace Gmars
namespace ForPass

open ExprProofs AsmComposeAll

theorem for_unroll_full (p : Prog) (ls : List Line) (k : Nat) (h : FullUnroll p ls k)
    (hk : k ≤ 12) :
    forLoop 14 0 (flat p.render ++ [eofTok]) = .ok (flat ls ++ [eofTok]) := by
  have := for_unroll_all _ _ k (gunroll_of_fullUnroll h) [] (fun _ h => by cases h) tail_nil_scan
  rwa [progToks_embed, if_pos hk, List.append_nil, List.append_nil] at this

theorem Unrolls.prefix {k : Nat} {ts out : List Token} (h : Unrolls k ts out) :
    ∀ j, j < k → ∃ mid ts', Steps j ts mid ∧ UnrollStep mid ts' := by
  induction h with
  | done ts syms _ => intro j hj; omega
  | @step k ts ts1 out hstep _ ih =>
    intro j hj
    cases j with
    | zero => exact ⟨ts, ts1, Steps.refl ts, hstep⟩
    | succ j =>
      obtain ⟨mid, ts', hs, hl⟩ := ih j (by omega)
      exact ⟨mid, ts', Steps.step hstep hs, hl⟩

/-! a worked example (the derivation of `FullUnroll` is written out, its side conditions are decided)

      i for 2
      mov i, 1
      rof
      nop
-/

section Example

private def nlT : Token := ⟨.newline, ""⟩
private def tx (s : String) : Token := ⟨.text, s⟩
private def movLine (a : Token) : Line := ⟨[tx "mov", a, ⟨.comma, ","⟩, numTok 1], nlT⟩
private def nopLine : Line := ⟨[tx "nop"], nlT⟩
private def rofLine : Line := ⟨[tx "rof"], nlT⟩
private def prog1 : Prog :=
  .block (tx "i") (tx "for") (numTok 2) nlT (.line (movLine (tx "i")) .nil) rofLine
    (.line nopLine .nil)

private theorem simple_nop : SimpleLine nopLine :=
  ⟨⟨rfl, by decide⟩, tx "nop", [], rfl, rfl, by decide, by decide⟩

private theorem simple_mov (a : Token) (h : InLine a) : SimpleLine (movLine a) := by
  refine ⟨⟨rfl, ?_⟩, tx "mov", _, rfl, rfl, by decide, by decide⟩
  exact List.forall_mem_cons.2 ⟨by decide, List.forall_mem_cons.2 ⟨h, by decide⟩⟩

private theorem full_prog1 :
    FullUnroll prog1 [movLine (numTok 1), movLine (numTok 2), nopLine] 1 :=
  FullUnroll.block (c := tx "i") (f := tx "for") (nl := nlT)
    (body := .line (movLine (tx "i")) .nil) (rof := rofLine) (r := .line nopLine .nil)
    (ls := [nopLine]) (k := 0)
    2 (fun i => [movLine (numTok (i + 1))]) (fun _ => 0)
    (by decide) (by decide) ⟨⟨rfl, by decide⟩, tx "rof", [], rfl, rfl, by decide⟩
    ⟨simple_mov _ (by decide), trivial⟩
    (by
      intro i _
      have : (Prog.line (movLine (tx "i")) .nil).subst (tx "i").val (i + 1) =
          .line (movLine (numTok (i + 1))) .nil := by
        simp [Prog.subst, Line.subst, movLine, substC, tx, numTok, nlT]
      rw [this]
      exact FullUnroll.line (simple_mov _ (by simp [InLine, numTok])) FullUnroll.nil)
    (FullUnroll.line simple_nop FullUnroll.nil)

example : forLoop 14 0 (flat prog1.render ++ [eofTok]) =
    .ok (flat [movLine (numTok 1), movLine (numTok 2), nopLine] ++ [eofTok]) :=
  for_unroll_full prog1 _ 1 full_prog1 (by decide)

end Example

end ForPass
end Gmars
