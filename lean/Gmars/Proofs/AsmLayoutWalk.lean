/-
  C09, assembler half, layout perturbations: the parser on the lines of a printed load file, walked
  with `Lines` / `Final` (ParserWalk), and what the compiler reads of its result.

  The lines declare no label, refer to no name and carry no metadata; at every line start the parser's
  context is described by the label program the compiler will read of the lines parsed so far
  (`Seen c a`).  Every kind of line (`FLine`) is one `Lines` kind of ParserWalk; a white-space-only
  line is one more blank line of the line in front of it, which is why the walk goes from the last
  line to the first (`walk`: the tokens are `k` newlines and whole lines).
-/
import Gmars.Proofs.AsmLayoutLex

namespace Gmars
namespace AsmLayout
open Gmars.Render Gmars.AsmCompose Gmars.AsmLine Gmars.ExprProofs Gmars.Parser Gmars.AsmPrint
open Gmars.AsmCompose (XItem)

def mkOperand (m : Mode) (n : Nat) : Operand :=
  { mode := some (String.singleton m.sym), toks := [numTok n] }

def mkStmt (op : String) (md : Option String) (i : Instr) (k : Nat) : Stmt :=
  { labels := [], op := AsmLine.opString op md, a := mkOperand i.am i.a.toNat,
    b := some (mkOperand i.bm i.b.toNat), blanks := k }

def plainCmt (v : String) : Bool :=
  !(";name".toList.isPrefixOf v.toList) && !(";author".toList.isPrefixOf v.toList) &&
    !(";strategy".toList.isPrefixOf v.toList) && !(";assert".toList.isPrefixOf v.toList)

theorem captureMeta_plain {v : String} (h : plainCmt v = true) (m : AsmMeta) : captureMeta m v = m := by
  simp only [plainCmt, Bool.and_eq_true, Bool.not_eq_true'] at h
  obtain ⟨⟨⟨h1, h2⟩, h3⟩, _⟩ := h
  simp only [captureMeta, h1, h2, h3, Bool.false_eq_true, if_false]

theorem assert_plain {v : String} (h : plainCmt v = true) :
    Compile.assertPrefix.isPrefixOf v.toList = false := by
  simp only [plainCmt, Bool.and_eq_true, Bool.not_eq_true'] at h
  exact h.2

/-- `e`: the line is the last one; only there may the directive be an END -/
def FLine.OK (e : Bool) : FLine → Prop
  | .blank => True
  | .cmt v => plainCmt v = true
  | .instr op md _ _ => IsOpName (opString op md)
  | .dir kw _ _ => lowerStr kw = "org" ∨ (e = true ∧ lowerStr kw = "end")

def FLine.litems : FLine → List LItem
  | .instr op md i _ => [LIof op md i]
  | .dir kw n _ => [if lowerStr kw = "end" then .end_ kw (some (.num n)) else .org kw (.num n)]
  | _ => []

theorem FLine.OK.last {l : FLine} (h : l.OK false) : l.OK true := by
  cases l <;> first | exact h | exact .inl (h.resolve_right (by simp))

def flItems (ls : List FLine) : List LItem := ls.flatMap FLine.litems

theorem flItems_nil : flItems [] = [] := rfl

theorem flItems_cons (l : FLine) (r : List FLine) : flItems (l :: r) = l.litems ++ flItems r :=
  List.flatMap_cons

theorem flItems_append (a b : List FLine) : flItems (a ++ b) = flItems a ++ flItems b :=
  List.flatMap_append

theorem numTok_exprTerm (n : Nat) : (numTok n).isExpressionTerm = true := rfl

theorem numTok_terms (n : Nat) : ∀ t ∈ [numTok n], t.isExpressionTerm = true :=
  List.forall_mem_singleton.2 rfl

theorem modeStr_mem (m : Mode) : String.singleton m.sym ∈ modeStrs := by
  show _ ∈ modeChars.map String.singleton
  exact List.mem_map_of_mem (mem_modeChars m)

theorem mkOperand_ok (strict : Bool) (m : Mode) (n : Nat) : (mkOperand m n).OK strict :=
  ⟨numTok_terms n, numTok n, [], rfl, modeStr_mem m⟩

theorem mkStmt_ok {op : String} {md : Option String} (h : IsOpName (opString op md)) (i : Instr)
    (k : Nat) : (mkStmt op md i k).OK := by
  refine ⟨nofun, h, mkOperand_ok true _ _, ?_⟩
  intro b hb
  cases hb
  exact mkOperand_ok false _ _

theorem addRefs_num (n : Nat) (refs : List String) : addRefs [numTok n] refs = refs := rfl

theorem mkStmt_refs (op : String) (md : Option String) (i : Instr) (k : Nat) (refs : List String) :
    (mkStmt op md i k).refs refs = refs := rfl

theorem norm_strip_blankLines (ln : Int) (k : Nat) : norm ((blankLines ln k).map strip) = [] := by
  unfold blankLines
  split <;> rfl

/-- the parser at a line start; `lines`: the compiler reads the label program `a` of what was
    parsed -/
structure Seen (c : Ctx) (a : List LItem) : Prop where
  symbols : c.symbols = predefined
  references : c.references = []
  metadata : c.metadata = {}
  codeLine : c.codeLine = ((linstrCount a : Nat) : Int)
  lines : norm (c.lines.map strip) = norm (lrender 0 a)

theorem Seen.add {c c' : Ctx} {a : List LItem} (h : Seen c a) (b : List LItem) (new : List SourceLine)
    (hs : c'.symbols = c.symbols) (hr : c'.references = c.references) (hm : c'.metadata = c.metadata)
    (hc : c'.codeLine = c.codeLine + ((linstrCount b : Nat) : Int)) (hl : c'.lines = c.lines ++ new)
    (hn : norm (new.map strip) = norm (lrender (linstrCount a) b)) : Seen c' (a ++ b) where
  symbols := hs.trans h.symbols
  references := hr.trans h.references
  metadata := hm.trans h.metadata
  codeLine := by
    rw [hc, h.codeLine, ← Int.natCast_add]
    simp only [linstrCount, List.filter_append, List.length_append]
  lines := by rw [hl, List.map_append, norm_append, h.lines, hn, lrender_append, norm_append, Nat.zero_add]

theorem norm_strip_line (l : SourceLine) (hl : relevant (strip l) = true) (ln : Int) (k : Nat) :
    norm ((l :: blankLines ln k).map strip) = [core (strip l)] := by
  rw [List.map_cons, norm_cons_relevant _ _ hl, norm_strip_blankLines]

theorem norm_strip_cmt (l : SourceLine) (ht : l.typ = .comment) (h : plainCmt l.comment = true) (ln : Int)
    (k : Nat) : norm ((l :: blankLines ln k).map strip) = [] := by
  rw [List.map_cons, norm_cons_irrelevant _ _ (by
    simp only [relevant, strip, ht, beq_self_eq_true, if_true]
    rw [assert_plain h]; rfl), norm_strip_blankLines]

theorem walk (ls : List FLine) (h : ∀ l ∈ ls, l.OK false) :
    ∃ k T, flTokens ls = List.replicate k nlTok ++ T ∧
      ∀ c a, Seen c a → ∃ c', Lines T c c' ∧ Seen c' (a ++ flItems ls) := by
  induction ls with
  | nil => exact ⟨0, [], rfl, fun c a hc => ⟨c, .nil c, by rwa [flItems_nil, List.append_nil]⟩⟩
  | cons l r ih =>
    obtain ⟨k, T, hT, ihr⟩ := ih (fun x hx => h x (List.mem_cons_of_mem _ hx))
    have hl := h l (List.mem_cons_self ..)
    -- a line that is not blank, with the `k` blank lines after it (tokens `X`), in front of `T`
    have step : ∀ X : List Token, l.tokens0 ++ nlTok :: List.replicate k nlTok = X →
        (∀ c a, Seen c a → ∃ c1, Lines X c c1 ∧ Seen c1 (a ++ l.litems)) →
        ∃ k' T', flTokens (l :: r) = List.replicate k' nlTok ++ T' ∧
          ∀ c a, Seen c a → ∃ c', Lines T' c c' ∧ Seen c' (a ++ flItems (l :: r)) := by
      rintro X rfl hX
      refine ⟨0, (l.tokens0 ++ nlTok :: List.replicate k nlTok) ++ T,
        by simp [flTokens, FLine.tokens, hT], fun c a hc => ?_⟩
      obtain ⟨c1, h1, s1⟩ := hX c a hc
      obtain ⟨c', h2, s2⟩ := ihr c1 _ s1
      exact ⟨c', h1.append h2, by rwa [flItems_cons, ← List.append_assoc]⟩
    cases l with
    | blank => exact ⟨k + 1, T, by simp [flTokens, FLine.tokens, FLine.tokens0, hT, List.replicate_succ], ihr⟩
    | cmt v =>
      refine step _ rfl fun c a hc => ⟨_, lines_comment v k c, ?_⟩
      exact hc.add [] _ rfl rfl (captureMeta_plain hl _) (Int.add_zero _).symm rfl
        (norm_strip_cmt (commentLine c.line v) rfl hl _ _)
    | instr op md i cm =>
      refine step (stmtTokens (mkStmt op md i k) cm) (by
        simp [FLine.tokens0, stmtTokens, mkStmt, mkOperand, Operand.tokens, Stmt.bTokens, labelTokens,
          instrToks, modeTok]) fun c a hc => ⟨_, lines_stmt _ (mkStmt_ok hl i k) cm c trivial, ?_⟩
      exact hc.add [LIof op md i] _ rfl rfl rfl rfl rfl (by rw [hc.codeLine]; exact norm_strip_line _ rfl _ _)
    | dir kw n cm =>
      have hk := hl.resolve_right (by simp)
      refine step _ rfl fun c a hc => ⟨_, lines_pseudo ⟨[], kw, [numTok n], cm⟩
        ⟨nofun, isPseudoOp_of_lower hk (.inl rfl), numTok_terms n⟩ (by rw [hk]; decide) (List.cons_ne_nil _ _) k c
        trivial, ?_⟩
      rw [FLine.litems, if_neg (by rw [hk]; decide)]
      exact hc.add [.org kw (.num n)] _ rfl rfl rfl (Int.add_zero _).symm rfl
        (by exact norm_strip_line _ rfl _ _)

theorem parseCompile_lines (cfg : Config) (ls : List FLine) (hOK : ∀ l ∈ ls, l.OK false) (E : List Token)
    (b : List LItem) (hE : ∀ c a, Seen c a → ∃ c', Final E c c' ∧ Seen c' (a ++ b))
    (r : Option WarriorData)
    (hc : Compile.compileX lexString cfg (lrender 0 (flItems ls ++ b)) {} = Compile.optM r) :
    parseCompile cfg (flTokens ls ++ E) = resOf r := by
  obtain ⟨k, T, hT, hw⟩ := walk ls hOK
  obtain ⟨c1, h1, s1⟩ := hw { line := 1 + k, lines := blankLines 1 k } []
    ⟨rfl, rfl, rfl, rfl, norm_strip_blankLines 1 k⟩
  obtain ⟨c2, h2, s2⟩ := hE c1 _ s1
  have hp := parse_of_lines k h1 h2 (by rw [s2.references]; nofun)
  rw [s2.metadata, ← List.append_assoc, ← hT] at hp
  exact parseCompile_of cfg _ _ _ hp r (by rw [← hc]; exact compileX_congr_strip _ _ _ _ _ s2.lines)

theorem final_last (last : FLine) (hl : last.OK true) (c : Ctx) (a : List LItem) (hc : Seen c a) :
    ∃ c', Final (last.tokens0 ++ [eofTok]) c c' ∧ Seen c' (a ++ last.litems) := by
  cases last with
  | blank => exact ⟨c, final_eof c, (List.append_nil a).symm ▸ hc⟩
  | cmt v =>
    refine ⟨_, final_cmtU v c, ?_⟩
    exact hc.add [] _ rfl rfl (captureMeta_plain hl _) (Int.add_zero _).symm rfl
      (norm_strip_cmt { line := c.line, typ := .comment, comment := v } rfl hl 0 0)
  | instr op md i cm =>
    refine ⟨_, (final_stmtU (mkStmt op md i 0) (mkStmt_ok hl i 0) cm c trivial).eq (by
      simp [FLine.tokens0, mkStmt, mkOperand, Operand.tokens, Stmt.bTokens, labelTokens, instrToks,
        modeTok]) rfl, ?_⟩
    exact hc.add [LIof op md i] _ rfl rfl rfl rfl rfl
      (by rw [hc.codeLine]; exact norm_strip_line _ rfl 0 0)
  | dir kw n cm =>
    refine ⟨_, final_pseudoU ⟨[], kw, [numTok n], cm⟩ ⟨nofun, hl.elim (isPseudoOp_of_lower · (.inl rfl))
      (isPseudoOp_of_lower ·.2 (.inr rfl)), numTok_terms n⟩ (List.cons_ne_nil _ _) c trivial, ?_⟩
    rw [FLine.litems]
    split <;> exact hc.add _ _ rfl rfl rfl (Int.add_zero _).symm rfl (by exact norm_strip_line _ rfl 0 0)

/-- the terminated END line: what follows it is not read -/
theorem final_end_line (kw : String) (hk : lowerStr kw = "end") (n : Nat) (cm : Option String)
    (trail : List Token) (htr : trail ≠ []) (c : Ctx) (a : List LItem) (hc : Seen c a) :
    ∃ c', Final ((FLine.dir kw n cm).tokens ++ trail) c c' ∧ Seen c' (a ++ (FLine.dir kw n cm).litems) := by
  refine ⟨_, (final_end ⟨[], kw, [numTok n], cm⟩ ⟨nofun, isPseudoOp_of_lower hk (.inr rfl), numTok_terms n⟩ hk
    (fun _ => List.cons_ne_nil _ _) trail htr c trivial).eq
    (by simp [PLine.tokens, FLine.tokens, FLine.tokens0, labelTokens]) rfl, ?_⟩
  rw [FLine.litems, if_pos hk]
  exact hc.add [.end_ kw (some (.num n))] _ rfl rfl rfl (Int.add_zero _).symm rfl
    (by exact norm_strip_line _ rfl 0 0)

end AsmLayout
end Gmars
