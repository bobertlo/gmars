/-
  The parser-level well-formedness `p.toP.OK` of a source program `EProg` from conditions on its
  names.
-/
import Gmars.Proofs.AsmComposeEquBridge

namespace Gmars
namespace AsmComposeEqu
open Gmars.Render Gmars.AsmLine Gmars.AsmCompose

def enames (e : List Spec.ETok) : List String :=
  e.filterMap (fun t => match t with | .name s => some s | _ => none)

theorem tokNames_toksOf (e : List Spec.ETok) : tokNames (toksOf e) = enames e := by
  induction e with
  | nil => rfl
  | cons t r ih =>
    -- only a name becomes a text token
    cases t with
    | name s => exact congrArg (s :: ·) ih
    | _ => exact ih

/-- `.assert`: the parser does not read `;assert` lines -/
def XItemNames : AsmLine.XItem → List String
  | .instr _ _ _ a b => enames a.expr ++ (match b with | some bo => enames bo.expr | none => [])
  | .equ _ _ e => enames e
  | .org _ e => enames e
  | .end_ _ e => match e with | some x => enames x | none => []
  | .assert _ _ => []

def xlabelNames : List AsmLine.XItem → List String
  | [] => []
  | .instr ls _ _ _ _ :: r => ls ++ xlabelNames r
  | .equ _ _ _ :: r => xlabelNames r
  | .org _ _ :: r => xlabelNames r
  | .end_ _ _ :: r => xlabelNames r
  | .assert _ _ :: r => xlabelNames r

theorem xlabelsFrom_names (prog : List AsmLine.XItem) :
    ∀ k, (xlabelsFrom k prog).map (·.1) = xlabelNames prog := by
  induction prog with
  | nil => intro k; rfl
  | cons it r ih =>
    intro k
    cases it with
    | instr ls op md a b =>
      simp only [xlabelsFrom, xlabelNames, List.map_append, List.map_map, ih]
      exact congrArg (· ++ _) (List.map_id ls)
    | _ => exact ih k

theorem xlabelNames_append (a b : List AsmLine.XItem) :
    xlabelNames (a ++ b) = xlabelNames a ++ xlabelNames b := by
  induction a with
  | nil => rfl
  | cons it r ih => cases it <;> simp [xlabelNames, ih]

def EProg.labels (p : EProg) : List String := (xlabelsFrom 0 p.xitems).map (·.1)

def EProg.equNames (p : EProg) : List String := (xequs p.xitems).map (·.1)

def EProg.names (p : EProg) : List String := p.xitems.flatMap XItemNames

theorem EProg.finX_labels (p : EProg) : xlabelNames p.finX = [] := by
  unfold EProg.finX
  cases p.fin <;> rfl

theorem EProg.finX_equs (p : EProg) : xequs p.finX = [] := by
  unfold EProg.finX
  cases p.fin <;> rfl

def EItem.NamesOK : EItem → Prop
  | .instr ls op md _ _ _ => (∀ p ∈ ls, IsLabelName p.1) ∧ IsOpName (opString op md)
  | .equ n _ _ _ => IsLabelName n
  | _ => True

instance (it : EItem) : Decidable it.NamesOK := by
  cases it <;> simp only [EItem.NamesOK] <;> infer_instance

theorem EItem.toP_OK {it : EItem} (h : it.LexOK) (hn : it.NamesOK)
    (hkw : ∀ x, it.toX = some x → x.KW) : it.toP.OK := by
  cases it with
  | instr ls op md a b k =>
    refine WItem.toItem_OK (it := .stmt _ k) (xwStmt_ok h) ⟨?_, ?_⟩
    · intro q hq
      simp only [xwStmt, List.mem_map] at hq
      obtain ⟨p, hp, rfl⟩ := hq
      simp only
      rw [identWord_val (h.1 p hp)]
      exact hn.1 p hp
    · simp only [xwStmt]
      rw [identWord_val h.2.1]
      exact hn.2
  | comment cs k => trivial
  | assert cs e k => trivial
  | org kw e k =>
    exact ⟨hkw _ rfl, toksOf_ne_nil h.2.2, toksOf_exprTerm e h.2.1⟩
  | equ n kw e k =>
    exact ⟨hn, hkw _ rfl, toksOf_ne_nil h.2.2.2, toksOf_exprTerm e h.2.2.1⟩

theorem stmt_labelNames {ls : List (String × Bool)} {op : String} {md : Option String} {a : XOperand}
    {b : Option XOperand} (k : Nat) (hl : ∀ p ∈ ls, identOK p.1 = true) :
    ((xwStmt ls op md a b).toStmt k).labelNames = ls.map (·.1) := by
  simp only [Stmt.labelNames, WStmt.toStmt, xwStmt, labels_val ls hl]

/-- the parser enters labels and EQU names into its symbol table in the order of the lines: a
    permutation of the labels followed by the EQU names -/
theorem pitemsLabels_perm (items : List EItem) (h : ∀ it ∈ items, it.LexOK) :
    (pitemsLabels (items.map EItem.toP)).Perm
      (xlabelNames (items.filterMap EItem.toX) ++ (xequs (items.filterMap EItem.toX)).map (·.1)) := by
  induction items with
  | nil => exact List.Perm.refl _
  | cons it r ih =>
    have hr := ih (fun x hx => h x (List.mem_cons_of_mem _ hx))
    have hit := h it (List.mem_cons_self ..)
    cases it with
    | instr ls op md a b k =>
      show (((xwStmt ls op md a b).toStmt k).labelNames ++ _).Perm (ls.map (·.1) ++ _ ++ _)
      rw [stmt_labelNames k hit.1, List.append_assoc]
      exact hr.append_left _
    | equ n kw e k => exact (List.Perm.cons n hr).trans List.perm_middle.symm
    | _ => exact hr

/-- the symbol-table conditions of the parser, for a table `L` that holds the labels `A`, the EQU
    names `Q` and further labels `T` (those of an END line; none for an `EProg`) -/
theorem symbols_ok {L A Q : List String} (hp : L.Perm (A ++ Q)) (T : List String)
    (hnd : (A ++ T ++ Q ++ constNames).Nodup) :
    (L ++ T).Nodup ∧ (∀ l ∈ L ++ T, l ∉ predefined) ∧
      ∀ x ∈ A ++ T ++ Q ++ constNames, x ∈ L ++ T ∨ x ∈ predefined := by
  have hp' : (L ++ T).Perm (A ++ T ++ Q) :=
    (hp.append_right T).trans (by
      rw [List.append_assoc, List.append_assoc]
      exact List.Perm.append_left _ List.perm_append_comm)
  -- `predefined` (RenderParse) and `constNames` are the same list of four names
  refine ⟨hp'.nodup_iff.mpr (nodup_left hnd),
    fun l hl hc => nodup_disjoint hnd (hp'.mem_iff.mp hl) hc, fun x hx => ?_⟩
  rcases List.mem_append.1 hx with hx | hx
  · exact Or.inl (hp'.mem_iff.mpr hx)
  · exact Or.inr hx

theorem EProg.toP_labels_perm (p : EProg) (h : p.LexOK) :
    p.toP.labels.Perm (p.labels ++ p.equNames) := by
  unfold EProg.labels EProg.equNames EProg.xitems
  rw [xlabelsFrom_names, xlabelNames_append, xequs_app, p.finX_labels, p.finX_equs,
    List.append_nil, List.append_nil]
  exact pitemsLabels_perm p.items h.items

theorem xstmt_refNames (ls : List (String × Bool)) (op : String) (md : Option String) (a : XOperand)
    (b : Option XOperand) (k : Nat) (h : (EItem.instr ls op md a b k).LexOK) :
    ((xwStmt ls op md a b).toStmt k).refNames = XItemNames (.instr (ls.map (·.1)) op md a b) := by
  have names (o : XOperand) (ho : OperandLexOK o) :
      tokNames (xwOperand o).toOperand.toks = enames o.expr := by
    simp [xwOperand, WOperand.toOperand, ewords_tok o.expr ho.1, tokNames_toksOf]
  obtain ⟨_, _, ha, hb⟩ := h
  simp only [Stmt.refNames, WStmt.toStmt, xwStmt, XItemNames, names a ha]
  congr 1
  cases b with
  | none => rfl
  | some bo => exact names bo (hb bo rfl)

theorem EItem.mem_refs {it : EItem} (h : it.LexOK) {x : String} {refs : List String}
    (hx : x ∈ it.toP.refs refs) : x ∈ refs ∨ x ∈ it.toX.toList.flatMap XItemNames := by
  have expr : ∀ e, x ∈ addRefs (toksOf e) refs → x ∈ refs ∨ x ∈ enames e := fun e hx => by
    rw [← tokNames_toksOf]; exact mem_addRefs hx
  cases it with
  | instr ls op md a b k =>
    simp only [EItem.toP, PItem.refs, AsmCompose.XItem.refs, WItem.toItem, Item.refs] at hx
    simpa [EItem.toX, xstmt_refNames ls op md a b k h] using mem_stmt_refs _ hx
  | org kw e k => simpa [EItem.toX, XItemNames] using expr e hx
  | equ n kw e k => simpa [EItem.toX, XItemNames] using expr e hx
  | assert cs e k => exact Or.inl hx
  | comment cs k => exact Or.inl hx

theorem mem_pitemsRefs (items : List EItem) (h : ∀ it ∈ items, it.LexOK) {x : String} :
    ∀ {refs : List String}, x ∈ pitemsRefs (items.map EItem.toP) refs →
      x ∈ refs ∨ x ∈ (items.filterMap EItem.toX).flatMap XItemNames := by
  induction items with
  | nil => intro refs hx; exact Or.inl hx
  | cons it r ih =>
    intro refs hx
    simp only [List.map_cons, pitemsRefs] at hx
    have e : (it :: r).filterMap EItem.toX = it.toX.toList ++ r.filterMap EItem.toX := by
      rw [List.filterMap_cons]; cases it.toX <;> rfl
    rw [e, List.flatMap_append, List.mem_append]
    rcases ih (fun y hy => h y (List.mem_cons_of_mem _ hy)) hx with hx | hx
    · exact (EItem.mem_refs (h it (List.mem_cons_self ..)) hx).imp_right Or.inl
    · exact Or.inr (Or.inr hx)

theorem EProg.toP_refs (p : EProg) (h : p.LexOK) : ∀ x ∈ p.toP.refs, x ∈ p.names := by
  intro x hx
  have items : x ∈ pitemsRefs (p.items.map EItem.toP) [] →
      x ∈ (p.items.filterMap EItem.toX).flatMap XItemNames :=
    fun hx => (mem_pitemsRefs p.items h.items hx).resolve_left (List.not_mem_nil)
  unfold EProg.names EProg.xitems EProg.finX
  unfold PProg.refs EProg.toP at hx
  rw [List.flatMap_append, List.mem_append]
  generalize p.fin = f at hx ⊢
  rcases f with _ | ⟨kw, _ | y⟩
  · exact Or.inl (items hx)
  · exact Or.inl (items hx)
  · rcases mem_addRefs hx with hx | hx
    · exact Or.inl (items hx)
    · right
      simpa [XItemNames, ← tokNames_toksOf] using hx

structure EProg.NamesOK (p : EProg) : Prop where
  items : ∀ it ∈ p.items, it.NamesOK

theorem EProg.mem_xitems_of_toX (p : EProg) {it : EItem} (hit : it ∈ p.items) {x : AsmLine.XItem}
    (hx : it.toX = some x) : x ∈ p.xitems := by
  unfold EProg.xitems
  exact List.mem_append_left _ (List.mem_filterMap.mpr ⟨it, hit, hx⟩)

theorem EProg.toP_fin (p : EProg) {kw : String} {toks : List Token}
    (hf : p.toP.fin = some (kw, toks)) :
    ∃ e, p.fin = some (kw, e) ∧ toks = (e.map toksOf).getD [] ∧ AsmLine.XItem.end_ kw e ∈ p.xitems := by
  unfold EProg.xitems EProg.finX
  unfold EProg.toP at hf
  generalize p.fin = f at hf ⊢
  rcases f with _ | ⟨kw', e⟩
  · cases hf
  · cases hf
    exact ⟨e, rfl, rfl, List.mem_append_right _ (List.mem_singleton.mpr rfl)⟩

theorem EProg.toP_items_OK (p : EProg) (h : p.LexOK) (hn : p.NamesOK) (hkw : ∀ x ∈ p.xitems, x.KW) :
    ∀ it ∈ p.toP.items, it.OK := by
  intro it hit
  obtain ⟨s, hs, rfl⟩ := List.mem_map.1 hit
  exact EItem.toP_OK (h.items s hs) (hn.items s hs) (fun x hx => hkw x (p.mem_xitems_of_toX hs hx))

theorem EProg.toP_OK (p : EProg) (h : p.LexOK) (hn : p.NamesOK) (hkw : ∀ x ∈ p.xitems, x.KW)
    (hnd : (p.labels ++ p.equNames ++ constNames).Nodup)
    (hcl : ∀ x ∈ p.names, x ∈ p.labels ∨ x ∈ p.equNames ∨ x ∈ constNames) : p.toP.OK := by
  obtain ⟨s1, s2, s3⟩ := symbols_ok (p.toP_labels_perm h) [] (by simpa using hnd)
  exact
    { items := p.toP_items_OK h hn hkw
      nodup := List.append_nil p.toP.labels ▸ s1
      notPredefined := fun l hl => s2 l (by simpa using hl)
      defined := fun x hx => by
        simpa using s3 x (by simpa [or_assoc] using hcl x (p.toP_refs h x hx))
      fin := by
        intro kw toks hf
        obtain ⟨e, hpf, rfl, hmem⟩ := p.toP_fin hf
        refine ⟨(hkw _ hmem).1, ?_, by simp [EProg.toP]⟩
        cases e with
        | none => intro t ht; simp at ht
        | some x => exact toksOf_exprTerm x (((h.fin _ _ hpf).2 x rfl).1) }

end AsmComposeEqu
end Gmars
