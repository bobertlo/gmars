/-
  C03: the whole assembler on rendered programs with labels.

      bytes --decodeRunes--> characters --Lex.tokens--> tokens --forLoop--> tokens
            --parse--> source lines --compile--> warrior

  A label program is a program with EQU lines that has none (`SProg.toE`, `ofX`): what lexer,
  scanner and parser do on an `SProg` is what they do on the `EProg` `p.toE`.

  Why the extra hypotheses of `assemble_meaning_labels` (checked with #eval on the models):
    * `hcl` (every name used in an operand is a label): on `ORG foo / ORG 0 / DAT 0` the parser
      rejects the undefined `foo` (`assemble = .err`) while `Spec.meaningFlat` only evaluates the
      last ORG (start 0).
    * END only as the last line (built into `SProg`): on `DAT 0 / END / DAT 1` the parser stops at
      END (one instruction), `Spec.meaningFlat` counts both instructions.
    * comments stand on lines of their own (a comment behind a statement is not covered), and no
      comment line starts with ";assert" (label programs have no assertions).
-/
import Gmars.Proofs.AsmComposeEqu
import Gmars.Proofs.AsmLabels

namespace Gmars
namespace AsmCompose
open Gmars.Render Gmars.AsmLine Gmars.ExprProofs

section
open AsmComposeEqu

def SItem.toE : SItem → EItem
  | .instr ls op md a b k => .instr ls op md a.toX (b.map LOperand.toX) k
  | .org kw e k => .org kw e.etoks k
  | .comment cs k => .comment cs k

def SProg.toE (p : SProg) : EProg :=
  { lead := p.lead, items := p.items.map SItem.toE,
    fin := p.fin.map (fun q => (q.1, q.2.map NT.etoks)), trail := p.trail }

theorem ewords_etoks (e : NT) : ewords e.etoks = NTwords e := by
  unfold ewords
  induction e with
  | num n => rfl
  | name s => rfl
  | signs ss e ih =>
    simp only [NT.etoks, NTwords, List.map_append, List.map_map, ih]
    congr 1
    exact List.map_congr_left fun b _ => by cases b <;> rfl
  | paren e ih => simp only [NT.etoks, NTwords, List.map_cons, List.map_append, ih]; rfl
  | bin op l r ihl ihr => simp only [NT.etoks, NTwords, List.map_cons, List.map_append, ihl, ihr]; rfl

theorem enames_etoks (e : NT) : enames e.etoks = e.names := by
  unfold enames
  induction e with
  | num n => rfl
  | name s => rfl
  | signs ss e ih =>
    simp only [NT.etoks, NT.names, List.filterMap_append, ih, List.filterMap_map]
    exact (congrArg (· ++ e.names) (List.filterMap_eq_nil_iff.2 fun _ _ => rfl)).trans (List.nil_append _)
  | paren e ih => simp [NT.etoks, NT.names, List.filterMap_append, ih]
  | bin op l r ihl ihr => simp [NT.etoks, NT.names, List.filterMap_append, ihl, ihr]

theorem elexOK_etoks (e : NT) (h : NTLexOK e) :
    ELexOK e.etoks ∧ e.etoks ≠ [] ∧ e.etoks.head? ≠ some (.op "*") := by
  unfold ELexOK
  induction e with
  | num n => exact ⟨List.forall_mem_singleton.2 trivial, by simp [NT.etoks], by simp [NT.etoks]⟩
  | name s => exact ⟨List.forall_mem_singleton.2 h, by simp [NT.etoks], by simp [NT.etoks]⟩
  | signs ss e ih =>
    obtain ⟨h1, h2, h3⟩ := ih h
    refine ⟨List.forall_mem_append.2 ⟨List.forall_mem_map.2 fun b _ => by cases b <;> decide, h1⟩,
      by simp [NT.etoks, h2], ?_⟩
    cases ss with
    | nil => exact h3
    | cons b bs => cases b <;> simp [NT.etoks, signStr]
  | paren e ih =>
    refine ⟨List.forall_mem_cons.2 ⟨trivial, List.forall_mem_append.2 ⟨(ih h).1, ?_⟩⟩,
      by simp [NT.etoks], by simp [NT.etoks]⟩
    exact List.forall_mem_singleton.2 trivial
  | bin op l r ihl ihr =>
    obtain ⟨l1, l2, l3⟩ := ihl h.2.1
    refine ⟨List.forall_mem_append.2 ⟨l1, List.forall_mem_cons.2 ⟨h.1, (ihr h.2.2).1⟩⟩,
      by simp [NT.etoks], ?_⟩
    cases hl : l.etoks with
    | nil => exact absurd hl l2
    | cons x xs => simpa [NT.etoks, hl] using l3

theorem operandLexOK_toX (o : LOperand) (h : NTLexOK o.expr) : OperandLexOK o.toX :=
  have ⟨h1, h2, h3⟩ := elexOK_etoks o.expr h
  ⟨h1, h2, fun _ => h3⟩

theorem xwStmt_toX (ls : List (String × Bool)) (op : String) (md : Option String) (a : LOperand)
    (b : Option LOperand) : xwStmt ls op md a.toX (b.map LOperand.toX) = wStmt ls op md a b := by
  have o : ∀ x : LOperand, xwOperand x.toX = wOperand x := fun x => by
    simp only [xwOperand, wOperand, LOperand.toX, ewords_etoks]
  simp only [xwStmt, wStmt, o, Option.map_map]
  exact congrArg _ (congrArg (Option.map · b) (funext o))

theorem SItem.toE_srcLines (it : SItem) : it.toE.srcLines = it.srcLines := by
  cases it with
  | instr ls op md a b k => simp only [SItem.toE, EItem.srcLines, SItem.srcLines, xwStmt_toX]
  | org kw e k => simp only [SItem.toE, EItem.srcLines, SItem.srcLines, ewords_etoks]
  | comment cs k => rfl

theorem SItem.toE_toP (it : SItem) : it.toE.toP = .x it.toX := by
  cases it with
  | instr ls op md a b k => simp only [SItem.toE, EItem.toP, SItem.toX, xwStmt_toX]
  | org kw e k => simp only [SItem.toE, EItem.toP, SItem.toX, nt_tokens_eq]
  | comment cs k => rfl

theorem SItem.toE_toX (it : SItem) : it.toE.toX = it.toL.map LItem.toX := by
  cases it <;> rfl

theorem SItem.toE_lexOK {it : SItem} (h : it.LexOK) : it.toE.LexOK := by
  cases it with
  | instr ls op md a b k =>
    refine ⟨h.1, h.2.1, operandLexOK_toX a h.2.2.1, fun bo hbo => ?_⟩
    obtain ⟨b', rfl, rfl⟩ := Option.map_eq_some_iff.1 hbo
    exact operandLexOK_toX b' (h.2.2.2 b' rfl)
  | org kw e k => exact ⟨h.1, (elexOK_etoks e h.2).1, (elexOK_etoks e h.2).2.1⟩
  | comment cs k => exact h

theorem SProg.toE_srcLines (p : SProg) : p.toE.srcLines = p.srcLines := by
  have items : ∀ l : List SItem, eitemsSrcLines (l.map SItem.toE) = sitemsSrcLines l := by
    intro l
    induction l with
    | nil => rfl
    | cons it r ih => simp only [List.map_cons, eitemsSrcLines, sitemsSrcLines, it.toE_srcLines, ih]
  unfold EProg.srcLines SProg.srcLines EProg.finSrcLines SProg.finSrcLines SProg.toE
  simp only [items]
  rcases p.fin with _ | ⟨kw, _ | e⟩
  · rfl
  · rfl
  · simp only [Option.map_some, Option.getD_some, ewords_etoks]

theorem SProg.toE_toP (p : SProg) : p.toE.toP = ofX p.toX := by
  unfold EProg.toP ofX SProg.toX SProg.toE
  simp only [List.map_map]
  congr 1
  · exact List.map_congr_left fun it _ => it.toE_toP
  · rcases p.fin with _ | ⟨kw, _ | e⟩
    · rfl
    · rfl
    · simp only [Option.map_some, Option.getD_some, nt_tokens_eq]

theorem SProg.toE_lexOK (p : SProg) (h : p.LexOK) : p.toE.LexOK where
  items := by
    intro it hit
    obtain ⟨s, hs, rfl⟩ := List.mem_map.1 hit
    exact SItem.toE_lexOK (h.items s hs)
  fin := by
    intro kw e hf
    obtain ⟨⟨kw', e'⟩, hpf, hq⟩ := Option.map_eq_some_iff.1 hf
    cases hq
    refine ⟨(h.fin _ _ hpf).1, fun x hx => ?_⟩
    obtain ⟨y, rfl, rfl⟩ := Option.map_eq_some_iff.1 hx
    have := elexOK_etoks y ((h.fin _ _ hpf).2 y rfl)
    exact ⟨this.1, this.2.1⟩

theorem SProg.toE_xitems (p : SProg) : p.toE.xitems = p.litems.map LItem.toX := by
  unfold EProg.xitems SProg.litems EProg.finX SProg.finL SProg.toE
  rw [List.map_append, List.filterMap_map]
  congr 1
  · rw [List.map_filterMap]
    exact congrArg (List.filterMap · p.items) (funext SItem.toE_toX)
  · rcases p.fin with _ | ⟨kw, e⟩ <;> rfl

theorem SItem.toks_eq {it : SItem} (h : it.LexOK) : linesToks it.srcLines = it.toX.tokens := by
  rw [← it.toE_srcLines, (EItem.lexesTo (SItem.toE_lexOK h)).2, it.toE_toP]
  rfl

theorem SProg.srcLines_ok (p : SProg) (h : p.LexOK) : ∀ l ∈ p.srcLines, l.ok (some '\n') = true := by
  rw [← p.toE_srcLines]
  exact p.toE.srcLines_ok (p.toE_lexOK h)

theorem xitemNames_toX (it : LItem) : XItemNames it.toX = LItemNames it := by
  rcases it with ⟨_, _, _, _, _ | _⟩ | _ | ⟨_, _ | _⟩ <;>
    simp only [LItem.toX, LOperand.toX, XItemNames, LItemNames, Option.map_some, Option.map_none,
      enames_etoks]

theorem SProg.toE_meta (p : SProg) : p.toE.meta = p.meta := by
  unfold EProg.meta SProg.meta
  rw [p.toE_toP]
  exact (pitems_x p.toX.items).2 {}

theorem SProg.toE_hyps (sc : Spec.Cfg) (p : SProg) (hlex : p.LexOK) (hnames : p.NamesOK)
    (hplain : ∀ it ∈ p.items, it.Plain) (hnd : (p.labels ++ constNames).Nodup)
    (hcl : ∀ x ∈ p.names, x ∈ p.labels) (hsmall : linstrCount p.litems < 2 ^ 63)
    (hw : ProgWF sc.M (labelsFrom 0 p.litems) 0 p.litems) :
    p.toE.Hyps sc (fun _ => 0) := by
  have hx := p.toE_xitems
  have ht : xtables sc (p.litems.map LItem.toX) = ⟨labelsFrom 0 p.litems, Spec.predefined sc⟩ := by
    unfold xtables; rw [xlabelsFrom_toX, xequs_toX]; rfl
  unfold SProg.labels at hnd hcl
  unfold SProg.names at hcl
  refine ⟨p.toE_lexOK hlex, ⟨fun it hit => ?_⟩, fun cs k hc => ?_, ?_, fun x hxm => ?_, ?_, ?_,
    fun _ => by decide, ?_⟩
  · obtain ⟨s, hs, rfl⟩ := List.mem_map.1 hit
    cases s with
    | instr ls op md a b k => exact hnames.items _ hs
    | _ => trivial
  · obtain ⟨s, hs, he⟩ := List.mem_map.1 hc
    cases s with
    | comment cs' k' => cases he; exact hplain _ hs
    | _ => cases he
  · unfold EProg.labels EProg.equNames
    rw [hx, xlabelsFrom_toX, xequs_toX]; simpa using hnd
  · unfold EProg.names at hxm
    unfold EProg.labels
    rw [hx, List.flatMap_map] at hxm
    rw [hx, xlabelsFrom_toX]
    exact Or.inl (hcl x (by simpa only [xitemNames_toX] using hxm))
  · rw [hx, xinstrCount_toX]; exact hsmall
  · rw [hx, xequs_toX]; exact predefined_ranked sc
  · rw [hx, ht]; exact ProgWF.toX rfl p.litems 0 hw

end

/-- `assemble_meaning_partial` of C03 (programs with labels, without EQU and FOR).  `ls` is ANY
    list of source lines carrying the words of the program (`SameLines ls p.srcLines`: same words,
    same comments, line by line) with arbitrary leading blanks and separators of blanks and tabs
    (`SrcLine.ok`: a separator may be empty where the lexer separates the words anyway); `src` is
    any byte string the Go reader decodes to that text.  The hypotheses are those of
    `compile_meaning_labels`, `p.LexOK`, `p.NamesOK`, and `hplain`, `hcl` explained at the head of
    the file. -/
theorem assemble_meaning_labels (cfg : Config) (sc : Spec.Cfg) (p : SProg)
    (hv : cfg.validate = true) (h63 : cfg.coreSize.toNat < 2 ^ 63) (hr : CfgRel cfg sc)
    (hlex : p.LexOK) (hnames : p.NamesOK) (hplain : ∀ it ∈ p.items, it.Plain)
    (hnd : (p.labels ++ constNames).Nodup) (hcl : ∀ x ∈ p.names, x ∈ p.labels)
    (hsmall : linstrCount p.litems < 2 ^ 63)
    (hw : ProgWF sc.M (labelsFrom 0 p.litems) 0 p.litems)
    (ls : List SrcLine) (hls : ∀ l ∈ ls, l.ok (some '\n') = true) (hsame : SameLines ls p.srcLines)
    (src : List UInt8) (hsrc : decodeRunes src = renderLines ls) :
    assemble cfg src =
      match Spec.meaningFlat sc (p.litems.map LItem.toItem) with
      | some m => .ok (toWD p.meta m)
      | none => .err := by
  have h := p.toE_hyps sc hlex hnames hplain hnd hcl hsmall hw
  rw [AsmComposeEqu.assemble_meaning_equ cfg sc p.toE (fun _ => 0) hv h63 hr h.lex h.names h.plain
    h.nodup h.closed h.small h.ranked h.lt h.wf ls hls (p.toE_srcLines ▸ hsame) src hsrc, p.toE_xitems,
    toItem_toX, p.toE_meta]
  cases Spec.meaningFlat sc (p.litems.map LItem.toItem) <;> rfl

theorem parseCompile_labels (cfg : Config) (sc : Spec.Cfg) (p : SProg)
    (hv : cfg.validate = true) (h63 : cfg.coreSize.toNat < 2 ^ 63) (hr : CfgRel cfg sc)
    (hlex : p.LexOK) (hnames : p.NamesOK) (hplain : ∀ it ∈ p.items, it.Plain)
    (hnd : (p.labels ++ constNames).Nodup) (hcl : ∀ x ∈ p.names, x ∈ p.labels)
    (hsmall : linstrCount p.litems < 2 ^ 63)
    (hw : ProgWF sc.M (labelsFrom 0 p.litems) 0 p.litems) :
    parseCompile cfg p.toX.tokens =
      match Spec.meaningFlat sc (p.litems.map LItem.toItem) with
      | some m => .ok (toWD p.meta m)
      | none => .err := by
  have := AsmComposeEqu.parseCompile_equ cfg sc p.toE (fun _ => 0) hv h63 hr
    (p.toE_hyps sc hlex hnames hplain hnd hcl hsmall hw)
  rw [p.toE_toP, ofX_tokens, p.toE_xitems, toItem_toX, p.toE_meta] at this
  rw [this]
  cases Spec.meaningFlat sc (p.litems.map LItem.toItem) <;> rfl

theorem assemble_meaning_labels_ascii (cfg : Config) (sc : Spec.Cfg) (p : SProg)
    (hv : cfg.validate = true) (h63 : cfg.coreSize.toNat < 2 ^ 63) (hr : CfgRel cfg sc)
    (hlex : p.LexOK) (hnames : p.NamesOK) (hplain : ∀ it ∈ p.items, it.Plain)
    (hnd : (p.labels ++ constNames).Nodup) (hcl : ∀ x ∈ p.names, x ∈ p.labels)
    (hsmall : linstrCount p.litems < 2 ^ 63)
    (hw : ProgWF sc.M (labelsFrom 0 p.litems) 0 p.litems)
    (ls : List SrcLine) (hls : ∀ l ∈ ls, l.ok (some '\n') = true) (hsame : SameLines ls p.srcLines)
    (hascii : ∀ c ∈ renderLines ls, c.toNat < 128) :
    assemble cfg (asciiBytes (renderLines ls)) =
      match Spec.meaningFlat sc (p.litems.map LItem.toItem) with
      | some m => .ok (toWD p.meta m)
      | none => .err :=
  assemble_meaning_labels cfg sc p hv h63 hr hlex hnames hplain hnd hcl hsmall hw ls hls hsame _
    (decodeRunes_ascii _ hascii)

/-- unlike `assemble_meaning_labels_ascii`: comment lines may contain any characters -/
theorem assemble_meaning_labels_utf8 (cfg : Config) (sc : Spec.Cfg) (p : SProg)
    (hv : cfg.validate = true) (h63 : cfg.coreSize.toNat < 2 ^ 63) (hr : CfgRel cfg sc)
    (hlex : p.LexOK) (hnames : p.NamesOK) (hplain : ∀ it ∈ p.items, it.Plain)
    (hnd : (p.labels ++ constNames).Nodup) (hcl : ∀ x ∈ p.names, x ∈ p.labels)
    (hsmall : linstrCount p.litems < 2 ^ 63)
    (hw : ProgWF sc.M (labelsFrom 0 p.litems) 0 p.litems)
    (ls : List SrcLine) (hls : ∀ l ∈ ls, l.ok (some '\n') = true) (hsame : SameLines ls p.srcLines) :
    assemble cfg (String.ofList (renderLines ls)).toUTF8.data.toList =
      match Spec.meaningFlat sc (p.litems.map LItem.toItem) with
      | some m => .ok (toWD p.meta m)
      | none => .err :=
  assemble_meaning_labels cfg sc p hv h63 hr hlex hnames hplain hnd hcl hsmall hw ls hls hsame _
    (decodeRunes_toUTF8 _)

def LItem.toS : LItem → Option SItem
  | .instr ls op md a b => some (.instr (ls.map (fun l => (l, false))) op md a b 0)
  | .org kw e => some (.org kw e 0)
  | .end_ _ _ => none

/-- every label program `body ++ [END …]` is the `litems` of a source program (`ofItems_litems`):
    the one without colons, blank lines and comment lines -/
def SProg.ofItems (body : List LItem) (fin : Option (String × Option NT)) : SProg :=
  { items := body.filterMap LItem.toS, fin := fin }

theorem SProg.ofItems_litems (body : List LItem) (fin : Option (String × Option NT))
    (hb : ∀ it ∈ body, ∀ kw e, it ≠ .end_ kw e) :
    (SProg.ofItems body fin).litems =
      body ++ (match fin with | some (kw, e) => [.end_ kw e] | none => []) := by
  unfold SProg.ofItems SProg.litems SProg.finL
  simp only
  congr 1
  induction body with
  | nil => rfl
  | cons it r ih =>
    have hr := ih (fun x hx => hb x (List.mem_cons_of_mem _ hx))
    cases it with
    | instr ls op md a b =>
      simp only [List.filterMap_cons, LItem.toS, SItem.toL, hr, List.map_map, Function.comp_def,
        List.map_id']
    | org kw e => simp only [List.filterMap_cons, LItem.toS, SItem.toL, hr]
    | end_ kw e => exact absurd rfl (hb _ (List.mem_cons_self ..) kw e)

end AsmCompose
end Gmars
