/-
  C03 / C07, compiler stage with EQU definitions: the abstract programs, their two readings
  (reference items, parser source lines) and the reference's textual substitution `stepE` / `iterE` (the model's `stepT` / `iterT` is in
  SubstT.lean).
-/
import Gmars.Model.Compile
import Gmars.Proofs.AsmOps
import Gmars.Proofs.ExprCST

namespace Gmars.AsmLine
open Gmars.Compile Gmars.ExprProofs

/-! ## expression tokens: the reference alphabet, rendered as gmars tokens -/

/-- the gmars token the lexer produces for a reference token -/
def tokOf : Spec.ETok → Token
  | .num n => ExprProofs.numTok n
  | .name s => textTok s
  | .op s => opTok s
  | .lp => lpTok
  | .rp => rpTok

def toksOf (ts : List Spec.ETok) : List Token := ts.map tokOf

/-! ## abstract programs with labels, EQUs and asserts -/

structure XOperand where
  mode : Option Mode
  expr : List Spec.ETok

/-- `kw` is the keyword as written; `cm` is the comment text of an `;assert` line as written -/
inductive XItem
  | instr (labels : List String) (op : String) (md : Option String) (a : XOperand) (b : Option XOperand)
  | equ (kw : String) (name : String) (e : List Spec.ETok)
  | org (kw : String) (e : List Spec.ETok)
  | end_ (kw : String) (e : Option (List Spec.ETok))
  | assert (cm : String) (e : List Spec.ETok)

def XOperand.toP (o : XOperand) : Spec.POperand := { mode := o.mode, expr := o.expr }

/-- the program as the reference reads it -/
def XItem.toItem : XItem → Spec.Item
  | .instr ls op md a b => .instr ls op md a.toP (b.map XOperand.toP)
  | .equ _ n e => .equ n e
  | .org _ e => .org e
  | .end_ _ e => .end_ e
  | .assert _ e => .assert e

def XItem.isInstr : XItem → Bool
  | .instr .. => true
  | _ => false

/-- the program as the parser hands it to the compiler -/
def XItem.toLine (k : Nat) : XItem → SourceLine
  | .instr ls op md a b =>
    { typ := .instruction, codeLine := (k : Int), labels := ls, op := opString op md,
      amode := modeString a.mode, a := some (toksOf a.expr),
      bmode := modeString (b.bind (·.mode)), b := b.map (fun o => toksOf o.expr) }
  | .equ kw n e => { typ := .pseudoOp, op := kw, labels := [n], a := some (toksOf e) }
  | .org kw e => { typ := .pseudoOp, op := kw, a := some (toksOf e) }
  | .end_ kw e => { typ := .pseudoOp, op := kw, a := e.map toksOf }
  | .assert cm _ => { typ := .comment, comment := cm }

def xrender (k : Nat) : List XItem → List SourceLine
  | [] => []
  | it :: r => it.toLine k :: xrender (if it.isInstr then k + 1 else k) r

/-- the label table: every label with the index of its instruction -/
def xlabelsFrom (k : Nat) : List XItem → List (String × Nat)
  | [] => []
  | .instr ls _ _ _ _ :: r => ls.map (fun l => (l, k)) ++ xlabelsFrom (k + 1) r
  | _ :: r => xlabelsFrom k r

/-- the EQU definitions in program order -/
def xequs : List XItem → List (String × List Spec.ETok)
  | [] => []
  | .equ _ n e :: r => (n, e) :: xequs r
  | _ :: r => xequs r

def xinstrCount (prog : List XItem) : Nat := (prog.filter XItem.isInstr).length

/-! ## textual substitution, reference side -/

abbrev ETab := List (String × List Spec.ETok)

def ETab.get? (tab : ETab) (s : String) : Option (List Spec.ETok) := (tab.find? (·.1 == s)).map (·.2)

/-- what one round of `Spec.expandEqus` does to one token -/
def stepETok (tab : ETab) (t : Spec.ETok) : List Spec.ETok :=
  match t with
  | .name n => match tab.find? (·.1 == n) with
    | some (_, v) => v
    | none => [t]
  | _ => [t]

/-- one round of `Spec.expandEqus` -/
def stepE (tab : ETab) (ts : List Spec.ETok) : List Spec.ETok := ts.flatMap (stepETok tab)

/-- `k` rounds -/
def iterE (tab : ETab) : Nat → List Spec.ETok → List Spec.ETok
  | 0, ts => ts
  | k + 1, ts => iterE tab k (stepE tab ts)

/-- `d` strictly decreases from an EQU name to the EQU names its body mentions -/
def ERanked (tab : ETab) (d : String → Nat) : Prop :=
  ∀ k v, tab.get? k = some v → ∀ s, Spec.ETok.name s ∈ v → (tab.get? s).isSome = true → d s < d k

end Gmars.AsmLine
