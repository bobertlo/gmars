/-
  C09, assembler half: the canonical load text `Spec.printLoad legacy code start`
  (`ORG n` first / `END n` last, one `OP[.MOD] m n, m n` per line) as a label program, and its
  reference meaning (`code` / `start`, or none when a field is 2^31 or more).
  The assembler on the text (`AsmPrint.asm_print`, `asm_print_big`, at the end of AsmLayout.lean)
  is the case of the trivial layout of `AsmLayout.asm_layout_meaning`.
-/
import Gmars.Proofs.AsmComposeEqu
import Gmars.Proofs.AsmLabels
import Gmars.Proofs.OpNames

namespace Gmars
namespace AsmPrint
open Gmars.Render Gmars.AsmLine Gmars.AsmCompose

def mdText (legacy : Bool) (i : Instr) : Option String := if legacy then none else some i.md.name

def loadOperandA (i : Instr) : LOperand := { mode := some i.am, expr := .num i.a.toNat }
def loadOperandB (i : Instr) : LOperand := { mode := some i.bm, expr := .num i.b.toNat }

def LIof (op : String) (md : Option String) (i : Instr) : LItem :=
  .instr [] op md (loadOperandA i) (some (loadOperandB i))

def dirItems (legacy : Bool) (org end_ : String) (start : Nat) (body : List LItem) : List LItem :=
  if legacy then body ++ [.end_ end_ (some (.num start))] else .org org (.num start) :: body

def LI (legacy : Bool) (i : Instr) : LItem := LIof i.op.name (mdText legacy i) i

def loadItems (legacy : Bool) (code : List Instr) (start : Nat) : List LItem :=
  dirItems legacy "ORG" "END" start (code.map (LI legacy))

theorem identOK_opName (op : Op) : identOK op.name = true := by cases op <;> decide +kernel

theorem identChars_mdName (md : Modifier) : md.name.toList.all isIdentChar = true := by
  cases md <;> decide +kernel

theorem identOK_opString {a b : String} (ha : identOK a = true)
    (hb : b.toList.all isIdentChar = true) : identOK (opString a (some b)) = true := by
  rw [identOK_eq] at ha ⊢
  rw [opString_some_toList]
  cases h : a.toList with
  | nil => rw [h] at ha; cases ha
  | cons c cs =>
    rw [h] at ha
    simp only [identL, Bool.and_eq_true, List.cons_append, List.all_append, List.all_cons] at ha ⊢
    exact ⟨ha.1, ha.2, by decide, hb⟩

theorem identOK_opText (legacy : Bool) (i : Instr) :
    identOK (opString i.op.name (mdText legacy i)) = true := by
  cases legacy
  · exact identOK_opString (identOK_opName i.op) (identChars_mdName i.md)
  · rw [show mdText true i = none from rfl, opString_none]
    exact identOK_opName i.op

theorem isOpName_opText (legacy : Bool) (i : Instr) :
    IsOpName (opString i.op.name (mdText legacy i)) := by
  cases legacy
  · refine isOpName_of_dot _ ?_
    rw [show mdText false i = some i.md.name from rfl, opString_some_toList]
    simp
  · rw [show mdText true i = none from rfl, opString_none]
    exact isOpName_of_opcode _ (by rw [getOpCode_name]; rfl)

theorem identWord_chars {s : String} (h : identOK s = true) : (identWord s).chars = s.toList := by
  obtain ⟨c, cs, hs, hw, _⟩ := identWord_spec h
  rw [hw, hs]; rfl

theorem numWord_chars (n : Nat) : (numWord n).chars = Nat.toDigits 10 n := by
  obtain ⟨c, cs, hd, hw, _⟩ := numWord_spec n
  rw [hw, hd]; rfl

theorem modeWord_chars (c : Char) : (modeWord c).chars = [c] := by
  unfold modeWord; split <;> rfl

theorem symWord_chars (c : Char) : (Word.sym c).chars = [c] := rfl

theorem modeWord_valid (m : Mode) : (modeWord m.sym).valid = true := valid_modeWord (mem_modeChars m)

theorem labelsFrom_LIof {α : Type} (op : α → String) (md : α → Option String) (ins : α → Instr)
    (l : List α) (k : Nat) : labelsFrom k (l.map fun x => LIof (op x) (md x) (ins x)) = [] := by
  induction l generalizing k with
  | nil => rfl
  | cons x r ih => exact ih (k + 1)

theorem linstrCount_LIof {α : Type} (op : α → String) (md : α → Option String) (ins : α → Instr)
    (l : List α) : linstrCount (l.map fun x => LIof (op x) (md x) (ins x)) = l.length := by
  unfold linstrCount
  rw [List.filter_map, List.length_map]
  exact congrArg List.length (List.filter_eq_self.2 fun _ _ => rfl)

theorem dirItems_labelsFrom (legacy : Bool) (org end_ : String) (start : Nat) (body : List LItem)
    (hb : ∀ k, labelsFrom k body = []) : labelsFrom 0 (dirItems legacy org end_ start body) = [] := by
  unfold dirItems
  cases legacy
  · simp [labelsFrom, hb]
  · simp [labelsFrom_append, labelsFrom, hb]

theorem dirItems_count (legacy : Bool) (org end_ : String) (start : Nat) (body : List LItem) :
    linstrCount (dirItems legacy org end_ start body) = linstrCount body := by
  unfold dirItems
  cases legacy <;> simp [linstrCount, LItem.isInstr]

theorem codeFold_dirItems (c : Spec.Cfg) (t : Spec.Tables) (legacy : Bool) (org end_ : String)
    (start : Nat) (body : List LItem) (init : Option (List Instr) × Nat) :
    codeFold c t ((dirItems legacy org end_ start body).map LItem.toItem) init =
      codeFold c t (body.map LItem.toItem) init := by
  unfold dirItems
  cases legacy
  · exact codeFold_org c t _ _ init
  · rw [if_pos rfl, List.map_append, codeFold, List.foldl_append]
    exact codeFold_end c t _ [] _

theorem loadItems_nodup (legacy : Bool) (code : List Instr) (start : Nat) :
    ((labelsFrom 0 (loadItems legacy code start)).map (·.1) ++ constNames).Nodup := by
  rw [loadItems, dirItems_labelsFrom _ _ _ _ (code.map (LI legacy)) (labelsFrom_LIof _ _ _ code)]
  decide

theorem loadItems_count (legacy : Bool) (code : List Instr) (start : Nat) :
    linstrCount (loadItems legacy code start) = code.length :=
  (dirItems_count _ _ _ _ _).trans (linstrCount_LIof _ _ _ code)

theorem reduce_field (M : Nat) (x : UInt64) (h : x.toNat < M) : Spec.reduce M (x.toNat : Int) = x := by
  unfold Spec.reduce
  rw [Int.emod_eq_of_lt (Int.natCast_nonneg _) (by exact_mod_cast h), Int.toNat_natCast,
    UInt64.ofNat_toNat]

theorem instrMeaning_load (c : Spec.Cfg) (t : Spec.Tables) (line : Nat) (i : Instr)
    (hf : i.a.toNat < c.M ∧ i.b.toNat < c.M)
    (h31 : i.a.toNat < 2 ^ 31 ∧ i.b.toNat < 2 ^ 31)
    (hl : c.legacy = true → Spec.Legal88 i = true) :
    Spec.instrMeaning c t line i.op.name (mdText c.legacy i) (loadOperandA i).toP
      (some (loadOperandB i).toP) = some i := by
  rw [instrMeaning_eq, RoundTrip.opOfString_name]
  simp only [LOperand.toP, loadOperandA, loadOperandB, NT.etoks, Option.getD_some, Option.bind_some,
    evalAt_num, if_pos h31.1, if_pos h31.2, reduce_field _ _ hf.1,
    reduce_field _ _ hf.2]
  cases hleg : c.legacy with
  | false =>
    simp only [Bool.false_and, Bool.false_eq_true, if_false, mdSpec, mdText, RoundTrip.modOfString_name,
      Option.bind_some]
  | true =>
    have hL : Spec.implied88 i.op i.am i.bm = some i.md := beq_iff_eq.1 (hl hleg)
    obtain ⟨ha, hb, hop⟩ := implied88_some hL
    simp only [Bool.true_and, RoundTrip.is88Op_of_mem hop, ha, hb, Bool.not_true, Bool.false_eq_true, if_false,
      Bool.and_self, mdSpec, mdText, if_true, Option.isSome_none, hL, Option.bind_some]

theorem codeFold_LI (c : Spec.Cfg) (t : Spec.Tables) (legacy : Bool) (code : List Instr)
    (h : ∀ i ∈ code, ∀ line, Spec.instrMeaning c t line i.op.name (mdText legacy i)
      (loadOperandA i).toP (some (loadOperandB i).toP) = some i) :
    ∀ (acc : List Instr) (k : Nat),
      codeFold c t ((code.map (LI legacy)).map LItem.toItem) (some acc, k) =
        (some (acc ++ code), k + code.length) := by
  induction code with
  | nil => intro acc k; simp [codeFold]
  | cons i r ih =>
    intro acc k
    rw [List.forall_mem_cons] at h
    simp only [List.map_cons, LI, LIof, LItem.toItem, Option.map_some, codeFold_instr_some, h.1]
    rw [ih h.2, List.append_assoc, List.length_cons, Nat.add_assoc, Nat.add_comm 1]
    rfl

theorem startNT_loadItems (legacy : Bool) (code : List Instr) (start : Nat) :
    startNT (loadItems legacy code start) = .num start := by
  have h : ∀ acc : NT, (code.map (LI legacy)).foldl lstartStepN acc = acc := by
    intro acc
    induction code with
    | nil => rfl
    | cons i r ih => exact ih
  unfold startNT loadItems dirItems
  cases legacy
  · exact h _
  · rw [if_pos rfl, List.foldl_append, h]
    rfl

theorem meaningFlat_loadItems (sc : Spec.Cfg) (code : List Instr) (start : Nat)
    (hf : ∀ i ∈ code, i.a.toNat < sc.M ∧ i.b.toNat < sc.M)
    (h31 : ∀ i ∈ code, i.a.toNat < 2 ^ 31 ∧ i.b.toNat < 2 ^ 31) (hs31 : start < 2 ^ 31)
    (hstart : start < code.length) (hlen : code.length ≤ sc.maxLen)
    (hl : sc.legacy = true → ∀ i ∈ code, Spec.Legal88 i = true) :
    Spec.meaningFlat sc ((loadItems sc.legacy code start).map LItem.toItem) =
      some { code := code, start := start } := by
  rw [meaningFlat_litems sc _ (loadItems_nodup ..), loadItems_count,
    startNT_loadItems]
  generalize tablesOf sc _ _ = T
  rw [loadItems, codeFold_dirItems, codeFold_LI sc T sc.legacy code
    (fun i hi line => instrMeaning_load sc T line i (hf i hi) (h31 i hi) (fun h => hl h i hi))]
  simp only [List.nil_append, Option.bind_some, NT.etoks]
  rw [if_neg (by omega), evalAt_num, if_pos hs31, Option.bind_some, if_neg, Int.toNat_natCast]
  simp only [Bool.or_eq_true, Bool.and_eq_true, decide_eq_true_eq, bne_iff_ne]
  omega

theorem instrMeaning_load_big (c : Spec.Cfg) (t : Spec.Tables) (line : Nat) (legacy : Bool) (i : Instr)
    (h : 2 ^ 31 ≤ i.a.toNat ∨ 2 ^ 31 ≤ i.b.toNat) :
    Spec.instrMeaning c t line i.op.name (mdText legacy i) (loadOperandA i).toP
      (some (loadOperandB i).toP) = none := by
  rw [instrMeaning_eq, RoundTrip.opOfString_name]
  simp only [LOperand.toP, loadOperandA, loadOperandB, NT.etoks]
  rcases h with h | h
  all_goals simp only [evalAt_num, if_neg (Nat.not_lt.2 h), Option.bind_none, Option.bind_fun_none, ite_self]

theorem codeFold_LI_big (c : Spec.Cfg) (t : Spec.Tables) (legacy : Bool) (code : List Instr)
    (h : ∃ i ∈ code, 2 ^ 31 ≤ i.a.toNat ∨ 2 ^ 31 ≤ i.b.toNat) :
    ∀ (acc : Option (List Instr)) (k : Nat),
      (codeFold c t ((code.map (LI legacy)).map LItem.toItem) (acc, k)).1 = none := by
  induction code with
  | nil => obtain ⟨i, hi, _⟩ := h; cases hi
  | cons i r ih =>
    intro acc k
    cases acc with
    | none => exact codeFold_none c t _ k
    | some acc =>
      simp only [List.map_cons, LI, LIof, LItem.toItem, Option.map_some, codeFold_instr_some]
      obtain ⟨j, hj, hb⟩ := h
      rcases List.mem_cons.mp hj with rfl | hj
      · rw [instrMeaning_load_big c t k legacy j hb]
        exact codeFold_none c t _ (k + 1)
      · exact ih ⟨j, hj, hb⟩ _ _

/-- a field of 2^31 or more: the load program has no meaning (the reference, like gmars,
    evaluates operands as 32-bit integers) -/
theorem meaningFlat_loadItems_big (sc : Spec.Cfg) (legacy : Bool) (code : List Instr) (start : Nat)
    (h : ∃ i ∈ code, 2 ^ 31 ≤ i.a.toNat ∨ 2 ^ 31 ≤ i.b.toNat) :
    Spec.meaningFlat sc ((loadItems legacy code start).map LItem.toItem) = none := by
  rw [meaningFlat_litems sc _ (loadItems_nodup ..)]
  generalize tablesOf sc _ _ = T
  rw [loadItems, codeFold_dirItems, codeFold_LI_big sc T legacy code h]
  rfl

theorem validate_length_le {cfg : Config} (hv : cfg.validate = true) :
    cfg.length.toNat ≤ cfg.coreSize.toNat := by
  simp only [Config.validate, Bool.if_false_left, Bool.and_eq_true, Bool.not_eq_true',
    decide_eq_false_iff_not] at hv
  have h := hv.2.2.2.2.2.1
  rw [gt_iff_lt, UInt64.lt_iff_toNat_lt] at h
  omega

def specCfg (cfg : Config) : Spec.Cfg :=
  { legacy := cfg.mode == .icws88, M := cfg.coreSize.toNat, maxLen := cfg.length.toNat,
    maxProcs := cfg.processes.toNat, minDist := cfg.distance.toNat }

theorem specCfg_rel (cfg : Config) : CfgRel cfg (specCfg cfg) := ⟨rfl, rfl, rfl, rfl, rfl⟩

def AsciiL (l : List Char) : Prop := ∀ c ∈ l, c.toNat < 128

theorem AsciiL.append {a b : List Char} (ha : AsciiL a) (hb : AsciiL b) : AsciiL (a ++ b) :=
  List.forall_mem_append.2 ⟨ha, hb⟩

theorem AsciiL.cons {c : Char} {b : List Char} (hc : c.toNat < 128) (hb : AsciiL b) : AsciiL (c :: b) :=
  List.forall_mem_cons.2 ⟨hc, hb⟩

theorem asciiL_nil : AsciiL [] := by intro c hc; cases hc

theorem asciiL_digits (n : Nat) : AsciiL (Nat.toDigits 10 n) := by
  intro c hc
  have := (GoStr.isDigit_iff c).1 (GoStr.toDigits_all_isDigit n c hc)
  omega

theorem asciiL_sym (m : Mode) : m.sym.toNat < 128 := by cases m <;> decide

theorem printInstr_ascii (legacy : Bool) (i : Instr) : AsciiL (Spec.printInstr legacy i) := by
  unfold Spec.printInstr
  have hop : AsciiL i.op.name.toList := (RoundTrip.ascii_opName i.op).1
  have hmd : AsciiL i.md.name.toList := RoundTrip.ascii_mdName i.md
  refine AsciiL.append (AsciiL.append (AsciiL.append (AsciiL.append (AsciiL.append (AsciiL.append
    (AsciiL.append (AsciiL.append (AsciiL.append (AsciiL.append hop ?_) ?_) ?_) ?_) ?_) ?_) ?_) ?_) ?_) ?_
  · cases legacy
    · exact AsciiL.cons (by decide) hmd
    · exact asciiL_nil
  · exact AsciiL.cons (by decide) asciiL_nil
  · exact AsciiL.cons (asciiL_sym _) asciiL_nil
  · exact AsciiL.cons (by decide) asciiL_nil
  · exact asciiL_digits _
  · exact AsciiL.cons (by decide) (AsciiL.cons (by decide) asciiL_nil)
  · exact AsciiL.cons (asciiL_sym _) asciiL_nil
  · exact AsciiL.cons (by decide) asciiL_nil
  · exact asciiL_digits _
  · exact AsciiL.cons (by decide) asciiL_nil

theorem printLoad_ascii (legacy : Bool) (code : List Instr) (start : Nat) :
    AsciiL (Spec.printLoad legacy code start) := by
  unfold Spec.printLoad
  have hc : AsciiL (code.map (Spec.printInstr legacy)).flatten := by
    intro c hc
    simp only [List.mem_flatten, List.mem_map] at hc
    obtain ⟨l, ⟨i, _, rfl⟩, hcl⟩ := hc
    exact printInstr_ascii legacy i c hcl
  have hdir : ∀ kw : String, AsciiL kw.toList →
      AsciiL (kw.toList ++ Nat.toDigits 10 start ++ "\n".toList) := fun kw hk =>
    AsciiL.append (AsciiL.append hk (asciiL_digits _)) (AsciiL.cons (by decide) asciiL_nil)
  refine AsciiL.append (AsciiL.append ?_ hc) ?_
  · cases legacy
    · exact hdir "ORG " (by unfold AsciiL; decide)
    · exact asciiL_nil
  · cases legacy
    · exact asciiL_nil
    · exact hdir "END " (by unfold AsciiL; decide)

end AsmPrint
end Gmars
