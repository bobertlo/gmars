/-
  Operand phases of `exec` against `Spec.evalOperand` / `Spec.postInc`.
-/
import Gmars.Proofs.RefineMem
import Gmars.Proofs.Fold
import Gmars.Proofs.ExecForm

namespace Gmars

@[simp] theorem report_m (s : Sim) (r : Report) : (s.report r).m = s.m := rfl
@[simp] theorem report_rd (s : Sim) (r : Report) (i : UInt64) : (s.report r).rd i = s.rd i := rfl
@[simp] theorem report_readFold (s : Sim) (r : Report) (p : UInt64) :
    (s.report r).readFold p = s.readFold p := rfl
@[simp] theorem report_writeFold (s : Sim) (r : Report) (p : UInt64) :
    (s.report r).writeFold p = s.writeFold p := rfl

section ctx
variable {M R W : Nat} {s : Sim}

theorem Ctx.readFold_toNat (h : Ctx M R W s) (p : UInt64) :
    (s.readFold p).toNat = Spec.fold p.toNat R M := by
  rw [Sim.readFold_eq, foldU_toNat _ _ _ (by rw [h.hr]; exact h.dim.r1)
    (by rw [h.hr, h.hm]; exact h.dim.rM), h.hr, h.hm]

theorem Ctx.writeFold_toNat (h : Ctx M R W s) (p : UInt64) :
    (s.writeFold p).toNat = Spec.fold p.toNat W M := by
  rw [Sim.writeFold_eq, foldU_toNat _ _ _ (by rw [h.hw]; exact h.dim.w1)
    (by rw [h.hw, h.hm]; exact h.dim.wM), h.hw, h.hm]

theorem Ctx.readFold_lt (h : Ctx M R W s) (p : UInt64) : (s.readFold p).toNat < M := by
  rw [h.readFold_toNat]; exact Spec.fold_lt _ _ _ h.dim.r1 h.dim.rM

theorem Ctx.writeFold_lt (h : Ctx M R W s) (p : UInt64) : (s.writeFold p).toNat < M := by
  rw [h.writeFold_toNat]; exact Spec.fold_lt _ _ _ h.dim.w1 h.dim.wM

theorem Ctx.pos (h : Ctx M R W s) : 0 < M := by have := h.dim.m3; omega

theorem Ctx.idx (h : Ctx M R W s) {x y : UInt64} (hx : x.toNat < M) (hy : y.toNat < M) :
    ((x + y) % s.m).toNat = (x.toNat + y.toNat) % M :=
  u_idx_toNat h.hm h.dim.m32 hx hy

theorem Ctx.idx_lt (h : Ctx M R W s) (z : UInt64) : (z % s.m).toNat < M :=
  u_idx_lt h.hm h.pos z

theorem Ctx.add (h : Ctx M R W s) {x y : UInt64} (hx : x.toNat < M) (hy : y.toNat < M) :
    (x + y).toNat = x.toNat + y.toNat :=
  u_add_toNat h.hm h.dim.m32 hx hy

theorem Ctx.succ (h : Ctx M R W s) {x : UInt64} (hx : x.toNat < M) :
    ((x + 1) % s.m).toNat = (x.toNat + 1) % M :=
  u_succ_toNat h.hm h.dim.m3 h.dim.m32 hx

theorem Ctx.wrAddr (h : Ctx M R W s) {pc : UInt64} (hpc : pc.toNat < M) (p : UInt64) :
    ((pc + s.writeFold p) % s.m).toNat = (pc.toNat + Spec.fold p.toNat W M) % M := by
  rw [h.idx hpc (h.writeFold_lt p), h.writeFold_toNat]

theorem Instr.getN_abs (f : Spec.Field) (x : Instr) : (x.getN f).toNat = Spec.getF f x.abs := by
  cases f <;> rfl

theorem Instr.Bd.getN {x : Instr} (hx : x.Bd M) (f : Spec.Field) : (x.getN f).toNat < M := by
  cases f
  · exact hx.1
  · exact hx.2

theorem decN_spec (hc : Ctx M R W s) (f : Spec.Field) (x : Instr) (hx : x.Bd M) :
    (decN f s.m x).abs = Spec.setF f x.abs ((fun v => (v + M - 1) % M) (Spec.getF f x.abs)) ∧
      (decN f s.m x).Bd M := by
  have ea := u_dec_toNat (m := s.m) (x := x.a) hc.hm hc.dim.m3 hc.dim.m32 hx.1
  have eb := u_dec_toNat (m := s.m) (x := x.b) hc.hm hc.dim.m3 hc.dim.m32 hx.2
  cases f
  · exact ⟨by simp only [decN, decA, Instr.abs, Spec.setF, Spec.getF, ea], hc.idx_lt _, hx.2⟩
  · exact ⟨by simp only [decN, decB, Instr.abs, Spec.setF, Spec.getF, eb], hx.1, hc.idx_lt _⟩

theorem incN_spec (hc : Ctx M R W s) (f : Spec.Field) (x : Instr) (hx : x.Bd M) :
    (incN f s.m x).abs = Spec.setF f x.abs ((fun v => (v + 1) % M) (Spec.getF f x.abs)) ∧
      (incN f s.m x).Bd M := by
  have ea := hc.succ hx.1
  have eb := hc.succ hx.2
  cases f
  · exact ⟨by simp only [incN, incA, Instr.abs, Spec.setF, Spec.getF, ea], hc.idx_lt _, hx.2⟩
  · exact ⟨by simp only [incN, incB, Instr.abs, Spec.setF, Spec.getF, eb], hx.1, hc.idx_lt _⟩

end ctx

section updF
variable {M R W : Nat} {s0 s : Sim} {wi : Nat} {P : UInt64} {c : Spec.Core} {ql : List Nat}

theorem St.updF (h : St M R W s0 wi P s c ql) (i : UInt64) (n : Nat) (hin : i.toNat = n)
    (hn : n < M) (f : Instr → Instr) (fld : Spec.Field) (g : Nat → Nat)
    (hfg : ∀ x : Instr, x.Bd M →
      (f x).abs = Spec.setF fld x.abs (g (Spec.getF fld x.abs)) ∧ (f x).Bd M) :
    Ok (s.upd i f) (fun s' => St M R W s0 wi P s' (c.modF n fld g) ql) := by
  subst hin
  exact h.upd i hn f (fun x => Spec.setF fld x (g (Spec.getF fld x))) hfg

theorem St.rdN (h : St M R W s0 wi P s c ql) {i : UInt64} {n : Nat} (hin : i.toNat = n)
    (hn : n < M) : Ok (s.rd i) (fun x => x.abs = c.at n ∧ x.Bd M) := by
  subst hin
  exact h.rd i hn

end updF

section refine
variable {M R W : Nat} {s0 s : Sim} {wi : Nat} {P : UInt64} {c : Spec.Core} {ql : List Nat}

/-- the post-increment request as the model carries it: a bare cell address, the
    number being implied by the addressing mode -/
def pipOf (mode : Mode) (pip : UInt64) : Option (Nat × Spec.Field) :=
  match Spec.kind mode with
  | .post f => some (pip.toNat, f)
  | _ => none

/-- the cell an indirect mode goes through, read in `s1` with the primary fold taken in `s`, and
    the read pointer folded again from the number it holds -/
theorem St.indRead {s1 : Sim} {c1 : Spec.Core} (h1 : St M R W s0 wi P s1 c1 ql) (hc : Ctx M R W s)
    {pc : UInt64} (hpc : pc.toNat < M) (p : UInt64) (f : Spec.Field) :
    Ok (s1.rd ((pc + s.readFold p) % s1.m)) (fun x =>
      (s1.readFold (s.readFold p + x.getN f)).toNat =
        Spec.fold (Spec.fold p.toNat R M +
          Spec.getF f (c1.at ((pc.toNat + Spec.fold p.toNat R M) % M))) R M) := by
  have hp := hc.readFold_lt p
  have e : ((pc + s.readFold p) % s1.m).toNat = (pc.toNat + Spec.fold p.toNat R M) % M := by
    rw [h1.ctx.idx hpc hp, hc.readFold_toNat]
  refine (h1.rdN e (Nat.mod_lt _ hc.pos)).mono fun x ⟨hx, hxb⟩ => ?_
  rw [h1.ctx.readFold_toNat, h1.ctx.add hp (hxb.getN f), hc.readFold_toNat, Instr.getN_abs, hx]

theorem St.indWrite {s1 : Sim} {c1 : Spec.Core} (h1 : St M R W s0 wi P s1 c1 ql) (hc : Ctx M R W s)
    {pc : UInt64} (hpc : pc.toNat < M) (p : UInt64) (f : Spec.Field) :
    Ok (s1.rd ((pc + s.writeFold p) % s1.m)) (fun x =>
      (s1.writeFold (s.writeFold p + x.getN f)).toNat =
        Spec.fold (Spec.fold p.toNat W M +
          Spec.getF f (c1.at ((pc.toNat + Spec.fold p.toNat W M) % M))) W M) := by
  have hp := hc.writeFold_lt p
  have e : ((pc + s.writeFold p) % s1.m).toNat = (pc.toNat + Spec.fold p.toNat W M) % M := by
    rw [h1.ctx.idx hpc hp, hc.writeFold_toNat]
  refine (h1.rdN e (Nat.mod_lt _ hc.pos)).mono fun x ⟨hx, hxb⟩ => ?_
  rw [h1.ctx.writeFold_toNat, h1.ctx.add hp (hxb.getN f), hc.writeFold_toNat, Instr.getN_abs, hx]

theorem St.preDec (h : St M R W s0 wi P s c ql) {pc : UInt64} (hpc : pc.toNat < M) (p : UInt64)
    (f : Spec.Field) :
    Ok (do let s' ← s.upd ((pc + s.writeFold p) % s.m) (decN f s.m)
           pure (s'.report (rep .decrement wi ((pc + s.writeFold p) % s.m))))
      (fun s1 => St M R W s0 wi P s1
        (c.modF ((pc.toNat + Spec.fold p.toNat W M) % M) f (fun v => (v + M - 1) % M)) ql) :=
  (h.updF _ _ (h.ctx.wrAddr hpc p) (Nat.mod_lt _ h.ctx.pos) (decN f s.m) f
    (fun v => (v + M - 1) % M) (decN_spec h.ctx f)).map fun _ h' => h'.report _

theorem St.indir {s1 : Sim} {c1 : Spec.Core} (h1 : St M R W s0 wi P s1 c1 ql) (hc : Ctx M R W s)
    {pc : UInt64} (hpc : pc.toNat < M) (w : Bool) (f : Spec.Field) (p pip : UInt64) :
    Ok (s1.indir pc w f (s.readFold p) (s.writeFold p) pip) (fun (s2, rp, wp, pip') =>
      s2 = s1 ∧ pip' = pip ∧
      rp.toNat = Spec.fold (Spec.fold p.toNat R M +
        Spec.getF f (c1.at ((pc.toNat + Spec.fold p.toNat R M) % M))) R M ∧
      (w = true → wp.toNat = Spec.fold (Spec.fold p.toNat W M +
        Spec.getF f (c1.at ((pc.toNat + Spec.fold p.toNat W M) % M))) W M)) :=
  Ok.bind (h1.indRead hc hpc p f) fun _ hx =>
    Ok.bind (Ok.ite (fun _ => (h1.indWrite hc hpc p f).mono fun _ hy _ => hy)
      fun hw => Ok.intro fun e => absurd e hw) fun _ hd => Ok.intro ⟨rfl, rfl, hx, hd⟩

theorem St.operand (h : St M R W s0 wi P s c ql) (pc : UInt64) (hpc : pc.toNat < M) (w : Bool)
    (mode : Mode) (num pip0 : UInt64) (hp0 : pip0.toNat < M) :
    Ok (s.operand pc wi w mode num pip0) (fun (s1, rp, wp, pip) =>
      St M R W s0 wi P s1 (Spec.evalOperand M R W pc.toNat c mode num.toNat).core ql ∧
      rp.toNat = (Spec.evalOperand M R W pc.toNat c mode num.toNat).rp ∧
      (w = true → wp.toNat = (Spec.evalOperand M R W pc.toNat c mode num.toNat).wp) ∧
      (Spec.evalOperand M R W pc.toNat c mode num.toNat).pip = pipOf mode pip ∧
      pip.toNat < M) := by
  have hc := h.ctx
  unfold Sim.operand Spec.evalOperand pipOf
  cases Spec.kind mode <;> dsimp only
  case imm => exact Ok.intro ⟨h, rfl, fun _ => rfl, rfl, hp0⟩
  case dir => exact Ok.intro ⟨h, hc.readFold_toNat _, fun _ => hc.writeFold_toNat _, rfl, hp0⟩
  case ind f =>
    exact (h.indir hc hpc w f num pip0).mono fun _ ⟨e1, e2, hr, hw⟩ =>
      e1 ▸ e2 ▸ ⟨h, hr, hw, rfl, hp0⟩
  case pre f =>
    exact Ok.bind (h.preDec hpc num f) fun _ h1 =>
      (h1.indir hc hpc w f num pip0).mono fun _ ⟨e1, e2, hr, hw⟩ => e1 ▸ e2 ▸ ⟨h1, hr, hw, rfl, hp0⟩
  case post f =>
    exact (h.indir hc hpc w f num _).mono fun _ ⟨e1, e2, hr, hw⟩ =>
      e1 ▸ e2 ▸ ⟨h, hr, hw, by rw [hc.wrAddr hpc], hc.idx_lt _⟩

theorem St.post (h : St M R W s0 wi P s c ql) (mode : Mode) (pip : UInt64) (hp : pip.toNat < M) :
    Ok (s.post wi mode pip)
      (fun s' => St M R W s0 wi P s' (Spec.postInc M c (pipOf mode pip)) ql) := by
  unfold Sim.post pipOf
  cases Spec.kind mode
  case post f =>
    exact (h.updF pip _ rfl hp (incN f s.m) f (fun v => (v + 1) % M) (incN_spec h.ctx f)).map
      fun _ h1 => h1.report _
  all_goals exact Ok.intro h

end refine

end Gmars
