/-
  The opcode phase of `exec` (simops.go) against the result part of `Spec.step`,
  one lemma per opcode family.
-/
import Gmars.Proofs.RefineOperand
import Gmars.Proofs.SpecLocal

namespace Gmars

section
variable {M R W : Nat} {s0 s : Sim} {wi : Nat} {P : UInt64} {c : Spec.Core} {ql : List Nat}

theorem Instr.setN_spec (f : Spec.Field) {x : Instr} (hx : x.Bd M) {v : UInt64} {vn : Nat}
    (hv : v.toNat = vn) (hvn : vn < M) :
    (Instr.setN f v x).abs = Spec.setF f x.abs vn ∧ (Instr.setN f v x).Bd M := by
  subst hv
  cases f
  · exact ⟨rfl, hvn, hx.2⟩
  · exact ⟨rfl, hx.1, hvn⟩

theorem arithPairsU_abs (md : Modifier) (ira irb : Instr) :
    (arithPairsU md ira irb).map (fun p => (p.1, p.2.1.toNat, p.2.2.toNat)) =
      Spec.arithPairs md ira.abs irb.abs := by
  cases md <;> rfl

theorem arithPairsU_bd (md : Modifier) {ira irb : Instr} (hira : ira.Bd M) (hirb : irb.Bd M) :
    ∀ p ∈ arithPairsU md ira irb, p.2.1.toNat < M ∧ p.2.2.toNat < M := by
  cases md <;> simp [arithPairsU, hira.1, hira.2, hirb.1, hirb.2]

theorem St.upds (h : St M R W s0 wi P s c ql) (wab : UInt64) (wt : Nat) (hw : wab.toNat = wt)
    (hwt : wt < M) (ok : UInt64 → Bool) (okN : Nat → Bool) (g : UInt64 → UInt64 → UInt64)
    (gN : Nat → Nat → Nat) (hok : ∀ y, ok y = okN y.toNat)
    (hg : ∀ x y : UInt64, x.toNat < M → y.toNat < M → okN y.toNat = true →
      (g x y).toNat = gN x.toNat y.toNat ∧ gN x.toNat y.toNat < M)
    {ps : List (Spec.Field × UInt64 × UInt64)} (hps : ∀ p ∈ ps, p.2.1.toNat < M ∧ p.2.2.toNat < M) :
    Ok (s.upds wab (stores ok g ps)) (fun s' => St M R W s0 wi P s'
      (Spec.applyPairs c wt (ps.map fun p => (p.1, p.2.1.toNat, p.2.2.toNat)) okN gN) ql) := by
  induction ps generalizing s c with
  | nil => exact Ok.intro h
  | cons p ps ih =>
    obtain ⟨f, x, y⟩ := p
    obtain ⟨hx, hy⟩ := hps _ List.mem_cons_self
    show Ok (s.upds wab ((ok y, Instr.setN f (g x y)) :: stores ok g ps)) _
    rw [Sim.upds_cons, hok y]
    refine Ok.bind (P := fun s1 => St M R W s0 wi P s1
      (if okN y.toNat then c.modF wt f (fun _ => gN x.toNat y.toNat) else c) ql) ?_
      fun _ h1 => ih h1 fun p hp => hps p (List.mem_cons_of_mem _ hp)
    cases hb : okN y.toNat
    · exact Ok.intro h
    · exact h.updF wab wt hw hwt _ f (fun _ => gN x.toNat y.toNat)
        (fun _ hz => Instr.setN_spec f hz (hg x y hx hy hb).1 (hg x y hx hy hb).2)

theorem St.next (h : St M R W s0 wi P s c ql) (pc : UInt64) (hpc : pc.toNat < M) :
    Ok (s.pushNext wi ((pc + 1) % s.m))
      (fun s' => St M R W s0 wi P s' c (Spec.enqueue P.toNat ql [(pc.toNat + 1) % M])) := by
  rw [← h.ctx.succ hpc]
  exact h.pushNext _

theorem St.pushNextIf (h : St M R W s0 wi P s c ql) {b bN : Bool} (hb : b = bN)
    (tgt : UInt64) (jt : Nat) (ht : tgt.toNat = jt) (pc : UInt64) (hpc : pc.toNat < M) :
    Ok (s.pushNext wi (if b then tgt else (pc + 1) % s.m)) (fun s' => St M R W s0 wi P s' c
      (Spec.enqueue P.toNat ql [if bN then jt else (pc.toNat + 1) % M])) := by
  subst hb ht
  rw [← h.ctx.succ hpc, ← apply_ite UInt64.toNat]
  exact h.pushNext _

theorem St.pushIf (h : St M R W s0 wi P s c ql) {b bN : Bool} (hb : b = bN)
    (tgt : UInt64) (jt : Nat) (ht : tgt.toNat = jt) (pc : UInt64) (hpc : pc.toNat < M) :
    Ok (if b then s.push wi tgt else s.push wi ((pc + 1) % s.m)) (fun s' => St M R W s0 wi P s' c
      (Spec.enqueue P.toNat ql [if bN then jt else (pc.toNat + 1) % M])) := by
  subst hb ht
  rw [← h.ctx.succ hpc]
  cases b
  · exact h.push _
  · exact h.push tgt

theorem St.skipIf (h : St M R W s0 wi P s c ql) {b bN : Bool} (hb : b = bN)
    (pc : UInt64) (hpc : pc.toNat < M) :
    Ok (s.skipIf b pc wi) (fun s' => St M R W s0 wi P s' c
      (Spec.enqueue P.toNat ql [if bN then (pc.toNat + 2) % M else (pc.toNat + 1) % M])) := by
  subst hb
  rw [← u_succ2_toNat h.ctx.hm h.ctx.dim.m3 h.ctx.dim.m32 hpc,
    ← h.ctx.succ hpc, ← apply_ite UInt64.toNat]
  exact h.pushNext _

theorem St.terminate (h : St M R W s0 wi P s c ql) (pc : UInt64) :
    St M R W s0 wi P (s.terminate wi pc) c (Spec.enqueue P.toNat ql []) :=
  h.report _

theorem St.mov (h : St M R W s0 wi P s c ql) (ir ira irb : Instr) (hira : ira.Bd M)
    (hirb : irb.Bd M)
    (pc : UInt64) {wab : UInt64} {wt : Nat} (hpc : pc.toNat < M) (hw : wab.toNat = wt) (hwt : wt < M) :
    Ok (s.mov ir ira wab pc wi) (fun s' => St M R W s0 wi P s'
      (if ir.md = .i then c.set wt ira.abs
       else Spec.applyPairs c wt (Spec.arithPairs ir.md ira.abs irb.abs) (fun _ => true)
         (fun _ y => y))
      (Spec.enqueue P.toNat ql [(pc.toNat + 1) % M])) := by
  rw [Sim.mov_eq _ _ _ _ ira irb]
  refine Ok.bind (P := fun s1 => St M R W s0 wi P s1 _ ql) ?_ fun _ h1 => h1.next pc hpc
  split
  · subst hw
    exact h.upd wab hwt (fun _ => ira) (fun _ => ira.abs) (fun _ _ => ⟨rfl, hira⟩)
  · rw [← arithPairsU_abs]
    exact h.upds wab wt hw hwt (fun _ => true) (fun _ => true) (fun _ y => y) (fun _ y => y)
      (fun _ => rfl) (fun _ _ _ hy _ => ⟨rfl, hy⟩) (arithPairsU_bd ir.md hira hirb)

theorem St.arith (h : St M R W s0 wi P s c ql) (g : UInt64 → UInt64 → UInt64)
    (gN : Nat → Nat → Nat)
    (hg : ∀ x y : UInt64, x.toNat < M → y.toNat < M →
      (g x y).toNat = gN x.toNat y.toNat ∧ gN x.toNat y.toNat < M)
    (ir ira irb : Instr) (hira : ira.Bd M) (hirb : irb.Bd M)
    (pc : UInt64) {wab : UInt64} {wt : Nat} (hpc : pc.toNat < M) (hw : wab.toNat = wt) (hwt : wt < M) :
    Ok (s.arith g ir ira irb wab pc wi) (fun s' => St M R W s0 wi P s'
      (Spec.applyPairs c wt (Spec.arithPairs ir.md ira.abs irb.abs) (fun _ => true) gN)
      (Spec.enqueue P.toNat ql [(pc.toNat + 1) % M])) := by
  rw [Sim.arith_eq]
  refine Ok.bind (P := fun s1 => St M R W s0 wi P s1 _ ql) ?_ fun _ h1 => h1.next pc hpc
  have hbd := arithPairsU_bd ir.md hira hirb
  split
  · -- the model stores A then B, the reference B then A
    rename_i hx
    rw [hx] at hbd ⊢
    refine (h.upds wab wt hw hwt (fun _ => true) (fun _ => true) g gN
      (fun _ => rfl) (fun x y hx hy _ => hg x y hx hy)
      (fun p hp => hbd p (List.mem_reverse.mp hp))).mono fun s1 h1 => ?_
    have h1' : St M R W s0 wi P s1 ((c.modF wt .A (fun _ => gN irb.a.toNat ira.b.toNat)).modF wt .B
        (fun _ => gN irb.b.toNat ira.a.toNat)) ql := h1
    rwa [Spec.Core.modF_comm c wt (h.length.symm ▸ hwt)] at h1'
  · rw [← arithPairsU_abs]
    exact h.upds wab wt hw hwt (fun _ => true) (fun _ => true) g gN (fun _ => rfl)
      (fun x y hx hy _ => hg x y hx hy) hbd

theorem St.divmod (h : St M R W s0 wi P s c ql) (g : UInt64 → UInt64 → UInt64)
    (gN : Nat → Nat → Nat)
    (hg : ∀ x y : UInt64, x.toNat < M → y.toNat < M → y.toNat ≠ 0 →
      (g x y).toNat = gN x.toNat y.toNat ∧ gN x.toNat y.toNat < M)
    (ir ira irb : Instr) (hira : ira.Bd M) (hirb : irb.Bd M)
    (pc : UInt64) {wab : UInt64} {wt : Nat} (hpc : pc.toNat < M) (hw : wab.toNat = wt) (hwt : wt < M) :
    Ok (s.divmod g ir ira irb wab pc wi) (fun s' => St M R W s0 wi P s'
      (Spec.applyPairs c wt (Spec.arithPairs ir.md ira.abs irb.abs) (· != 0) gN)
      (Spec.enqueue P.toNat ql
        (if (Spec.arithPairs ir.md ira.abs irb.abs).all (fun (_, _, y) => y != 0)
         then [(pc.toNat + 1) % M] else []))) := by
  have hall : (arithPairsU ir.md ira irb).all (fun p => p.2.2 != 0) =
      ((arithPairsU ir.md ira irb).map fun p => (p.1, p.2.1.toNat, p.2.2.toNat)).all
        (fun (_, _, y) => y != 0) := by
    simp only [List.all_map, Function.comp_def, u_ne_zero_iff]
  rw [Sim.divmod_eq, hall, ← arithPairsU_abs]
  refine Ok.bind (h.upds wab wt hw hwt (· != 0) (· != 0) g gN (fun _ => u_ne_zero_iff)
    (fun x y hx hy h0 => hg x y hx hy (bne_iff_ne.mp h0)) (arithPairsU_bd ir.md hira hirb))
    fun _ h1 => ?_
  split
  · exact h1.next pc hpc
  · exact Ok.intro (h1.terminate pc)

theorem St.jmz (h : St M R W s0 wi P s c ql) (ir irb : Instr) {rab : UInt64} {jt : Nat}
    (hj : rab.toNat = jt) (pc : UInt64) (hpc : pc.toNat < M) :
    Ok (s.jmz ir irb rab pc wi) (fun s' => St M R W s0 wi P s' c (Spec.enqueue P.toNat ql
      [if (Spec.testFields ir.md).all (fun f => Spec.getF f irb.abs == 0) then jt
       else (pc.toNat + 1) % M])) := by
  unfold Sim.jmz
  refine h.pushIf ?_ rab jt hj pc hpc
  cases ir.md <;> simp only [Spec.testFields, Spec.getF, Instr.abs, List.all_cons, List.all_nil,
    Bool.and_true, u_eq_zero_iff]

theorem St.jmn (h : St M R W s0 wi P s c ql) (ir irb : Instr) {rab : UInt64} {jt : Nat}
    (hj : rab.toNat = jt) (pc : UInt64) (hpc : pc.toNat < M) :
    Ok (s.jmn ir irb rab pc wi) (fun s' => St M R W s0 wi P s' c (Spec.enqueue P.toNat ql
      [if (Spec.testFields ir.md).any (fun f => Spec.getF f irb.abs != 0) then jt
       else (pc.toNat + 1) % M])) := by
  unfold Sim.jmn
  refine h.pushNextIf ?_ rab jt hj pc hpc
  cases ir.md <;> simp only [Spec.testFields, Spec.getF, Instr.abs, List.any_cons, List.any_nil,
    Bool.or_false, u_ne_zero_iff]

theorem St.djn (h : St M R W s0 wi P s c ql) (ir irb : Instr) (hirb : irb.Bd M)
    {rab : UInt64} {jt : Nat} (hj : rab.toNat = jt)
    (pc : UInt64) {wab : UInt64} {wt : Nat} (hpc : pc.toNat < M) (hw : wab.toNat = wt) (hwt : wt < M) :
    Ok (s.djn ir irb rab wab pc wi) (fun s' => St M R W s0 wi P s'
      ((Spec.testFields ir.md).foldl (fun c f => c.modF wt f (fun v => (v + M - 1) % M)) c)
      (Spec.enqueue P.toNat ql
        [if (Spec.testFields ir.md).any (fun f => (Spec.getF f irb.abs + M - 1) % M != 0) then jt
         else (pc.toNat + 1) % M])) := by
  have hc := h.ctx
  have ta := u_djn_test (x := irb.a) hc.dim.m3 hirb.1
  have tb := u_djn_test (x := irb.b) hc.dim.m3 hirb.2
  have dec : ∀ {s c} (h : St M R W s0 wi P s c ql) (f : Spec.Field),
      Ok (s.upd wab (decN f s.m)) (fun s' => St M R W s0 wi P s'
        (c.modF wt f (fun v => (v + M - 1) % M)) ql) := fun h f =>
    h.updF wab wt hw hwt _ f (fun v => (v + M - 1) % M) (decN_spec h.ctx f)
  -- the decrements return the state with the test on the numbers read before them; then the push
  have fin : ∀ {x : Except Panic (Sim × Bool)} {c' : Spec.Core} (nz nzN : Bool), nz = nzN →
      Ok x (fun r => St M R W s0 wi P r.1 c' ql ∧ r.2 = nz) →
      Ok (x >>= fun (s, nz) => s.pushNext wi (if nz then rab else (pc + 1) % s.m))
        (fun s' => St M R W s0 wi P s' c'
          (Spec.enqueue P.toNat ql [if nzN then jt else (pc.toNat + 1) % M])) :=
    fun nz nzN e hx => Ok.bind hx fun (_, _) ⟨h1, e1⟩ =>
      h1.pushNextIf (e1.trans e) rab jt hj pc hpc
  unfold Sim.djn
  cases ir.md
  -- `List.any` over `testFields` unfolds to `_ || false`, resp. `_ || (_ || false)`
  case a | ba =>
    exact fin (irb.a - 1 != 0) _ (by rw [ta]; exact (Bool.or_false _).symm)
      ((dec h .A).map fun _ h1 => ⟨h1, rfl⟩)
  case b | ab =>
    exact fin (irb.b - 1 != 0) _ (by rw [tb]; exact (Bool.or_false _).symm)
      ((dec h .B).map fun _ h1 => ⟨h1, rfl⟩)
  case f | x | i =>
    exact fin (irb.b - 1 != 0 || irb.a - 1 != 0) _
      (by rw [ta, tb, Bool.or_comm]; exact congrArg _ (Bool.or_false _).symm)
      (Ok.bind (dec h .A) fun _ h1 => (dec h1 .B).map fun _ h2 => ⟨h2, rfl⟩)

end

theorem Instr.abs_inj {x y : Instr} : x.abs = y.abs ↔ x = y := by
  constructor
  · intro h
    cases x; cases y
    simpa only [Instr.abs, SInstr.mk.injEq, UInt64.toNat_inj, Instr.mk.injEq] using h
  · rintro rfl; rfl

theorem eqI_spec (x y : Instr) : x.eqI y = (x.abs == y.abs) := by
  rw [Bool.eq_iff_iff]
  simp only [beq_iff_eq, Instr.abs_inj]
  cases x; cases y
  simp only [Instr.eqI, Bool.and_eq_true, beq_iff_eq, Instr.mk.injEq, and_assoc]
  constructor
  -- `eqI` compares in the order of simops.go (op, md, am, a, bm, b), the structure has (op, md, a, am, b, bm)
  · rintro ⟨h1, h2, h3, h4, h5, h6⟩; exact ⟨h1, h2, h4, h3, h6, h5⟩
  · rintro ⟨h1, h2, h3, h4, h5, h6⟩; exact ⟨h1, h2, h4, h3, h6, h5⟩

theorem cmpCond_spec (ir ira irb : Instr) :
    cmpCond ir ira irb = Spec.eqTest ir.md ira.abs irb.abs := by
  unfold cmpCond Spec.eqTest
  cases ir.md <;> simp only [Spec.cmpPairs, Instr.abs, List.all_cons, List.all_nil,
    Bool.and_true, u_beq_iff, reduceCtorEq, ite_false, ite_true]
  exact eqI_spec ira irb

theorem sneCond_spec (ir ira irb : Instr) :
    sneCond ir ira irb = !Spec.eqTest ir.md ira.abs irb.abs := by
  rw [← cmpCond_spec]
  unfold sneCond cmpCond
  cases ir.md <;> simp only [Instr.eqI, bne, Bool.not_and]

theorem sltCond_spec (ir ira irb : Instr) :
    sltCond ir ira irb = (Spec.cmpPairs ir.md ira.abs irb.abs).all (fun (x, y) => x < y) := by
  unfold sltCond
  cases ir.md <;> simp only [Spec.cmpPairs, Instr.abs, List.all_cons, List.all_nil,
    Bool.and_true, UInt64.lt_iff_toNat_lt]

end Gmars
