/-
  C07 "operand expressions evaluate as integer arithmetic": gmars' `evaluateExpression` on the
  tokens of a precedence-well-formed tree is the tree's denotation (`model_eval_cst`), and so is
  the reference evaluator; hence the two agree (`model_agrees_with_reference`).  At the end the
  number literal, which the FOR counts of C08 and of the FOR programs of C03 rest on
  (`evaluate_numTok`, `eval_numTok`).
-/
import Gmars.Proofs.ExprRef
import Gmars.Proofs.ExprGoParse
import Gmars.Proofs.ExprNormSem
import Gmars.Proofs.ExprScan

namespace Gmars.ExprProofs
open Gmars.GoEval

theorem tokens_printable (c : CST) (hw : WFprec c) : ∀ t ∈ c.tokens, Printable t := by
  induction c with
  | num n => intro t ht; cases List.mem_singleton.mp ht; exact Or.inl ⟨n, rfl⟩
  | signs ss e ih =>
    simp only [WFprec] at hw
    simp only [CST.tokens, List.forall_mem_append, List.forall_mem_map]
    exact ⟨fun s _ => Or.inr (Or.inr (Or.inr ⟨rfl, by cases s <;> decide⟩)), ih hw.2⟩
  | paren e ih =>
    simp only [WFprec] at hw
    simp only [CST.tokens, List.forall_mem_cons, List.forall_mem_append]
    exact ⟨Or.inr (Or.inl rfl), ih hw, Or.inr (Or.inr (Or.inl rfl)), fun _ h => nomatch h⟩
  | bin op l r ihl ihr =>
    simp only [WFprec] at hw
    simp only [CST.tokens, List.forall_mem_cons, List.forall_mem_append]
    exact ⟨ihl hw.2.1, Or.inr (Or.inr (Or.inr ⟨rfl, hw.1⟩)), ihr hw.2.2.1⟩

def TreeAdj (a b : Token) : Prop :=
  (a.typ = .number → b.typ ≠ .number) ∧ (a.typ = .symbol → b.typ = .symbol → isSign b = true)

theorem tokens_first (c : CST) : ∃ x r, c.tokens = x :: r ∧ (x.typ = .symbol → isSign x = true) := by
  obtain ⟨x, r, hx, h⟩ := tokens_head c
  refine ⟨x, r, hx, fun ht => ?_⟩
  rcases h with rfl | ⟨s, rfl⟩ | ⟨n, rfl⟩
  · cases ht
  · exact isSign_signTok s
  · cases ht

theorem tokens_last (c : CST) : ∃ i y, c.tokens = i ++ [y] ∧ y.typ ≠ .symbol := by
  induction c with
  | num n => exact ⟨[], numTok n, rfl, by simp [numTok]⟩
  | paren e ih => exact ⟨lpTok :: e.tokens, rpTok, by simp [CST.tokens], by simp [rpTok]⟩
  | bin op l r ihl ihr =>
    obtain ⟨i, y, hy, h⟩ := ihr
    exact ⟨l.tokens ++ opTok op :: i, y, by simp [CST.tokens, hy], h⟩
  | signs ss e ih =>
    obtain ⟨i, y, hy, h⟩ := ih
    exact ⟨ss.map signTok ++ i, y, by simp [CST.tokens, hy], h⟩

theorem signs_chain (ss : List Bool) : Chain TreeAdj (ss.map signTok) := by
  induction ss with
  | nil => trivial
  | cons s ss ih =>
    cases ss with
    | nil => trivial
    | cons s' ss => exact ⟨⟨fun h => (by cases h), fun _ _ => isSign_signTok s'⟩, ih⟩

theorem chain_after (c : CST) (ih : Chain TreeAdj c.tokens) {t : Token} {l : List Token}
    (h : Chain TreeAdj (t :: l)) (ht : t.typ ≠ .number) : Chain TreeAdj (c.tokens ++ t :: l) := by
  obtain ⟨i, y, hy, hl⟩ := tokens_last c
  refine ih.append h (fun a b ha hb => ?_)
  rw [hy, List.getLast?_concat] at ha
  cases ha
  cases hb
  exact ⟨fun _ => ht, fun h => absurd h hl⟩

theorem tokens_chain (c : CST) : Chain TreeAdj c.tokens := by
  induction c with
  | num n => trivial
  | paren e ih =>
    refine (chain_after e ih (l := []) trivial (by simp [rpTok])).cons (fun b r' e' => ?_)
    exact ⟨fun h => (by cases h), fun h => (by cases h)⟩
  | bin op l r ihl ihr =>
    obtain ⟨x, r', hx, hf⟩ := tokens_first r
    refine chain_after l ihl (ihr.cons (fun b r'' e' => ?_)) (by simp [opTok])
    rw [hx] at e'
    cases e'
    exact ⟨fun h => (by cases h), fun _ h => hf h⟩
  | signs ss e ih =>
    obtain ⟨x, r', hx, hf⟩ := tokens_first e
    refine (signs_chain ss).append ih (fun a b ha hb => ?_)
    rw [hx] at hb
    cases hb
    obtain ⟨s, _, rfl⟩ := List.mem_map.1 (List.mem_of_getLast? ha)
    exact ⟨fun h => (by cases h), fun _ h => hf h⟩

theorem tokens_map_tokG (c : CST) : c.tokens.map tokG = c.gtoks := by
  induction c with
  | num n => simp [CST.tokens, CST.gtoks, tokG_numTok]
  | paren e ih => simp [CST.tokens, CST.gtoks, ih]; exact ⟨rfl, rfl⟩
  | bin op l r ihl ihr => simp [CST.tokens, CST.gtoks, ihl, ihr]; rfl
  | signs ss e ih =>
    simp only [CST.tokens, CST.gtoks, List.map_append, List.map_map, ih]
    congr 1

theorem gtoks_no_bad (c : CST) : c.gtoks.contains GTok.bad = false := by
  induction c with
  | num n => rfl
  | signs ss e ih => simpa [CST.gtoks] using ih
  | paren e ih => simpa [CST.gtoks] using ih
  | bin op l r ihl ihr => simp_all [CST.gtoks]

theorem goEval_norm (c : CST) (hw : WFprec c) (hb : NoBigLit c) :
    GoEval.eval (String.join ((flipDoubleNegatives (combineSigns c.tokens)).map (·.val))) =
      resOf (denote c) := by
  obtain ⟨c₁, c', hw1, h1, s, h2⟩ := signs_stage c hw
  obtain ⟨hwn, hd, hbn⟩ := s.wf hw
  have hadj : Chain ScanAdj c'.tokens := by
    have hsym : ∀ t ∈ combineSigns c.tokens, isSign t = true → t.typ = .symbol := by
      intro t ht hs
      rw [h1] at ht
      rcases tokens_printable _ hw1 t ht with ⟨n, rfl⟩ | rfl | rfl | ⟨h', _⟩
      · rw [isSign_numTok] at hs; cases hs
      · cases hs
      · cases hs
      · exact h'
    have a2 := flip_noMM (combineSigns c.tokens)
    have a3 := flip_noPP (combineSigns c.tokens) false (combineSigns_signsFolded c.tokens) hsym
    rw [h2] at a2 a3
    exact (((tokens_chain c').and a2).and a3).imp (fun a b h => ⟨h.1.1.1, h.1.1.2, h.1.2, h.2⟩)
  unfold GoEval.eval
  simp only
  rw [h2, join_toList, scan_tokens c'.tokens (tokens_printable _ hwn) hadj _
      (by have := length_le_tokChars _ (tokens_printable _ hwn); omega)]
  simp only [tokens_map_tokG, gtoks_no_bad, Bool.false_eq_true, if_false]
  rw [parseBinary_gtoks _ hwn (hbn hb), hd, map_sg_false]

theorem range32 (v : Int) :
    (-2 ^ 31 ≤ v ∧ v < 2 ^ 31) ↔ (-2147483648 ≤ v ∧ v ≤ 2147483647) := by
  have e : (2 : Int) ^ 31 = 2147483648 := by decide
  omega

/-- The model of gmars' `evaluateExpression` (sign folding, double-negative
    rewriting, string concatenation, `go/types.Eval`, 32-bit range check) computes the denotation
    of every precedence-well-formed tree whose literals and intermediate values are below `2^500`
    in absolute value: sign runs of any length and redundant parentheses included. -/
theorem model_eval_cst (c : CST) (hw : WFprec c) (hb : NoBigLit c) :
    evaluateExpression c.tokens =
      match denote c with
      | some v => if -2 ^ 31 ≤ v ∧ v < 2 ^ 31 then .ok v else .err
      | none => .err := by
  have hany : (c.tokens.any (fun t => t.typ == .text || !t.isExpressionTerm)) = false := by
    rw [List.any_eq_false]
    intro t ht
    rcases tokens_printable c hw t ht with ⟨n, rfl⟩ | rfl | rfl | ⟨h', _⟩
    · simp [numTok, Token.isExpressionTerm]
    · simp [lpTok, Token.isExpressionTerm]
    · simp [rpTok, Token.isExpressionTerm]
    · simp [h', Token.isExpressionTerm]
  unfold evaluateExpression
  simp only [hany, Bool.false_eq_true, if_false]
  rw [goEval_norm c hw hb]
  cases denote c with
  | none => rfl
  | some v =>
    simp only [resOf, range32]

theorem model_agrees_with_reference (c : CST) (hw : WFprec c) (hb : NoBigLit c) :
    evaluateExpression c.tokens =
      match Spec.Expr.evalInt c.etoks with
      | some v => .ok v
      | none => .err := by
  rw [model_eval_cst c hw hb, reference_evalInt_cst c hw]
  cases denote c with
  | none => rfl
  | some v =>
    simp only [range32, Option.bind_some]
    split <;> rfl

theorem nobig_num {n k : Nat} (h : n < 2 ^ k) (hk : k < 500) : NoBigLit (.num n) :=
  Int.lt_trans (b := 2 ^ k) (by exact_mod_cast h) (Int.pow_lt_pow_of_lt (by decide) hk)

theorem evaluate_numTok (n : Nat) (h : n < 2 ^ 31) : evaluateExpression [numTok n] = .ok (n : Int) := by
  have := model_eval_cst (.num n) trivial (nobig_num h (by decide))
  simp only [CST.tokens, denote] at this
  rw [this, if_pos ⟨by omega, by exact_mod_cast h⟩]

theorem expandAndEvaluate_nil (expr : List Token) :
    expandAndEvaluate expr [] = evaluateExpression expr := by
  unfold expandAndEvaluate
  simp only [buildReferenceGraph, List.filterMap_nil, graphContainsCycle, List.any_nil,
    Bool.false_eq_true, ↓reduceIte, expandExpressions, List.foldl_nil]
  congr 1
  induction expr with
  | nil => rfl
  | cons a as ih =>
    rw [List.flatMap_cons, ih]
    split <;> rfl

/-- C08: the count of a FOR line when it is a number literal and no EQU symbol is defined -/
theorem eval_numTok (n : Nat) (h : n < 2 ^ 31) : expandAndEvaluate [numTok n] [] = .ok (n : Int) := by
  rw [expandAndEvaluate_nil, evaluate_numTok n h]

end Gmars.ExprProofs
