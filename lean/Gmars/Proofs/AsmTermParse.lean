/-
  C05: the parser on a terminated token stream, the reader side.

  Invariant of the reader: `atEOF` is not set and look-ahead :: unread tokens is a terminated
  stream. Every state function either stops or keeps the invariant, and as long as the reader
  stays live strictly decreases `φ = 4 * (unread tokens) + w state look-ahead`, where `w ≤ 3`
  ranks the state functions that hand over without consuming a token (the state functions
  themselves and the two loops: AsmCostParse). Here: `next()` under the invariant.
-/
import Gmars.Proofs.AsmTermBase
import Gmars.Model.Parser

namespace Gmars
namespace Parser

structure Inv (p : PState) : Prop where
  live : p.atEOF = false
  term : termB p.nextToken p.rest = true

theorem Inv.congr {p q : PState} (h : Inv p) (h1 : q.atEOF = p.atEOF) (h2 : q.nextToken = p.nextToken)
    (h3 : q.rest = p.rest) : Inv q := ⟨by rw [h1, h.live], by rw [h2, h3, h.term]⟩

theorem Inv.emit {p : PState} (h : Inv p) : Inv (emit p) := ⟨h.live, h.term⟩
theorem Inv.incNewlines {p : PState} (h : Inv p) : Inv (incNewlines p) := ⟨h.live, h.term⟩

/-- rank of a state function among those that can run without consuming a token: a hand-over
    that reads nothing goes down in rank (exprX → line → labels → colon), and `emptyLines` /
    `colon` entered on their own token read it at once -/
def w : St → Token → Nat
  | .line, _ => 2
  | .emptyLines, t => if t.typ = .newline then 0 else 3
  | .labels, _ => 1
  | .colon, t => if t.typ = .colon then 0 else 2
  | .pseudoExpr, _ => 3
  | .exprA, _ => 3
  | .exprB, _ => 3
  | .comment, _ => 0
  | .pseudoOp, _ => 0
  | .op, _ => 0
  | .modeA, _ => 0
  | .comma, _ => 0
  | .modeB, _ => 0

theorem w_le (s : St) (t : Token) : w s t ≤ 3 := by
  cases s <;> simp only [w] <;> first | omega | (split <;> omega)

def φ (s : St) (p : PState) : Nat := 4 * p.rest.length + w s p.nextToken

theorem next_fst {p : PState} (h : p.atEOF = false) : (next p).1 = p.nextToken := by
  unfold next; rw [h]; cases p.rest <;> rfl

theorem advance_cons {p : PState} {u : Token} {r : List Token} (hl : p.atEOF = false)
    (hr : p.rest = u :: r) :
    (advance p).atEOF = false ∧ (advance p).nextToken = u ∧ (advance p).rest = r := by
  simp [advance, next, hl, hr]

theorem advance_live {p : PState} (h : (advance p).atEOF = false) :
    p.atEOF = false ∧ (advance p).rest.length + 1 = p.rest.length := by
  unfold advance next at *
  cases ha : p.atEOF <;> cases hr : p.rest <;> simp_all

theorem Inv.adv_live {p : PState} (h : Inv p) (hn : p.nextToken.isTerm = false) :
    Inv (advance p) ∧ (advance p).rest.length + 1 = p.rest.length := by
  obtain ⟨u, r, hr, hur⟩ := termB_live h.term hn
  obtain ⟨h1, h2, h3⟩ := advance_cons h.live hr
  exact ⟨⟨h1, by rw [h2, h3]; exact hur⟩, by rw [h3, hr]; rfl⟩

/-- `next()` that leaves a live look-ahead has read it: on the terminating token it would have
    left the look-ahead as it was -/
theorem Inv.adv_next {p : PState} (h : Inv p) (hn : (advance p).nextToken.isTerm = false) :
    Inv (advance p) ∧ (advance p).rest.length + 1 = p.rest.length := by
  cases ht : p.nextToken.isTerm
  · exact h.adv_live ht
  · have hr := termB_last h.term ht
    have : (advance p).nextToken = p.nextToken := by simp [advance, next, h.live, hr]
    rw [this, ht] at hn; cases hn

theorem Inv.not_frozen {p : PState} (h : Inv p) (hn : p.nextToken.isTerm = false) : frozen p = false := by
  obtain ⟨u, r, hr, _⟩ := termB_live h.term hn
  simp [frozen, hr]

theorem isTerm_of_typ {t : Token} {ty : TokType} (h : t.typ = ty) (h1 : ty ≠ .eof) (h2 : ty ≠ .error) :
    t.isTerm = false := by
  simp [Token.isTerm, h, h1, h2]

theorem isTerm_of_exprTerm {t : Token} (h : t.isExpressionTerm = true) : t.isTerm = false := by
  simp [Token.isExpressionTerm] at h
  simp [Token.isTerm]
  rcases h with (((h | h) | h) | h) | h <;> simp [h]

theorem isTerm_of_addressMode {t : Token} (h : t.isAddressMode = true) : t.isTerm = false := by
  simp [Token.isAddressMode] at h
  simp [Token.isTerm, h.1]

theorem isTerm_of_isOp {t : Token} (h : t.isOp = true) : t.isTerm = false := by
  unfold Token.isOp at h
  split at h
  · cases h
  · rename_i h'
    simp at h'
    simp [Token.isTerm, h']

theorem newParser_inv {t : Token} {r : List Token} (h : termB t r = true) :
    Inv (newParser (t :: r)) ∧ (newParser (t :: r)).rest = r := by
  obtain ⟨h1, h2, h3⟩ := advance_cons (p := { rest := t :: r }) (u := t) (r := r) rfl rfl
  unfold newParser
  exact ⟨⟨h1, by rw [h2, h3]; exact h⟩, h3⟩

theorem φ_newParser (t : Token) (r : List Token) :
    φ .line (newParser (t :: r)) < runFuel (t :: r) := by
  simp [φ, w, newParser, advance, next, runFuel]; omega

end Parser

end Gmars
