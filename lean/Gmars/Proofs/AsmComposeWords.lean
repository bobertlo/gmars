/-
  Expression templates (`AsmLine.NT`), names and numbers as the words of a source line
  (`Render.Word`), so that the lexer theorem `Render.lex_tokens_words` applies to label programs.
-/
import Gmars.Proofs.AsmReps
import Gmars.Proofs.RenderCompose

namespace Gmars
namespace AsmCompose
open Gmars.Render Gmars.AsmLine Gmars.ExprProofs

def identWord (s : String) : Word :=
  match s.toList with
  | c :: cs => .ident c cs
  | [] => .sym ' '

/-- the name is an identifier `[A-Za-z_][A-Za-z0-9_.]*` -/
def identOK (s : String) : Bool := (identWord s).isIdent && (identWord s).valid

theorem identWord_spec {s : String} (h : identOK s = true) :
    ∃ c cs, s.toList = c :: cs ∧ identWord s = .ident c cs ∧ (Word.ident c cs).valid = true := by
  unfold identOK identWord at h
  unfold identWord
  cases hs : s.toList with
  | nil => rw [hs] at h; simp [Word.isIdent] at h
  | cons c cs => rw [hs] at h; exact ⟨c, cs, rfl, rfl, by simpa [Word.isIdent] using h⟩

def identL : List Char → Bool
  | c :: cs => isIdentStart c && cs.all isIdentChar
  | [] => false

theorem identOK_eq (s : String) : identOK s = identL s.toList := by
  unfold identOK identWord identL
  cases s.toList with
  | nil => rfl
  | cons c cs => simp [Word.isIdent, Word.valid]

theorem identWord_tok {s : String} (h : identOK s = true) : (identWord s).tok = ⟨.text, s⟩ := by
  obtain ⟨c, cs, hs, hw, _⟩ := identWord_spec h
  rw [hw, Word.tok, ← hs, String.ofList_toList]

theorem identWord_isIdent {s : String} (h : identOK s = true) : (identWord s).isIdent = true := by
  simp only [identOK, Bool.and_eq_true] at h; exact h.1

theorem identWord_valid {s : String} (h : identOK s = true) : (identWord s).valid = true := by
  simp only [identOK, Bool.and_eq_true] at h; exact h.2

theorem identWord_val {s : String} (h : identOK s = true) : (identWord s).tok.val = s := by
  rw [identWord_tok h]

theorem identWord_exprOK {s : String} (h : identOK s = true) : exprWordOK (identWord s) = true := by
  obtain ⟨c, cs, _, hw, hv⟩ := identWord_spec h
  rw [hw]; simp [exprWordOK, hv]

theorem identWord_notMode {s : String} (h : identOK s = true) : isModeWord (identWord s) = false := by
  obtain ⟨c, cs, _, hw, _⟩ := identWord_spec h
  rw [hw]; rfl

def numWord (n : Nat) : Word :=
  match Nat.toDigits 10 n with
  | c :: cs => .num c cs
  | [] => .sym ' '

theorem numWord_spec (n : Nat) :
    ∃ c cs, Nat.toDigits 10 n = c :: cs ∧ numWord n = .num c cs ∧ (Word.num c cs).valid = true := by
  cases hd : Nat.toDigits 10 n with
  | nil => exact absurd hd Nat.toDigits_ne_nil
  | cons c cs =>
    refine ⟨c, cs, rfl, by simp [numWord, hd], ?_⟩
    have hall : ∀ x ∈ c :: cs, x.isDigit = true := by
      intro x hx
      rw [← hd] at hx
      exact Nat.isDigit_of_mem_toDigits (by omega) (by omega) hx
    simp only [Word.valid, Bool.and_eq_true, List.all_eq_true, Bool.or_eq_true, bne_iff_ne, ne_eq,
      List.isEmpty_iff]
    refine ⟨⟨hall c (by simp), fun x hx => hall x (by simp [hx])⟩, ?_⟩
    by_cases hn : 0 < n
    · obtain ⟨c', cs', h', hc0⟩ := GoStr.toDigits_head_ne_zero n hn
      rw [hd] at h'
      cases h'
      exact Or.inl hc0
    · have : n = 0 := by omega
      subst this
      right
      have : Nat.toDigits 10 0 = ['0'] := by decide
      rw [this] at hd
      cases hd
      rfl

theorem numWord_tok (n : Nat) : (numWord n).tok = numTok n := by
  obtain ⟨c, cs, hd, hw, _⟩ := numWord_spec n
  rw [hw]
  simp only [Word.tok, numTok]
  rw [← hd]
  rfl

theorem numWord_valid (n : Nat) : (numWord n).valid = true := by
  obtain ⟨c, cs, _, hw, hv⟩ := numWord_spec n
  rw [hw]; exact hv

theorem numWord_exprOK (n : Nat) : exprWordOK (numWord n) = true := by
  obtain ⟨c, cs, _, hw, hv⟩ := numWord_spec n
  rw [hw]; simp [exprWordOK, hv]

theorem numWord_notMode (n : Nat) : isModeWord (numWord n) = false := by
  obtain ⟨c, cs, _, hw, _⟩ := numWord_spec n
  rw [hw]; rfl

def opWord (op : String) : Word :=
  match op.toList with
  | [c] => .sym c
  | _ => .sym ' '

def signWord (b : Bool) : Word := .sym (if b then '-' else '+')

theorem opWord_spec {op : String} (h : isArith op) :
    (opWord op).tok = opTok op ∧ exprWordOK (opWord op) = true := by
  rcases h with h | h | h | h | h <;> subst h <;> exact ⟨by decide, by decide⟩

theorem signWord_spec (b : Bool) :
    (signWord b).tok = signTok b ∧ exprWordOK (signWord b) = true ∧ isModeWord (signWord b) = false := by
  cases b <;> exact ⟨by decide, by decide, by decide⟩

def NTwords : NT → List Word
  | .num n => [numWord n]
  | .name s => [identWord s]
  | .signs ss e => ss.map signWord ++ NTwords e
  | .paren e => Word.sym '(' :: (NTwords e ++ [Word.sym ')'])
  | .bin op l r => NTwords l ++ opWord op :: NTwords r

def NTLexOK : NT → Prop
  | .num _ => True
  | .name s => identOK s = true
  | .signs _ e => NTLexOK e
  | .paren e => NTLexOK e
  | .bin op l r => isArith op ∧ NTLexOK l ∧ NTLexOK r

instance : (e : NT) → Decidable (NTLexOK e)
  | .num _ => isTrue trivial
  | .name s => by unfold NTLexOK; infer_instance
  | .signs _ e => by unfold NTLexOK; exact instDecidableNTLexOK e
  | .paren e => by unfold NTLexOK; exact instDecidableNTLexOK e
  | .bin op l r => by
    unfold NTLexOK
    have := instDecidableNTLexOK l
    have := instDecidableNTLexOK r
    infer_instance

theorem NTwords_tok (e : NT) (h : NTLexOK e) : (NTwords e).map Word.tok = e.tokens := by
  induction e with
  | num n => simp [NTwords, NT.tokens, numWord_tok]
  | name s => simp [NTwords, NT.tokens, identWord_tok h, textTok]
  | signs ss e ih =>
    simp only [NTwords, NT.tokens, List.map_append, List.map_map, ih h]
    congr 1
    apply List.map_congr_left
    intro b _
    exact (signWord_spec b).1
  | paren e ih =>
    simp only [NTwords, NT.tokens, List.map_cons, List.map_append, List.map_nil, ih h]
    rfl
  | bin op l r ihl ihr =>
    obtain ⟨hop, hl, hr⟩ := h
    simp only [NTwords, NT.tokens, List.map_cons, List.map_append, ihl hl, ihr hr,
      (opWord_spec hop).1]

end AsmCompose
end Gmars
