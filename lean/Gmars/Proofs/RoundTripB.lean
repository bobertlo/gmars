/-
  C16: the listing printed by `LoadCode()` (model `loadCode`), read back with the pMARS
  conventions (`Spec.readText`), denotes the warrior.  First the reference reader's views of the
  instruction text `itext` of Proofs/LineSyntax.lean (`parse_itext`: what `Spec.parseInstrText`
  returns; `fields_itext`, `trimSpace_itext`: what `readText` sees of the line before that), then
  the listing line as an `itext` with the Sprintf columns as its gaps.
-/
import Gmars.Proofs.LineSyntax

namespace Gmars.RoundTrip
open Gmars.GoStr

theorem parseSigned_digits {ds : Str} (hne : ds ≠ []) (hd : ∀ c ∈ ds, isDigit c = true) :
    Spec.parseSigned ds = some (digitsVal ds : Int) := by
  have hall : ds.all isDigit = true := by rw [List.all_eq_true]; exact hd
  cases ds with
  | nil => exact absurd rfl hne
  | cons c r =>
    have hc : isDigit c = true := hd c (by simp)
    have h1 : c ≠ '+' := by intro h; subst h; revert hc; decide
    have h2 : c ≠ '-' := by intro h; subst h; revert hc; decide
    unfold Spec.parseSigned
    split
    · rename_i heq; simp only [List.cons.injEq] at heq; exact absurd heq.1 h2
    · rename_i heq; simp only [List.cons.injEq] at heq; exact absurd heq.1 h1
    · simp [hall]

theorem parseSigned_showInt (i : Int) : Spec.parseSigned (showInt i) = some i := by
  unfold showInt natDigits
  split
  · simp only [Spec.parseSigned, toDigits_isEmpty, toDigits_all, Bool.not_true, Bool.or_self,
      Bool.false_eq_true, if_false, digitsVal_toDigits, Option.some.injEq]
    omega
  · rw [parseSigned_digits Nat.toDigits_ne_nil (toDigits_all_isDigit _), digitsVal_toDigits]
    congr 1
    omega

theorem modeOfChar_sym (m : Mode) : Spec.modeOfChar m.sym = some m := by cases m <;> decide

theorem parseOperand_layout (g g' g'' A : Str) (m : Mode) (v : Int) (hg : AllSpace g)
    (hg' : AllSpace g') (hg'' : AllSpace g'') (hA : Word A) (hv : Spec.parseSigned A = some v) :
    Spec.parseOperand (g ++ m.sym :: (g' ++ A) ++ g'') = some (m, v) := by
  have ht : trimSpace (g ++ m.sym :: (g' ++ A) ++ g'') = m.sym :: (g' ++ A) :=
    trimSpace_words hg hg'' (word_sym m).isWord hA.isWord ⟨g' ++ A, rfl⟩ ⟨m.sym :: g', rfl⟩
  have ht2 : trimSpace (g' ++ A) = A := by
    have := trimSpace_noSpace hg' allSpace_nil hA.isWord.2
    simpa using this
  unfold Spec.parseOperand
  rw [ht]
  simp only [ht2, modeOfChar_sym, hv]
  rfl

theorem operand_no_comma (g g' g'' A : Str) (m : Mode) (hg : AllSpace g)
    (hg' : AllSpace g') (hg'' : AllSpace g'') (hA : Word A) :
    ∀ c ∈ g ++ m.sym :: (g' ++ A) ++ g'', c ≠ ',' := by
  have e : isAsciiSpace ',' = false := by decide
  intro c hc
  simp only [List.mem_append, List.mem_cons] at hc
  rcases hc with (hc | hc | hc | hc) | hc
  · exact allSpace_ne hg e c hc
  · subst hc; exact ((word_sym m).2 _ (List.mem_singleton_self _)).2.1
  · exact allSpace_ne hg' e c hc
  · exact (hA.2 c hc).2.1
  · exact allSpace_ne hg'' e c hc

variable {g : Gaps} {tok A B : Str} (am bm : Mode)

theorem parse_itext (h : Spelt g tok A B) {opN : Str} {op : Op} {mdo : Option Modifier} {a b : Int}
    (hsplit : (splitOnChar tok '.' = [opN] ∧ mdo = none) ∨
      (∃ mN md, splitOnChar tok '.' = [opN, mN] ∧ Spec.modOfName mN = some md ∧ mdo = some md))
    (hop : Spec.opOfName opN = some op) (hA : Spec.parseSigned A = some a)
    (hB : Spec.parseSigned B = some b) :
    Spec.parseInstrText (itext g tok am A bm B) = some (op, mdo, am, a, bm, b) := by
  have s := fun k (hk : Blanks k) => blanks_allSpace hk
  have hg := h.gaps
  -- the operands in the shape `parseOperand_layout` reads; the B operand with an empty gap behind
  let L := g.g1 ++ am.sym :: (g.g2 ++ A) ++ g.g3
  let R := g.g4 ++ bm.sym :: (g.g5 ++ B) ++ []
  have e : itext g tok am A bm B = g.g0 ++ (tok ++ (L ++ ',' :: R)) ++ g.g6 := by
    simp only [itext, L, R, List.append_assoc, List.cons_append, List.nil_append, List.append_nil]
  have hcomma := operand_no_comma g.g1 g.g2 g.g3 A am (s _ hg.b1) (s _ hg.b2) (s _ hg.b3) h.A
  have hcomma2 := operand_no_comma g.g4 g.g5 [] B bm (s _ hg.b4) (s _ hg.b5) allSpace_nil h.B
  have ht : trimSpace (itext g tok am A bm B) = tok ++ (L ++ ',' :: R) := by
    rw [e]
    exact trimSpace_words (s _ hg.b0) (s _ hg.b6) h.tok.isWord h.B.isWord (List.prefix_append _ _)
      ⟨tok ++ (L ++ ',' :: (g.g4 ++ bm.sym :: g.g5)), by simp [R]⟩
  -- the token ends at the first blank, which is there because `g1` is not empty
  have hcut := span_of (fun c => !isAsciiSpace c) tok (L ++ ',' :: R)
    (fun c hc => by rw [h.tok.isWord.2 c hc]; rfl) (by
      cases h1 : g.g1 with
      | nil => exact absurd h1 hg.n1
      | cons x xs =>
        simp only [L, h1, List.cons_append, List.head?_cons, Option.mem_def, Option.some.injEq]
        rintro c rfl
        rw [s _ hg.b1 x (by simp [h1])]; rfl)
  have hl := parseOperand_layout g.g1 g.g2 g.g3 A am a (s _ hg.b1) (s _ hg.b2) (s _ hg.b3) h.A hA
  have hr := parseOperand_layout g.g4 g.g5 [] B bm b (s _ hg.b4) (s _ hg.b5) allSpace_nil h.B hB
  unfold Spec.parseInstrText
  simp only [ht, hcut.1, hcut.2,
    splitOnChar_one ',' L R hcomma hcomma2]
  rcases hsplit with ⟨h1, rfl⟩ | ⟨mN, md, h1, h2, rfl⟩
  · simp only [h1, hop, hl, hr, L, R]
    rfl
  · simp only [h1, h2, hop, Option.map_some, hl, hr, L, R]
    rfl

/-- the hypotheses on the gaps are the layout of `LoadCode()`: the comma directly behind the
    A-number, the B-number last; `pre`: label words in front -/
theorem fields_itext (h : Spelt g tok A B) (h0 : g.g0 = []) (h3 : g.g3 = []) (h4 : g.g4 ≠ [])
    (h6 : g.g6 = []) (pre : List (Str × Str)) (hpre : ∀ p ∈ pre, IsWord p.1 ∧ IsSep p.2) :
    fields (layout [] pre ++ itext g tok am A bm B) =
      pre.map (·.1) ++ [tok, [am.sym], A ++ [','], [bm.sym], B] := by
  have hg := h.gaps
  have e : layout [] pre ++ itext g tok am A bm B =
      layout [] (pre ++ [(tok, g.g1), ([am.sym], g.g2), (A ++ [','], g.g4), ([bm.sym], g.g5)]) ++ B := by
    simp [itext, layout, h0, h3, h6]
  rw [e, fields_layout_append _ _ _ allSpace_nil ?_, fields_word h.B.isWord]
  · simp
  · intro p hp
    simp only [List.mem_append, List.mem_cons, List.not_mem_nil, or_false] at hp
    rcases hp with hp | rfl | rfl | rfl | rfl
    · exact hpre p hp
    · exact ⟨h.tok.isWord, hg.n1, blanks_allSpace hg.b1⟩
    · exact ⟨(word_sym _).isWord, hg.n2, blanks_allSpace hg.b2⟩
    · exact ⟨⟨by simp, List.forall_mem_append.2 ⟨h.A.isWord.2, by simp [isAsciiSpace]⟩⟩, h4,
        blanks_allSpace hg.b4⟩
    · exact ⟨(word_sym _).isWord, hg.n5, blanks_allSpace hg.b5⟩

theorem trimSpace_itext (h : Spelt g tok A B) (h0 : g.g0 = []) (h6 : g.g6 = [])
    (pre : List (Str × Str)) (hpre : ∀ p ∈ pre, IsWord p.1 ∧ IsSep p.2) {l r : Str}
    (hl : AllSpace l) (hr : AllSpace r) :
    trimSpace (l ++ (layout [] pre ++ itext g tok am A bm B) ++ r) =
      layout [] pre ++ itext g tok am A bm B := by
  have hB : B <:+ layout [] pre ++ itext g tok am A bm B := by
    simp only [itext, h6, List.append_nil]
    exact List.suffix_append_of_suffix (List.suffix_append _ _)
  cases pre with
  | nil => exact trimSpace_words hl hr h.tok.isWord h.B.isWord (by simp [itext, layout, h0]) hB
  | cons p ps => exact trimSpace_words hl hr (hpre p (by simp)).1 h.B.isWord (by simp [layout]) hB

/-- an instruction as `Spec.readText` returns it: modifier optional, fields signed -/
abbrev PI := Op × Option Modifier × Mode × Int × Mode × Int

theorem go_instr {l : Str} {rest : List Str} {f0 f1 f2 : Str} {fr : List Str} (lbl : Bool)
    {x : PI} {code : List PI} {start label : Option Nat} {ref : Bool}
    (hf : fields l = f0 :: f1 :: f2 :: fr) (hh : (toLower f0 == "start".toList) = lbl)
    (hp : Spec.parseInstrText (if lbl then (trimLeft l).drop 5 else l) = some x) :
    Spec.readText.go (l :: rest) code start label ref =
      Spec.readText.go rest (x :: code) start (if lbl then some code.length else label) ref := by
  have hb : (Option.map toLower (f0 :: f1 :: f2 :: fr).head? == some "start".toList) = lbl := by
    simpa using hh
  rw [Spec.readText.go]
  cases lbl <;> simp only [hf, hb, Bool.false_eq_true, if_false, if_true] at hp ⊢ <;> simp only [hp]

def orgLine : Str := "       ORG      START".toList
def endLine : Str := "       END      START".toList

/-- a printed line as the reference reader sees it -/
def seen (l : Str) : Str := trimSpace (Spec.stripComment (l ++ ['\n']))

theorem start_lower : (toLower "START".toList == "start".toList) = true := by decide

theorem go_org_start (rest : List Str) (code : List PI) (start label : Option Nat) (ref : Bool) :
    Spec.readText.go (seen orgLine :: rest) code start label ref =
      Spec.readText.go rest code start label true := by
  have hf : fields (seen orgLine) = ["ORG".toList, "START".toList] := by decide +kernel
  have h1 : (toLower "ORG".toList == "org".toList) = true := by decide
  have h3 : (toLower "ORG".toList == "end".toList) = false := by decide
  rw [Spec.readText.go]
  simp only [hf, h1, start_lower, h3, Bool.true_or, if_true, Bool.false_eq_true, if_false]

theorem go_end_start (rest : List Str) (code : List PI) (start label : Option Nat) (ref : Bool) :
    Spec.readText.go (seen endLine :: rest) code start label ref =
      some { code := code.reverse, start := (label.orElse (fun _ => start)).getD 0 } := by
  have hf : fields (seen endLine) = ["END".toList, "START".toList] := by decide +kernel
  have h1 : (toLower "END".toList == "end".toList) = true := by decide
  rw [Spec.readText.go]
  simp only [hf, h1, start_lower, Bool.or_true, if_true]

theorem go_nil (code : List PI) (start label : Option Nat) (ref : Bool) :
    Spec.readText.go [] code start label ref =
      some { code := code.reverse,
             start := if ref then (label.orElse (fun _ => start)).getD 0 else start.getD 0 } := by
  rw [Spec.readText.go]

def parsedOf (m : UInt64) (legacy : Bool) (i : Instr) : PI :=
  (i.op, (if legacy then none else some i.md), i.am, addressSigned m i.a, i.bm, addressSigned m i.b)

theorem parseInstrText_blanks {g : Str} (hg : AllSpace g) (s : Str) :
    Spec.parseInstrText (g ++ s) = Spec.parseInstrText s := by
  simp only [Spec.parseInstrText, trimSpace, trimLeft_allSpace hg]

theorem range_map_eq {β : Type} (a : Array Instr) (f : Nat → Instr → β) :
    (List.range a.size).map (fun i => f i (a.getD i default)) =
      a.toList.zipIdx.map (fun p => f p.2 p.1) := by
  apply List.ext_getElem
  · simp
  · intro n h1 h2
    have hn : n < a.size := by simpa using h1
    simp [Array.getD, hn]

theorem fieldEq_addressSigned (m a : UInt64) :
    Spec.fieldEq m.toNat (addressSigned m a) a.toNat = true := by
  unfold Spec.fieldEq addressSigned
  split
  · have e : -((m.toNat : Int) - (a.toNat : Int)) = (a.toNat : Int) + (m.toNat : Int) * (-1) := by omega
    rw [e, Int.add_mul_emod_self_left]
    simp
  · simp

theorem zip_map_all {α β : Type} (P : α → β) (F : β × α → Bool) (c : List α) :
    ((c.map P).zip c).all F = c.all (fun i => F (P i, i)) := by
  induction c with
  | nil => rfl
  | cons i r ih => simp [ih]

theorem denotes_parsed (m : UInt64) (legacy : Bool) (c : List Instr) (s : Nat) (start : Int)
    (hstart : (s : Int) = start) (hl : legacy = true → ∀ i ∈ c, Spec.Legal88 i = true) :
    Spec.denotes m.toNat { code := c.map (parsedOf m legacy), start := s } c start = true := by
  unfold Spec.denotes
  simp only [List.length_map, beq_self_eq_true, hstart, Bool.true_and]
  rw [zip_map_all, List.all_eq_true]
  intro i hi
  cases legacy
  · simp [parsedOf, fieldEq_addressSigned]
  · have := hl rfl i hi
    simp only [Spec.Legal88] at this
    simp [parsedOf, fieldEq_addressSigned, this]

/-- a field as `LoadCode()` prints it -/
def num (m x : UInt64) : Str := showInt (addressSigned m x)

/-- the blanks the Sprintf columns of `listingLine` put around the tokens -/
def lgaps (m : UInt64) (legacy : Bool) (i : Instr) : Gaps where
  g0 := []
  g1 := List.replicate (3 - (if legacy then [] else '.' :: i.md.name.toList).length) ' ' ++ [' ']
  g2 := ' ' :: List.replicate (5 - (num m i.a).length) ' '
  g3 := []
  g4 := [' ']
  g5 := ' ' :: List.replicate (5 - (num m i.b).length) ' '
  g6 := []

theorem lgaps_ok (m : UInt64) (legacy : Bool) (i : Instr) : (lgaps m legacy i).ok where
  b0 := blanks_nil
  b1 := List.forall_mem_append.2 ⟨blanks_replicate _, blanks_one⟩
  b2 := blanks_replicate (_ + 1)
  b3 := blanks_nil
  b4 := blanks_one
  b5 := blanks_replicate (_ + 1)
  b6 := blanks_nil
  n1 := by simp [lgaps]
  n2 := by simp [lgaps]
  n5 := by simp [lgaps]

def ltext (m : UInt64) (legacy : Bool) (i : Instr) : Str :=
  itext (lgaps m legacy i) (opWord legacy i) i.am (num m i.a) i.bm (num m i.b)

theorem lspelt (m : UInt64) (legacy : Bool) (i : Instr) :
    Spelt (lgaps m legacy i) (opWord legacy i) (num m i.a) (num m i.b) :=
  ⟨lgaps_ok m legacy i, word_opWord legacy i, word_showInt _, word_showInt _⟩

theorem parse_ltext (m : UInt64) (legacy : Bool) (i : Instr) :
    Spec.parseInstrText (ltext m legacy i) = some (parsedOf m legacy i) := by
  have hop : ∀ c ∈ i.op.name.toList, c ≠ '.' := fun c hc => (op_upper _ c hc).ne (by decide)
  apply parse_itext _ _ (lspelt m legacy i) ?_ (opOfName_name i.op) (parseSigned_showInt _)
    (parseSigned_showInt _)
  cases legacy
  · exact .inr ⟨_, i.md, splitOnChar_one _ _ _ hop (fun c hc => (mod_upper _ c hc).ne (by decide)),
      modOfName_name _, rfl⟩
  · exact .inl ⟨by simpa [opWord] using splitOnChar_none _ _ hop, rfl⟩

/-- the label column of a line: blanks in front, then the `START` label, if any, as a word with
    the blanks behind it -/
def margin : Bool → Str
  | true => []
  | false => "     ".toList ++ "  ".toList

def labelWords : Bool → List (Str × Str)
  | true => [("START".toList, "  ".toList)]
  | false => []

theorem margin_space (isStart : Bool) : AllSpace (margin isStart) := by
  cases isStart <;> (unfold AllSpace; decide)

theorem label_ok (isStart : Bool) : ∀ p ∈ labelWords isStart, IsWord p.1 ∧ IsSep p.2 := by
  cases isStart <;> (unfold IsWord IsSep; decide)

def tline (m : UInt64) (legacy isStart : Bool) (i : Instr) : Str :=
  layout [] (labelWords isStart) ++ ltext m legacy i

def lbody (m : UInt64) (legacy isStart : Bool) (i : Instr) : Str :=
  margin isStart ++ tline m legacy isStart i ++ "     ".toList

theorem label_text (isStart : Bool) : margin isStart ++ layout [] (labelWords isStart) =
    (if isStart then "START".toList else "     ".toList) ++ "  ".toList := by
  cases isStart <;> simp [margin, labelWords, layout]

theorem listingLine_body (m : UInt64) (legacy isStart : Bool) (i : Instr) :
    listingLine m legacy isStart i = lbody m legacy isStart i ++ ['\n'] := by
  have e1 : " ".toList = [' '] := rfl
  have e2 : ", ".toList = [',', ' '] := rfl
  have e3 : "     \n".toList = "     ".toList ++ ['\n'] := by
    rw [show "     \n" = "     " ++ "\n" by simp, String.toList_append]
    rfl
  rw [lbody, tline, ← List.append_assoc (margin isStart), label_text]
  simp only [listingLine, ltext, itext, lgaps, opWord, num, padLeft, padRight, e1, e2, e3,
    op_name_length, Nat.sub_self, List.replicate_zero,
    List.append_assoc, List.nil_append, List.cons_append, List.append_nil]

theorem lbody_plain (m : UInt64) (legacy isStart : Bool) (i : Instr) :
    ∀ c ∈ lbody m legacy isStart i, c ≠ ';' ∧ c ≠ '\n' := by
  have ht := itext_plain i.am i.bm (lspelt m legacy i) comma_one
  have hl : ∀ c ∈ margin isStart ++ layout [] (labelWords isStart), c ≠ ';' ∧ c ≠ '\n' := by
    cases isStart <;> decide
  have hr : ∀ c ∈ "     ".toList, c ≠ ';' ∧ c ≠ '\n' := by decide
  simp only [lbody, tline, ← List.append_assoc]
  exact List.forall_mem_append.2 ⟨List.forall_mem_append.2 ⟨hl, ht⟩, hr⟩

theorem seen_lbody (m : UInt64) (legacy isStart : Bool) (i : Instr) :
    seen (lbody m legacy isStart i) = tline m legacy isStart i := by
  have hsc : Spec.stripComment (lbody m legacy isStart i ++ ['\n']) =
      lbody m legacy isStart i ++ ['\n'] :=
    takeWhile_ne_self _ _ (List.forall_mem_append.2
      ⟨fun c hc => (lbody_plain m legacy isStart i c hc).1, by decide⟩)
  rw [seen, hsc, lbody, List.append_assoc]
  exact trimSpace_itext i.am i.bm (lspelt m legacy i) rfl rfl _ (label_ok isStart)
    (margin_space isStart) (by unfold AllSpace; decide)

theorem fields_tline (m : UInt64) (legacy isStart : Bool) (i : Instr) :
    fields (tline m legacy isStart i) = (labelWords isStart).map (·.1) ++
      [opWord legacy i, [i.am.sym], num m i.a ++ [','], [i.bm.sym], num m i.b] :=
  fields_itext i.am i.bm (lspelt m legacy i) rfl rfl (by simp [lgaps]) rfl _ (label_ok isStart)

/-- `OP` is too short to be the `START` label, `OP.MD` has a dot -/
theorem opWord_not_start (legacy : Bool) (i : Instr) : toLower (opWord legacy i) ≠ "start".toList := by
  intro h
  cases legacy
  · have : lowerChar '.' ∈ toLower (opWord false i) := List.mem_map.2 ⟨'.', by simp [opWord], rfl⟩
    rw [h] at this
    revert this; decide
  · have := congrArg List.length h
    simp [opWord, toLower, op_name_length] at this

theorem go_tline (m : UInt64) (legacy isStart : Bool) (i : Instr) (rest : List Str)
    (code : List PI) (start label : Option Nat) (ref : Bool) :
    Spec.readText.go (tline m legacy isStart i :: rest) code start label ref =
      Spec.readText.go rest (parsedOf m legacy i :: code) start
        (if isStart then some code.length else label) ref := by
  have hf := fields_tline m legacy isStart i
  cases isStart
  · refine go_instr false hf (beq_eq_false_iff_ne.2 (opWord_not_start legacy i)) ?_
    simpa [tline, labelWords, layout] using parse_ltext m legacy i
  · refine go_instr true hf start_lower ?_
    have : trimLeft (tline m legacy true i) = tline m legacy true i :=
      trimLeft_cons (c := 'S') (by decide) _
    rw [if_pos rfl, this]
    show Spec.parseInstrText ("  ".toList ++ ltext m legacy i) = _
    rw [parseInstrText_blanks (by unfold AllSpace; decide)]
    exact parse_ltext m legacy i

theorem go_tlines (m : UInt64) (legacy : Bool) (s : Nat) (c : List Instr) (k : Nat) (rest : List Str)
    (code : List PI) (start label : Option Nat) (ref : Bool) (hk : code.length = k) :
    Spec.readText.go ((c.zipIdx k).map (fun p => tline m legacy (decide (p.2 = s)) p.1) ++ rest)
        code start label ref =
      Spec.readText.go rest ((c.map (parsedOf m legacy)).reverse ++ code) start
        (if k ≤ s ∧ s < k + c.length then some s else label) ref := by
  induction c generalizing k code label with
  | nil =>
    have : ¬ (k ≤ s ∧ s < k) := by omega
    simp [this]
  | cons i r ih =>
    simp only [List.zipIdx_cons, List.map_cons, List.cons_append]
    rw [go_tline, ih (k + 1) _ _ (by simp [hk])]
    congr 1
    · simp
    · by_cases hks : k = s
      · subst hks
        have h1 : ¬ (k + 1 ≤ k ∧ k < k + 1 + r.length) := by omega
        simp [h1, hk]
      · have h3 : (k + 1 ≤ s ∧ s < k + 1 + r.length) ↔ (k ≤ s ∧ s < k + (i :: r).length) := by
          simp only [List.length_cons]; omega
        simp only [hks, decide_false, Bool.false_eq_true, if_false, h3]

def bodies (m : UInt64) (legacy : Bool) (w : WarriorData) : List Str :=
  w.code.toList.zipIdx.map (fun p => lbody m legacy (decide (p.2 = w.start.toNat)) p.1)

def tlines (m : UInt64) (legacy : Bool) (w : WarriorData) : List Str :=
  w.code.toList.zipIdx.map (fun p => tline m legacy (decide (p.2 = w.start.toNat)) p.1)

def listingLines (m : UInt64) (legacy : Bool) (w : WarriorData) : List Str :=
  (if legacy then [] else [orgLine]) ++ bodies m legacy w ++ (if legacy then [endLine] else [])

theorem loadCode_lines (m : UInt64) (legacy : Bool) (w : WarriorData) (hne : w.code.size ≠ 0)
    (hs : 0 ≤ w.start) :
    loadCode m legacy w = ((listingLines m legacy w).map (· ++ ['\n'])).flatten := by
  -- the literals are split as strings: `toList` of a literal is dear to evaluate
  have e1 : "       ORG      START\n".toList = orgLine ++ ['\n'] := by
    rw [show "       ORG      START\n" = "       ORG      START" ++ "\n" by simp, String.toList_append]
    rfl
  have e2 : "       END      START\n".toList = endLine ++ ['\n'] := by
    rw [show "       END      START\n" = "       END      START" ++ "\n" by simp, String.toList_append]
    rfl
  have hd : ∀ i : Nat, decide (Int.ofNat i = w.start) = decide (i = w.start.toNat) := by
    intro i; apply decide_eq_decide.2
    rw [Int.ofNat_eq_natCast]
    constructor <;> intro h <;> omega
  unfold loadCode
  have hne' : (w.code.size == 0) = false := by simpa using hne
  simp only [hne', Bool.false_eq_true, if_false, hd]
  rw [range_map_eq w.code (fun i x => listingLine m legacy (decide (i = w.start.toNat)) x)]
  simp only [listingLine_body, bodies, listingLines, e1, e2]
  cases legacy <;> simp [List.map_map, Function.comp_def]

theorem listingLines_no_nl (m : UInt64) (legacy : Bool) (w : WarriorData) :
    ∀ l ∈ listingLines m legacy w, ∀ c ∈ l, c ≠ '\n' := by
  have ho : ∀ c ∈ orgLine, c ≠ '\n' := by decide +kernel
  have he : ∀ c ∈ endLine, c ≠ '\n' := by decide +kernel
  have hb : ∀ l ∈ bodies m legacy w, ∀ c ∈ l, c ≠ '\n' := by
    intro l hl
    obtain ⟨p, _, rfl⟩ := List.mem_map.1 hl
    exact fun c hc => (lbody_plain _ _ _ _ c hc).2
  cases legacy
  · simpa [listingLines, or_imp, forall_and] using ⟨ho, hb⟩
  · simpa [listingLines, or_imp, forall_and] using ⟨hb, he⟩

theorem seen_bodies (m : UInt64) (legacy : Bool) (w : WarriorData) :
    (bodies m legacy w).map seen = tlines m legacy w := by
  simp only [bodies, tlines, List.map_map, Function.comp_def, seen_lbody]

theorem filter_tlines (m : UInt64) (legacy : Bool) (w : WarriorData) :
    (tlines m legacy w).filter (!·.isEmpty) = tlines m legacy w := by
  rw [List.filter_eq_self]
  intro l hl
  obtain ⟨p, _, rfl⟩ := List.mem_map.1 hl
  simp [tline, ltext, itext]

theorem readText_loadCode (m : UInt64) (legacy : Bool) (w : WarriorData)
    (hs : 0 ≤ w.start) (hlt : w.start < w.code.size) :
    Spec.readText (loadCode m legacy w) =
      some { code := w.code.toList.map (parsedOf m legacy), start := w.start.toNat } := by
  have hne : w.code.size ≠ 0 := by omega
  have hlen2 : w.start.toNat < w.code.size := by omega
  have f1 : (!(seen orgLine).isEmpty) = true := by decide +kernel
  have f2 : (!(seen endLine).isEmpty) = true := by decide +kernel
  have hgo := go_tlines m legacy w.start.toNat w.code.toList 0
  -- the text as its lines, each as the reader sees it (`seen_bodies`); `go` then walks them
  -- (`go_tlines`), behind `ORG START` or up to `END START`
  unfold Spec.readText
  rw [loadCode_lines m legacy w hne hs, readLines_lines _ (listingLines_no_nl m legacy w),
    List.map_map]
  change Spec.readText.go (((listingLines m legacy w).map seen).filter (!·.isEmpty)) [] none none
    false = _
  unfold listingLines
  cases legacy
  · simp only [Bool.false_eq_true, if_false, List.append_nil, List.singleton_append, List.map_cons,
      seen_bodies, List.filter_cons, f1, if_true, filter_tlines]
    rw [go_org_start]
    have := hgo [] [] none none true rfl
    simp only [List.append_nil] at this
    unfold tlines
    rw [this, go_nil]
    simp [hlen2]
  · simp only [if_true, List.nil_append, List.map_append, List.map_cons, List.map_nil,
      seen_bodies, List.filter_append, List.filter_cons, f2, List.filter_nil, filter_tlines]
    have := hgo [seen endLine] [] none none false rfl
    unfold tlines
    rw [this, go_end_start]
    simp [hlen2]

/-- C16 without the hypotheses `listing_roundtrip` does not use: no bound on the core size or on
    the fields is needed. -/
theorem listing_roundtrip_gen (m : UInt64) (legacy : Bool) (w : WarriorData)
    (hs : 0 ≤ w.start) (hlt : w.start < w.code.size)
    (hl : legacy = true → ∀ i ∈ w.code.toList, Spec.Legal88 i = true) :
    ∃ t, Spec.readText (loadCode m legacy w) = some t ∧
      Spec.denotes m.toNat t w.code.toList w.start = true :=
  ⟨_, readText_loadCode m legacy w hs hlt,
    denotes_parsed m legacy w.code.toList w.start.toNat w.start (by omega) hl⟩

end Gmars.RoundTrip
