/-
  C10 for the byte-level load-file reader `parseLoadFileU` (Gmars/Model/LoadU.lean), for EVERY
  byte string.  After the comment test a line is read by `read94` / `read88` of
  Gmars/Proofs/LoadOK.lean (`line94U_eq`; either dialect: `lineOfU_eq`): the only differences with
  the ASCII reader are how the fields are cut (`fieldsU`: Unicode white space) and the type of the
  metadata, which these never touch.  The state is looked at through `toL`, so the invariant and
  the line count are those of the ASCII reader.
-/
import Gmars.Model.LoadU
import Gmars.Proofs.LoadOK
import Gmars.Spec.LoadTextU

namespace Gmars
open GoStr GoStrU

theorem runesW_fst (s : Bytes) : (runesW s).map (·.1) = runes s := by
  unfold runes
  induction s using runesW.induct with
  | case1 => rw [runesW, decodeRunes]; rfl
  | case2 b0 rest d ih => rw [runesW, decodeRunes, List.map_cons, ih]

theorem runesW_flatten (s : Bytes) : ((runesW s).map (·.2)).flatten = s := by
  induction s using runesW.induct with
  | case1 => rw [runesW]; rfl
  | case2 b0 rest d ih =>
    rw [runesW, List.map_cons, List.flatten_cons, ih, List.cons_append, List.take_append_drop]

/-- bytes as characters U+0000..U+00FF (injective; the identity embedding on ASCII) -/
def embB (b : Bytes) : Str := b.map (fun x => Char.ofNat x.toNat)

def LoadStateB.toL (s : LoadStateB) : LoadState :=
  { name := embB s.name, author := embB s.author, strategy := embB s.strategy,
    code := s.code, start := s.start }

def LineOutcomeB.toL : LineOutcomeB → LineOutcome
  | .cont s => .cont s.toL
  | .stop s => .stop s.toL
  | .fail => .fail

def LoadStateB.act (st : LoadStateB) : Act → LineOutcomeB
  | .push i => .cont { st with code := st.code.push i }
  | .skip => .cont st
  | .org v => .cont { st with start := v }
  | .fin v => .stop { st with start := v }
  | .stop => .stop st
  | .fail => .fail

theorem act_toL (st : LoadStateB) : st.toL.act = fun a => (st.act a).toL :=
  funext fun a => by cases a <;> rfl

def fieldsOfU (raw : Bytes) : List Str := fieldsU (replaceComma (lowerOf (runes raw)))
def commaOfU (raw : Bytes) : Bool := containsChar (lowerOf (runes raw)) ','

theorem line94U_eq (cs : UInt64) (st : LoadStateB) (raw : Bytes) :
    line94U cs st raw =
      if raw.head? == some 0x3B then .ok (.cont (metaLineU st raw (toLowerRunes raw)))
      else read94 st.act cs (fieldsOfU raw) (commaOfU raw) := by
  unfold line94U toLowerRunes fieldsOfU commaOfU
  simp only [lowerStrip]
  rfl

theorem line88U_eq (cs : UInt64) (st : LoadStateB) (raw : Bytes) :
    line88U cs st raw =
      if raw.head? == some 0x3B then .ok (.cont (metaLineU st raw (toLowerRunes raw)))
      else read88 st.act cs st.code.size (fieldsOfU raw) (commaOfU raw) := by
  unfold line88U toLowerRunes fieldsOfU commaOfU
  simp only [lowerStrip]
  rfl

def kindU (raw : Bytes) : Kind := kindOf (fieldsOfU raw) (commaOfU raw)

theorem metaLineU_code (st : LoadStateB) (raw : Bytes) (lower : Str) :
    (metaLineU st raw lower).code = st.code ∧ (metaLineU st raw lower).start = st.start := by
  unfold metaLineU
  repeat' split
  all_goals exact ⟨rfl, rfl⟩

theorem kindU_comment {raw : Bytes} (h : (raw.head? == some 0x3B) = true) : kindU raw = .skip := by
  cases raw with
  | nil => cases h
  | cons c t =>
    simp only [List.head?_cons, beq_iff_eq, Option.some.injEq] at h
    subst h
    unfold kindU fieldsOfU commaOfU lowerOf runes
    rw [decodeRunes]
    rfl

abbrev lineOfU (legacy : Bool) (cs : UInt64) : LoadStateB → Bytes → Except Panic LineOutcomeB :=
  if legacy = true then line88U cs else line94U cs

/-- the byte-level line reader after the comment test is `readAct` on its own fields, as
    `lineOf_eq` says of the ASCII one -/
theorem lineOfU_eq (legacy : Bool) (cs : UInt64) (st : LoadStateB) (raw : Bytes) :
    lineOfU legacy cs st raw =
      if raw.head? == some 0x3B then .ok (.cont (metaLineU st raw (toLowerRunes raw)))
      else (readAct legacy cs st.code.size (fieldsOfU raw) (commaOfU raw)).map st.act := by
  cases legacy
  · exact (line94U_eq ..).trans (by rw [(read94_spec ..).1]; rfl)
  · exact (line88U_eq ..).trans (by rw [(read88_spec ..).1]; rfl)

theorem lineU_ok {cs : UInt64} {legacy : Bool} {st : LoadStateB} {raw : Bytes} {o : LineOutcomeB}
    (h : lineOfU legacy cs st raw = .ok o) (hi : Inv cs legacy st.toL) :
    OutcomeOK cs legacy (kindU raw) st.toL o.toL := by
  rw [lineOfU_eq] at h
  split at h
  · rename_i hc
    cases h
    exact kindU_comment hc ▸ meta_ok (metaLineU_code ..) hi
  · obtain ⟨a, rfl, ha⟩ := ReadOK.ok ⟨rfl, readAct_ok ..⟩ h
    exact congrFun (act_toL st) a ▸ act_ok ha hi

theorem lineU_no_panic {cs : UInt64} (h0 : cs ≠ 0) (legacy : Bool) (st : LoadStateB)
    (raw : Bytes) : ∃ o, lineOfU legacy cs st raw = .ok o := by
  rw [lineOfU_eq]
  split
  · exact ⟨_, rfl⟩
  · exact ReadOK.no_panic ⟨rfl, readAct_ok ..⟩ h0

theorem loadLoopU_no_panic {f : LoadStateB → Bytes → Except Panic LineOutcomeB}
    (hf : ∀ st raw, ∃ o, f st raw = .ok o) :
    ∀ (ls : List Bytes) (st : LoadStateB), ∃ r, loadLoopU f st ls = .ok r := by
  intro ls st
  induction ls generalizing st with
  | nil => exact ⟨_, rfl⟩
  | cons l ls ih =>
    obtain ⟨o, ho⟩ := hf st l
    unfold loadLoopU
    simp only [bind, Except.bind, ho]
    cases o with
    | cont st' => exact ih st'
    | stop st' => exact ⟨_, rfl⟩
    | fail => exact ⟨_, rfl⟩

theorem loadLoopU_ok {cs : UInt64} {legacy : Bool}
    {f : LoadStateB → Bytes → Except Panic LineOutcomeB} {kind : Bytes → Kind}
    (hf : ∀ {st raw o}, f st raw = .ok o → Inv cs legacy st.toL →
      OutcomeOK cs legacy (kind raw) st.toL o.toL) :
    ∀ (ls : List Bytes) (st st' : LoadStateB), loadLoopU f st ls = .ok (some st') →
      Inv cs legacy st.toL →
      Inv cs legacy st'.toL ∧ st'.code.size = (countK kind ls st.code.size).1 := by
  intro ls st st' h hi
  induction ls generalizing st with
  | nil =>
    cases h
    exact ⟨hi, rfl⟩
  | cons l ls ih =>
    unfold loadLoopU at h
    simp only [bind, Except.bind] at h
    split at h
    · cases h
    rename_i o ho
    have hk := hf ho hi
    cases o with
    | fail => cases h
    | stop st1 =>
      cases h
      exact ⟨hk.2.1, by rw [countK, if_pos hk.1]; exact hk.2.2⟩
    | cont st1 =>
      obtain ⟨r1, r2⟩ := ih st1 h hk.2.1
      exact ⟨r1, by rw [countK, if_neg hk.1]; exact hk.2.2 ▸ r2⟩

theorem significantInstrLinesU_eq (text : Bytes) :
    Spec.significantInstrLinesU text = countK kindU (readLinesB text) 0 := by
  refine sig_go_eq (fun l => ?_) _ _
  unfold kindU fieldsOfU commaOfU lowerOf
  rw [contains_toLower _ (by decide)]

/-- for EVERY byte string, reading a load file terminates and never panics,
    under any configuration with a non-zero core size -/
theorem loadU_no_panic {cfg : Config} (h0 : cfg.coreSize ≠ 0) (text : Bytes) :
    ∃ r, parseLoadFileU cfg text = .ok r := by
  unfold parseLoadFileU
  obtain ⟨r, hr⟩ :=
    loadLoopU_no_panic (lineU_no_panic h0 (cfg.mode == .icws88)) (readLinesB text) {}
  simp only [lineOfU] at hr
  simp only [bind, Except.bind, hr]
  cases r <;> exact ⟨_, rfl⟩

/-- the metadata of a byte-level warrior read as text (bytes as characters U+0000..U+00FF; for
    an ASCII file this is the text itself) -/
def WarriorDataB.toW (w : WarriorDataB) : WarriorData :=
  { name := String.ofList (embB w.name), author := String.ofList (embB w.author),
    strategy := String.ofList (embB w.strategy), code := w.code, start := w.start }

theorem finish_toL (legacy : Bool) (st : LoadStateB) :
    finish legacy st.toL = (finishU legacy st).map WarriorDataB.toW := by
  unfold finish finishU
  simp only [LoadStateB.toL]
  cases legacy <;> simp only [Bool.false_eq_true, if_false, if_true] <;>
    rw [apply_ite (Option.map WarriorDataB.toW)] <;> rfl

/-- an accepted read ends in a state whose view satisfies the invariant; the result, read as text
    (`toW`), is what `finish` makes of that view, so `finish_wf` speaks of it -/
theorem parseLoadFileU_some {cfg : Config} {text : Bytes} {w : WarriorDataB}
    (h : parseLoadFileU cfg text = .ok (some w)) :
    ∃ st, Inv cfg.coreSize (cfg.mode == .icws88) st ∧
      st.code.size = (countK kindU (readLinesB text) 0).1 ∧
      finish (cfg.mode == .icws88) st = some w.toW := by
  unfold parseLoadFileU at h
  simp only [bind, Except.bind] at h
  split at h
  · cases h
  rename_i r hr
  cases r with
  | none => cases h
  | some st =>
    have := loadLoopU_ok (f := lineOfU (cfg.mode == .icws88) cfg.coreSize)
      lineU_ok _ {} _ hr ⟨Int.le_refl 0, fun _ hi => by cases hi⟩
    exact ⟨st.toL, this.1, this.2, by rw [finish_toL, Except.ok.inj h]; rfl⟩

/-- whatever the bytes, an accepted warrior has its entry point inside its code (or
    zero when empty), all fields below the core size, and under ICWS'88 only legal '88
    instructions with the implied modifier -/
theorem loadU_ok_wf {cfg : Config} {text : Bytes} {w : WarriorDataB}
    (_h0 : cfg.coreSize ≠ 0) (_h63 : cfg.coreSize.toNat < 2 ^ 63)
    (h : parseLoadFileU cfg text = .ok (some w)) :
    ((w.code.size = 0 ∧ w.start = 0) ∨ (0 ≤ w.start ∧ w.start < w.code.size)) ∧
    (∀ i ∈ w.code.toList, i.a < cfg.coreSize ∧ i.b < cfg.coreSize) ∧
    (cfg.mode = .icws88 → ∀ i ∈ w.code.toList, Spec.Legal88 i = true) := by
  obtain ⟨st, hi, _, hfin⟩ := parseLoadFileU_some h
  obtain ⟨_, h2, h3, h4⟩ := finish_wf hi hfin
  exact ⟨h2, h3, fun hm => h4 (by rw [hm]; rfl)⟩

/-- an accepted read produced exactly one instruction for every
    non-blank, non-comment line before the end marker that is not an ORG/END directive -/
theorem loadU_no_silent_skip {cfg : Config} {text : Bytes} {w : WarriorDataB}
    (h : parseLoadFileU cfg text = .ok (some w)) :
    w.code.size = (Spec.significantInstrLinesU text).1 := by
  obtain ⟨st, hi, hn, hfin⟩ := parseLoadFileU_some h
  rw [significantInstrLinesU_eq, ← hn]
  exact (finish_wf hi hfin).1

end Gmars
