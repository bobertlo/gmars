/-
  Vocabulary of the scheduler refinement (C02): the simulation relation `Rel` between the model and
  the reference API state (satisfiable: `Sim.toApi`) and what it says about the alive flags
  (`results_eq`), the living count and `finished`; the hypotheses `Pre`; the frames `Same` and `SameCfg`.
-/
import Gmars.Proofs.SpecSched
import Gmars.Proofs.RefineMem

namespace Gmars

def WState.abs : WState → Spec.WSt
  | .added => .added | .alive => .alive | .dead => .dead

theorem WState.abs_alive (st : WState) : (st.abs == Spec.WSt.alive) = (st == WState.alive) := by
  cases st <;> rfl

/-- the queue of an `added` warrior is not compared: after `Reset` the Go queue is stale, cf.
    `Spec.SW.stale` -/
structure Rel (s : Sim) (a : Spec.Api) : Prop where
  M : a.M = s.m.toNat
  R : a.R = s.readLimit.toNat
  W : a.W = s.writeLimit.toNat
  P : a.P = s.maxProcs.toNat
  C : a.C = s.maxCycles.toNat
  core : a.core = s.absCore
  cycles : a.cycles = s.cycleCount.toNat
  len : a.ws.length = s.warriors.size
  ws : ∀ i (h : i < s.warriors.size) (h' : i < a.ws.length),
        a.ws[i].st = s.warriors[i].state.abs ∧
        (s.warriors[i].state ≠ .added → a.ws[i].q = s.warriors[i].absQueue)

theorem Rel.alive_iff {s : Sim} {a : Spec.Api} (h : Rel s a) {i : Nat} (hi : i < s.warriors.size)
    (hi' : i < a.ws.length) : a.ws[i].st = .alive ↔ s.warriors[i].state = .alive := by
  rw [(h.ws i hi hi').1, ← beq_iff_eq, WState.abs_alive, beq_iff_eq]

/-- witness that `Rel` is satisfiable -/
def Sim.toApi (s : Sim) : Spec.Api :=
  { M := s.m.toNat, R := s.readLimit.toNat, W := s.writeLimit.toNat, P := s.maxProcs.toNat,
    C := s.maxCycles.toNat, core := s.absCore, cycles := s.cycleCount.toNat,
    ws := s.warriors.toList.map (fun w =>
      { code := w.data.code.toList.map Instr.abs, start := w.data.start.toNat,
        st := w.state.abs, q := w.absQueue }) }

theorem Rel.toApi (s : Sim) : Rel s s.toApi where
  M := rfl
  R := rfl
  W := rfl
  P := rfl
  C := rfl
  core := rfl
  cycles := rfl
  len := by simp [Sim.toApi]
  ws := by
    intro i h h'
    simp [Sim.toApi]

/-- `WF` with the fields of `Sim.Bounds` (2^32, so that the product of two fields does not wrap in
    `uint64`: what `exec_refines` asks) -/
structure Pre (s : Sim) : Prop where
  wf  : s.WF
  m32 : s.m.toNat ≤ 2 ^ 32
  rl  : s.readLimit.toNat ≤ s.m.toNat
  wl  : s.writeLimit.toNat ≤ s.m.toNat

/-- what a warrior's turn leaves alone -/
structure Same (s s' : Sim) : Prop where
  m          : s'.m = s.m
  maxProcs   : s'.maxProcs = s.maxProcs
  maxCycles  : s'.maxCycles = s.maxCycles
  readLimit  : s'.readLimit = s.readLimit
  writeLimit : s'.writeLimit = s.writeLimit
  wsize      : s'.warriors.size = s.warriors.size
  count      : s'.warriorCount = s.warriorCount
  widx       : s'.warriorIndex = s.warriorIndex
  cycle      : s'.cycleCount = s.cycleCount

theorem Same.refl (s : Sim) : Same s s := ⟨rfl, rfl, rfl, rfl, rfl, rfl, rfl, rfl, rfl⟩

theorem Same.trans {s s' s'' : Sim} (h : Same s s') (h' : Same s' s'') : Same s s'' :=
  ⟨h'.m.trans h.m, h'.maxProcs.trans h.maxProcs, h'.maxCycles.trans h.maxCycles,
   h'.readLimit.trans h.readLimit, h'.writeLimit.trans h.writeLimit, h'.wsize.trans h.wsize,
   h'.count.trans h.count, h'.widx.trans h.widx, h'.cycle.trans h.cycle⟩

/-- what no API call of a battle changes -/
structure SameCfg (s s' : Sim) : Prop where
  m          : s'.m = s.m
  maxProcs   : s'.maxProcs = s.maxProcs
  maxCycles  : s'.maxCycles = s.maxCycles
  readLimit  : s'.readLimit = s.readLimit
  writeLimit : s'.writeLimit = s.writeLimit
  wsize      : s'.warriors.size = s.warriors.size

theorem SameCfg.refl (s : Sim) : SameCfg s s := ⟨rfl, rfl, rfl, rfl, rfl, rfl⟩

theorem SameCfg.trans {s s' s'' : Sim} (h : SameCfg s s') (h' : SameCfg s' s'') : SameCfg s s'' :=
  ⟨h'.m.trans h.m, h'.maxProcs.trans h.maxProcs, h'.maxCycles.trans h.maxCycles,
   h'.readLimit.trans h.readLimit, h'.writeLimit.trans h.writeLimit, h'.wsize.trans h.wsize⟩

theorem Same.cfg {s s' : Sim} (h : Same s s') : SameCfg s s' :=
  ⟨h.m, h.maxProcs, h.maxCycles, h.readLimit, h.writeLimit, h.wsize⟩

theorem Pre.bounds {s : Sim} (h : Pre s) : s.Bounds := ⟨h.m32, h.rl, h.wl⟩

theorem Sim.Bounds.of_cfg {s s' : Sim} (h : s.Bounds) (hs : SameCfg s s') : s'.Bounds :=
  ⟨by rw [hs.m]; exact h.m32, by rw [hs.m, hs.readLimit]; exact h.rl,
   by rw [hs.m, hs.writeLimit]; exact h.wl⟩

theorem results_eq {s : Sim} {a : Spec.Api} (h : Rel s a) :
    s.results = a.ws.map (fun w => w.st == .alive) := by
  unfold Sim.results
  apply List.ext_getElem
  · simp [h.len]
  · intro i h1 h2
    have hi : i < s.warriors.size := by simpa using h1
    have hi' : i < a.ws.length := by simpa using h2
    have := (h.ws i hi hi').1
    simp only [List.getElem_map, Array.getElem_toList, this, WState.abs_alive]

/-- both sides count the `true`s of the same list of flags -/
theorem Sim.aliveCount_eq_living {s : Sim} {a : Spec.Api} (h : Rel s a) :
    s.aliveCount = a.living := by
  have := congrArg (List.countP id) (results_eq h)
  rwa [Sim.results, List.countP_map, List.countP_map, List.countP_eq_length_filter,
    List.countP_eq_length_filter] at this

theorem Rel.living {s : Sim} {a : Spec.Api} (h : Rel s a) (hwf : s.WF) :
    s.living = Int.ofNat a.living := by
  rw [hwf.living, Sim.aliveCount_eq_living h]

theorem Rel.finished {s : Sim} {a : Spec.Api} (h : Rel s a) (hwf : s.WF) :
    s.finished = a.finished := by
  unfold Sim.finished Spec.Api.finished
  rw [h.living hwf, hwf.count, h.cycles, h.C, h.len]
  have hc : (s.cycleCount ≥ s.maxCycles) ↔ s.cycleCount.toNat ≥ s.maxCycles.toNat :=
    UInt64.le_iff_toNat_le
  rw [Bool.eq_iff_iff]
  simp only [hc, Int.ofNat_eq_natCast, Bool.or_eq_true, Bool.and_eq_true, decide_eq_true_eq,
    beq_iff_eq, Bool.if_true_left]
  omega

end Gmars
