/-
  What the two sign stages of `evaluateExpression` preserve.

  `Sim n c c'`: the tree `c'` may stand for `c` — same precedence class, and where `c` is well
  formed so is `c'`, with the same value (`n = false`) or the negated value (`n = true`), inside
  the modelled range if `c` is.  The relation is closed under `refl`, `trans`, `paren`, `signs`,
  `bin` and `flip` (the last two through `node`); the arithmetic that makes `flipDoubleNegatives`
  sound sits in those two (`bin`: a minus pulled out of a product chain because `/` and `%`
  truncate towards zero, `flip`: `a - -b = a + b`).

  Each stage then has one statement: `combineSigns` (`CS_stage`) and `flipDoubleNegatives`
  (`FL_stage`) send the rendering of a well-formed tree `c` to the rendering of SOME tree `c'` with
  `Sim false c c'`; the witness is built case by case from the rules.
-/
import Gmars.Proofs.ExprNorm

namespace Gmars.ExprProofs

def sg (n : Bool) (v : Int) : Int := if n then -v else v

theorem map_sg_false (d : Option Int) : d.map (sg false) = d := by cases d <;> rfl

structure Sim (n : Bool) (c c' : CST) : Prop where
  prec : c'.prec = c.prec
  atom : c'.isAtom = c.isAtom
  wf : WFprec c → WFprec c' ∧ denote c' = (denote c).map (sg n) ∧ (NoBigLit c → NoBigLit c')

theorem binVal_neg_left (op : String) (a b : Int) (hop : isArith op) (hp : 5 ≤ Spec.Expr.prec op) :
    binVal op (-a) b = (binVal op a b).map (fun v => -v) := by
  rcases hop with h | h | h | h | h <;> subst h
  · exact absurd hp (by decide)
  · exact absurd hp (by decide)
  · simp [binVal, Int.neg_mul]
  · simp only [binVal]; split <;> simp [Int.neg_tdiv]
  · simp only [binVal]; split <;> simp [Int.neg_tmod]

namespace Sim

theorem refl (c : CST) : Sim false c c :=
  ⟨rfl, rfl, fun h => ⟨h, by cases denote c <;> rfl, id⟩⟩

theorem trans {a b c : CST} (h1 : Sim false a b) (h2 : Sim false b c) : Sim false a c := by
  refine ⟨h2.prec.trans h1.prec, h2.atom.trans h1.atom, fun hw => ?_⟩
  obtain ⟨w1, d1, b1⟩ := h1.wf hw
  obtain ⟨w2, d2, b2⟩ := h2.wf w1
  exact ⟨w2, by rw [d2, d1]; cases denote a <;> rfl, b2 ∘ b1⟩

theorem paren {e e' : CST} (h : Sim false e e') : Sim false (.paren e) (.paren e') :=
  ⟨rfl, rfl, h.wf⟩

theorem signs {n : Bool} {e e' : CST} {ss ss' : List Bool} (h : Sim false e e')
    (hs : ∀ v, applySigns ss' v = sg n (applySigns ss v)) : Sim n (.signs ss e) (.signs ss' e') := by
  refine ⟨rfl, rfl, fun hw => ?_⟩
  obtain ⟨w, d, b⟩ := h.wf hw.2
  refine ⟨⟨h.atom.trans hw.1, w⟩, ?_, b⟩
  simp only [denote, d]
  cases denote e <;> simp [sg, hs]

theorem node {n : Bool} {op op' : String} {l l' r r' : CST}
    (hp : Spec.Expr.prec op' = Spec.Expr.prec op) (hop : isArith op')
    {nl nr : Bool} (hl : Sim nl l l') (hr : Sim nr r r')
    (hd : WFprec (.bin op l r) → denote l' = (denote l).map (sg nl) → denote r' = (denote r).map (sg nr) →
      denote (.bin op' l' r') = (denote (.bin op l r)).map (sg n)) :
    Sim n (.bin op l r) (.bin op' l' r') := by
  refine ⟨hp, rfl, fun hw => ?_⟩
  obtain ⟨wl, dl, bl⟩ := hl.wf hw.2.1
  obtain ⟨wr, dr, br⟩ := hr.wf hw.2.2.1
  have hd := hd hw dl dr
  refine ⟨⟨hop, wl, wr, by rw [hp, hl.prec]; exact hw.2.2.2.1, by rw [hp, hr.prec]; exact hw.2.2.2.2⟩, hd,
    fun hb => ⟨bl hb.1, br hb.2.1, fun v hv => ?_⟩⟩
  rw [hd] at hv
  obtain ⟨w, hw', rfl⟩ := Option.map_eq_some_iff.mp hv
  have := hb.2.2 w hw'
  cases n <;> simp only [sg, if_true, Bool.false_eq_true, if_false] <;> omega

theorem bin {n : Bool} {op : String} {l l' r r' : CST} (hl : Sim n l l') (hr : Sim false r r')
    (hn : n = true → 5 ≤ Spec.Expr.prec op) : Sim n (.bin op l r) (.bin op l' r') := by
  by_cases hop : isArith op
  · refine node rfl hop hl hr fun _ dl dr => ?_
    simp only [denote, dl, dr]
    cases n with
    | false => simp only [map_sg_false]
    | true => cases denote l <;> cases denote r <;> first | rfl | exact binVal_neg_left op _ _ hop (hn rfl)
  · exact ⟨rfl, rfl, fun hw => absurd hw.1 hop⟩

theorem flip {l l' r r' : CST} (hl : Sim false l l') (hr : Sim true r r') :
    Sim false (.bin "-" l r) (.bin "+" l' r') := by
  refine node (by decide) (by decide) hl hr fun _ dl dr => ?_
  simp only [denote, dl, dr]
  cases denote l <;> cases denote r <;> simp [sg, binVal, Int.sub_eq_add_neg]

end Sim

/-- a sign run in front of a token that is no sign: after a symbol it is folded to its parity,
    in the other state its first sign stays and the rest is folded -/
theorem signFold_run (b : Bool) (ss : List Bool) (x : Token) (r : List Token) (hx : isSign x = false) :
    ∃ ss', (∀ v, applySigns ss' v = applySigns ss v) ∧
      signFold (flagState b) (ss.map signTok ++ x :: r) = ss'.map signTok ++ x :: signFold (afterTok x) r := by
  have run (ss : List Bool) : ∃ ss', (∀ v, applySigns ss' v = applySigns ss v) ∧
      signFold (some false) (ss.map signTok ++ x :: r) = ss'.map signTok ++ x :: signFold (afterTok x) r := by
    refine ⟨if parity ss then [true] else [], fun v => ?_, ?_⟩
    · rw [applySigns_eq ss]; cases parity ss <;> rfl
    · rw [signFold_signs, Bool.false_xor, signFold, if_neg (by simp [hx])]
      cases parity ss <;> rfl
  match b, ss with
  | true, ss => exact run ss
  | false, [] => exact ⟨[], fun _ => rfl, rfl⟩
  | false, s :: ss =>
    obtain ⟨ss', h1, h2⟩ := run ss
    exact ⟨s :: ss', fun v => by rw [applySigns_cons, applySigns_cons, h1], congrArg (signTok s :: ·) h2⟩

theorem CS_stage (c : CST) (hw : WFprec c) :
    ∀ b rest, ∃ c', Sim false c c' ∧ signFold (flagState b) (c.tokens ++ rest) = c'.tokens ++ signFold none rest := by
  induction c with
  | num n =>
    intro b rest
    exact ⟨_, .refl _, signFold_cons_of_not_sign b _ _ (isSign_numTok n)⟩
  | paren e ih =>
    intro b rest
    obtain ⟨e', se, he⟩ := ih hw false (rpTok :: rest)
    refine ⟨.paren e', se.paren, ?_⟩
    simp only [CST.tokens, List.cons_append, List.append_assoc, List.nil_append]
    rw [signFold_cons_of_not_sign b _ _ isSign_lpTok]
    exact congrArg (lpTok :: ·) he
  | bin op l r ihl ihr =>
    intro b rest
    obtain ⟨r', sr, hr⟩ := ihr hw.2.2.1 true rest
    obtain ⟨l', sl, hl⟩ := ihl hw.2.1 b (opTok op :: (r.tokens ++ rest))
    refine ⟨.bin op l' r', sl.bin sr (fun h => nomatch h), ?_⟩
    simp only [CST.tokens, List.append_assoc, List.cons_append]
    rw [hl]
    exact congrArg (l'.tokens ++ opTok op :: ·) hr
  | signs ss e ih =>
    intro b rest
    obtain ⟨e', se, he⟩ := ih hw.2 false rest
    obtain ⟨x, r', hx, hxs, _, _⟩ := atom_head e hw.1
    obtain ⟨ss', h1, h2⟩ := signFold_run b ss x (r' ++ rest) hxs
    refine ⟨.signs ss' e', se.signs h1, ?_⟩
    rw [hx, List.cons_append, signFold_cons_of_not_sign false _ _ hxs] at he
    rw [CST.tokens, List.append_assoc, hx, List.cons_append, h2, he, CST.tokens, List.append_assoc]

theorem flip_run (x : Token) (r : List Token) (hx : x.val ≠ "-") : ∀ ss : List Bool,
    ∃ ss', (∀ v, applySigns ss' v = applySigns ss v) ∧
      flipDoubleNegatives (ss.map signTok ++ x :: r) = ss'.map signTok ++ flipDoubleNegatives (x :: r)
  | [] => ⟨[], fun _ => rfl, rfl⟩
  | false :: ss => by
    obtain ⟨ss', h1, h2⟩ := flip_run x r hx ss
    exact ⟨false :: ss', fun v => by simp only [applySigns_cons, h1], by
      simp only [List.map_cons, List.cons_append]; rw [flip_cons_of_ne _ _ (by decide), h2]⟩
  | [true] => ⟨[true], fun _ => rfl, by
      simp only [List.map_cons, List.map_nil, List.cons_append, List.nil_append]
      rw [flip_cons_cons_of_ne _ _ _ hx, ← flip_cons_of_ne _ _ hx]⟩
  | true :: false :: ss => by
    obtain ⟨ss', h1, h2⟩ := flip_run x r hx (false :: ss)
    refine ⟨true :: ss', fun v => by simp only [applySigns_cons, h1], ?_⟩
    simp only [List.map_cons, List.cons_append] at h2 ⊢
    rw [flip_cons_cons_of_ne _ _ _ (by decide), ← flip_cons_of_ne (signTok false) _ (by decide), h2]
  | true :: true :: ss => by
    obtain ⟨ss', h1, h2⟩ := flip_run x r hx ss
    refine ⟨false :: ss', fun v => by
      simp only [applySigns_cons, h1, if_true, Bool.false_eq_true, if_false, Int.neg_neg], ?_⟩
    simp only [List.map_cons, List.cons_append]
    rw [flip_pair _ _ _ rfl rfl, h2]; rfl

theorem minus_of_head {x : Token} (hp : x = lpTok ∨ (∃ s, x = signTok s) ∨ ∃ n, x = numTok n)
    (h : x.val = "-") : x = minusTok := by
  rcases hp with rfl | ⟨s, rfl⟩ | ⟨n, rfl⟩
  · exact absurd h (by decide)
  · cases s
    · exact absurd h (by decide)
    · rfl
  · exact absurd h (numTok_ne_minus n)

/-- What `flipDoubleNegatives` does to the rendering of `c` in front of any rest.  In the second
    part the leading minus of `c` has been consumed with the binary minus in front of it: what is
    left renders a tree with the negated value, which is sound only for a product chain
    (`5 ≤ c.prec`). -/
def Flips (c : CST) : Prop :=
  (∀ rest, ∃ c', Sim false c c' ∧
    flipDoubleNegatives (c.tokens ++ rest) = c'.tokens ++ flipDoubleNegatives rest) ∧
  (∀ t rest, c.tokens = minusTok :: t → 5 ≤ c.prec → ∃ c', Sim true c c' ∧
    flipDoubleNegatives (t ++ rest) = c'.tokens ++ flipDoubleNegatives rest)

namespace Flips

theorem num (n : Nat) : Flips (.num n) := by
  refine ⟨fun rest => ⟨_, .refl _, ?_⟩, fun t rest h => ?_⟩
  · rw [CST.tokens, List.singleton_append, flip_cons_of_ne _ _ (numTok_ne_minus n)]; rfl
  · exact absurd (congrArg (·.val) (List.cons.inj h).1) (numTok_ne_minus n)

theorem paren {e : CST} (h : Flips e) : Flips (.paren e) := by
  refine ⟨fun rest => ?_, fun t rest h => nomatch h⟩
  obtain ⟨e', se, he⟩ := h.1 (rpTok :: rest)
  refine ⟨.paren e', se.paren, ?_⟩
  simp only [CST.tokens, List.cons_append, List.append_assoc, List.nil_append]
  rw [flip_cons_of_ne _ _ (by decide), he, flip_cons_of_ne rpTok _ (by decide)]

theorem signs {ss : List Bool} {e : CST} (ha : e.isAtom = true) (h : Flips e) :
    Flips (.signs ss e) := by
  obtain ⟨x, r', hx, _, hxm, _⟩ := atom_head e ha
  -- any run `ss'` in front of `e`
  have key (ss' : List Bool) (rest : List Token) : ∃ ss'' e', Sim false e e' ∧
      (∀ v, applySigns ss'' v = applySigns ss' v) ∧
      flipDoubleNegatives (ss'.map signTok ++ (e.tokens ++ rest)) =
        (CST.signs ss'' e').tokens ++ flipDoubleNegatives rest := by
    obtain ⟨e', se, he⟩ := h.1 rest
    obtain ⟨ss'', h1, h2⟩ := flip_run x (r' ++ rest) hxm ss'
    exact ⟨ss'', e', se, h1, by
      rw [hx, List.cons_append, h2, ← List.cons_append, ← hx, he, CST.tokens, List.append_assoc]⟩
  refine ⟨fun rest => ?_, fun t rest ht _ => ?_⟩
  · obtain ⟨ss'', e', se, h1, h2⟩ := key ss rest
    exact ⟨_, se.signs h1, by rw [CST.tokens, List.append_assoc, h2]⟩
  · match ss, ht with
    | [], ht =>
      rw [CST.tokens, List.map_nil, List.nil_append, hx] at ht
      exact absurd (congrArg (·.val) (List.cons.inj ht).1) hxm
    | false :: ss, ht => exact nomatch (List.cons.inj ht).1
    | true :: ss, ht =>
      obtain ⟨ss'', e', se, h1, h2⟩ := key ss rest
      refine ⟨_, se.signs fun v => by rw [h1, applySigns_cons]; simp [sg], ?_⟩
      simp only [CST.tokens, List.map_cons, List.cons_append] at ht
      rw [← (List.cons.inj ht).2, List.append_assoc, h2]

/-- The operator and the right operand in front of any rest: a binary minus and the leading minus
    of `r` become a plus, and what is left of `r` has the negated value; otherwise both stay.
    Either way a left operand completes the result to a node that may stand for `.bin op l r`. -/
theorem right {op : String} {l r : CST} (hw : WFprec (.bin op l r)) (hr : Flips r)
    (rest : List Token) : ∃ op' r',
      (∀ {n l'}, Sim n l l' → (n = true → 5 ≤ Spec.Expr.prec op) →
        Sim n (.bin op l r) (.bin op' l' r')) ∧
      flipDoubleNegatives (opTok op :: (r.tokens ++ rest)) =
        opTok op' :: (r'.tokens ++ flipDoubleNegatives rest) := by
  obtain ⟨x, t, hx, hxk⟩ := tokens_head r
  by_cases hc : op = "-" ∧ x.val = "-"
  · obtain ⟨rfl, hxv⟩ := hc
    have hxm : x = minusTok := minus_of_head hxk hxv
    obtain ⟨r', sr, hr'⟩ := hr.2 t rest (by rw [hx, hxm])
      (by have : Spec.Expr.prec "-" = 4 := by decide
          have := hw.2.2.2.2; omega)
    refine ⟨"+", r', fun {n _} sl hn => ?_, ?_⟩
    · cases n with
      | false => exact sl.flip sr
      | true => exact absurd (hn rfl) (by decide)
    · rw [hx, hxm, List.cons_append, flip_pair _ _ _ rfl rfl, hr']; rfl
  · obtain ⟨r', sr, hr'⟩ := hr.1 rest
    refine ⟨op, r', fun sl hn => sl.bin sr hn, ?_⟩
    by_cases hop : op = "-"
    · have hxm : x.val ≠ "-" := fun h => hc ⟨hop, h⟩
      rw [hx, List.cons_append, flip_cons_cons_of_ne _ _ _ hxm, ← flip_cons_of_ne _ _ hxm,
        ← List.cons_append, ← hx, hr']
    · rw [flip_cons_of_ne _ _ (by simpa [opTok] using hop), hr']

theorem bin {op : String} {l r : CST} (hw : WFprec (.bin op l r)) (hl : Flips l) (hr : Flips r) :
    Flips (.bin op l r) := by
  -- the left operand, whole (`n = false`) or without its leading minus, then `right`
  have node {n : Bool} {lt : List Token} {l' : CST} (rest : List Token) (sl : Sim n l l')
      (hn : n = true → 5 ≤ Spec.Expr.prec op)
      (h : flipDoubleNegatives (lt ++ opTok op :: (r.tokens ++ rest)) =
        l'.tokens ++ flipDoubleNegatives (opTok op :: (r.tokens ++ rest))) :
      ∃ c', Sim n (.bin op l r) c' ∧ flipDoubleNegatives (lt ++ opTok op :: (r.tokens ++ rest)) =
        c'.tokens ++ flipDoubleNegatives rest := by
    obtain ⟨op', r', hs, hr'⟩ := right hw hr rest
    exact ⟨.bin op' l' r', hs sl hn, by rw [h, hr', CST.tokens, List.append_assoc, List.cons_append]⟩
  refine ⟨fun rest => ?_, fun t rest ht (hp5 : 5 ≤ Spec.Expr.prec op) => ?_⟩
  · obtain ⟨l', sl, h⟩ := hl.1 (opTok op :: (r.tokens ++ rest))
    rw [CST.tokens, List.append_assoc, List.cons_append]
    exact node rest sl (fun h => nomatch h) h
  · obtain ⟨x, tl, hx, _⟩ := tokens_head l
    rw [CST.tokens, hx, List.cons_append] at ht
    obtain ⟨rfl, rfl⟩ := List.cons.inj ht
    obtain ⟨l', sl, h⟩ := hl.2 tl (opTok op :: (r.tokens ++ rest)) hx
      (Nat.le_trans hp5 hw.2.2.2.1)
    rw [List.append_assoc, List.cons_append]
    exact node rest sl (fun _ => hp5) h

end Flips

theorem FL_stage (c : CST) (hw : WFprec c) : Flips c := by
  induction c with
  | num n => exact .num n
  | paren e ih => exact (ih hw).paren
  | signs ss e ih => exact (ih hw.2).signs hw.1
  | bin op l r ihl ihr => exact .bin hw (ihl hw.2.1) (ihr hw.2.2.1)

theorem signs_stage (c : CST) (hw : WFprec c) :
    ∃ c₁ c', WFprec c₁ ∧ combineSigns c.tokens = c₁.tokens ∧ Sim false c c' ∧
      flipDoubleNegatives (combineSigns c.tokens) = c'.tokens := by
  obtain ⟨c₁, s1, h1⟩ := CS_stage c hw false []
  have hw1 := (s1.wf hw).1
  obtain ⟨c', s2, h2⟩ := (FL_stage c₁ hw1).1 []
  rw [List.append_nil, show signFold none [] = [] from rfl, List.append_nil] at h1
  have h1 := (combineSigns_eq_signFold _).trans h1
  rw [List.append_nil, flip_nil, List.append_nil, ← h1] at h2
  exact ⟨c₁, c', hw1, h1, s1.trans s2, h2⟩

end Gmars.ExprProofs
