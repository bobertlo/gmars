/-
  The constant evaluator of the `go/types.Eval` model (`GoEval.parseBinary`) computes the
  denotation of every precedence-well-formed tree whose values stay in the modelled range.
-/
import Gmars.Proofs.ExprClimb

namespace Gmars.ExprProofs
open Gmars.GoEval

def CST.gtoks : CST → List GTok
  | .num n => [.int n]
  | .signs ss e => ss.map (fun s => GTok.op (signStr s)) ++ e.gtoks
  | .paren e => .lparen :: (e.gtoks ++ [.rparen])
  | .bin op l r => l.gtoks ++ .op op :: r.gtoks

theorem CST.gtoks_length (c : CST) : c.gtoks.length = c.ntoks := by
  induction c with
  | num n => rfl
  | signs ss e ih => simp [CST.gtoks, CST.ntoks, ih]
  | paren e ih => simp [CST.gtoks, CST.ntoks, ih]
  | bin op l r ihl ihr => simp [CST.gtoks, CST.ntoks, ihl, ihr]; omega

/-- for the Go evaluator a zero divisor is a (constant) error -/
def resOf : Option Int → Res Val
  | some v => .ok (.int v)
  | none => .err

theorem guard_ok (v : Int) (h : -big < v ∧ v < big) : GoEval.guard v = .ok (.int v) := by
  unfold GoEval.guard
  have : (decide (v ≥ big) || decide (v ≤ -big)) = false := by
    simp only [Bool.or_eq_false_iff, decide_eq_false_iff_not]; omega
  rw [this]; rfl

theorem lift2_resOf (op : String) (l r : CST) (hop : isArith op)
    (hb : ∀ v, denote (.bin op l r) = some v → -big < v ∧ v < big) :
    lift2 op (resOf (denote l)) (resOf (denote r)) = resOf (denote (.bin op l r)) := by
  revert hb
  simp only [denote]
  cases denote l with
  | none => intro _; cases denote r <;> rfl
  | some a =>
    cases denote r with
    | none => intro _; rfl
    | some b =>
      intro hb
      simp only [resOf, lift2]
      rcases hop with h | h | h | h | h <;> subst h
      · simp only [binop, binVal]; rw [guard_ok _ (hb _ rfl)]
      · simp only [binop, binVal]; rw [guard_ok _ (hb _ rfl)]
      · simp only [binop, binVal]; rw [guard_ok _ (hb _ rfl)]
      · simp only [binop, binVal]
        by_cases h0 : b = 0 <;> simp [h0]
      · simp only [binop, binVal]
        by_cases h0 : b = 0 <;> simp [h0]

/-- its values are results (`Res Val`), so nothing makes it give up: `sgn` and `app` are total -/
def goClimber : Climber where
  τ := GTok
  ν := Res Val
  num := .int
  op := .op
  lp := .lparen
  rp := .rparen
  toks := CST.gtoks
  vnum n := .ok (.int n)
  sgn s v := some (if s then neg v else pos v)
  app o x y := some (lift2 o x y)
  prec := GoEval.prec
  U := parseUnary
  B := parseBinary
  L := binLoop
  toks_eq c := by cases c <;> rfl
  prec_eq _ h := goPrec_arith h
  op_inj _ _ h := GTok.op.inj h
  op_ne_rp _ h := nomatch h
  U_num _ _ _ := by rw [parseUnary]
  U_sgn f s r := by
    cases s
    · rw [show signStr false = "+" from rfl, parseUnary]
      cases parseUnary f r <;> rfl
    · rw [show signStr true = "-" from rfl, parseUnary]
      cases parseUnary f r <;> rfl
  U_lp f r d rest h := by
    rw [parseUnary, h]
    cases d <;> rfl
  B_eq f ts p := by
    rw [parseBinary]
    cases parseUnary f ts <;> rfl
  L_stop F x rest p1 h := by
    unfold binLoop
    split
    · rename_i o r
      have hc : (GoEval.prec o < p1 || GoEval.prec o == 0) = true := by
        rcases h o r rfl with h | h <;> simp [h]
      simp only [hc, if_true]
    · rfl
  L_step F x o r p1 hp h0 := by
    rw [binLoop]
    have hc : (GoEval.prec o < p1 || GoEval.prec o == 0) = false := by
      simp [h0]; omega
    simp only [hc]
    cases parseBinary F r (GoEval.prec o + 1) <;> rfl

theorem goClimber_den (c : CST) (hw : WFprec c) (hb : NoBigLit c) :
    goClimber.den c = some (resOf (denote c)) := by
  induction c with
  | num n => rfl
  | signs ss e ih =>
    simp only [WFprec] at hw
    simp only [NoBigLit] at hb
    simp only [Climber.den, denote, ih hw.2 hb]
    generalize denote e = d
    induction ss with
    | nil => cases d <;> rfl
    | cons s ss ih' =>
      show Option.bind (ss.foldr _ _) (goClimber.sgn s) = _
      rw [ih']
      cases s <;> cases d <;> rfl
  | paren e ih =>
    simp only [WFprec] at hw
    simp only [NoBigLit] at hb
    exact ih hw hb
  | bin op l r ihl ihr =>
    simp only [WFprec] at hw
    simp only [NoBigLit] at hb
    simp only [Climber.den, ihl hw.2.1 hb.1, ihr hw.2.2.1 hb.2.1]
    show some (lift2 op (resOf (denote l)) (resOf (denote r))) = _
    rw [lift2_resOf op l r hw.1 hb.2.2]

theorem parseBinary_gtoks (c : CST) (hw : WFprec c) (hb : NoBigLit c) :
    parseBinary (3 * c.gtoks.length + 3) c.gtoks 1 = some (resOf (denote c), []) := by
  have := goClimber.eval c hw
  rw [goClimber_den c hw hb] at this
  rw [CST.gtoks_length]
  exact this

end Gmars.ExprProofs
