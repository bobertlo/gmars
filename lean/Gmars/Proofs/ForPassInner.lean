/-
  C08: the body of a FOR block as the expander reads it (`forInnerLine`, `forInnerLabels`,
  `forInnerEmitConsumeLine`, `forRof`, `forEmitConsumeStream`): what is collected in `forContent`,
  how the nesting depth follows inner `for` / `rof` lines, and what the closing `rof` sends.
-/
import Gmars.Proofs.ForPassBasic

namespace Gmars
namespace ForPass

open ForExpand

variable (c : Ctx)

/-- the state functions of the body reader on `look-ahead :: remaining input`; the `[]` cases only
    make them total: every statement below has a token in front -/
def runIL : List Token → Inner → Res
  | [], s => .ok s.out
  | x :: r, s => innerLine c x r s

def runILab : List Token → List String → Inner → Res
  | [], _, s => .ok s.out
  | x :: r, lb, s => innerLabels c x r lb s

def runIECL : List Token → Inner → Res
  | [], s => .ok s.out
  | x :: r, s => innerEmitConsumeLine c x r s

def runRof (content : Array Token) : List Token → Out → Res
  | [], o => .ok o
  | x :: r, o => forRof c content x r o

def runECS : List Token → Out → Res
  | [], o => .ok o
  | x :: r, o => emitConsumeStream x r o

def pushes (s : Inner) (l : List Token) : Inner := { s with content := s.content ++ l.toArray }

@[simp] theorem pushes_nil (s : Inner) : pushes s [] = s := by simp [pushes]
theorem pushes_pushes (s : Inner) (a b : List Token) : pushes (pushes s a) b = pushes s (a ++ b) := by
  simp [pushes]
theorem push_eq (s : Inner) (t : Token) : s.push t = pushes s [t] := by
  simp [Inner.push, pushes]

theorem pushLabels_eq (s : Inner) (lb : List String) : s.pushLabels lb = pushes s (labelToks lb) := by
  unfold Inner.pushLabels pushes labelToks
  congr 1
  induction lb generalizing s with
  | nil => simp
  | cons a as ih =>
    have := ih { s with content := s.content.push { typ := .text, val := a } }
    simp only [List.foldl_cons, List.map_cons] at this ⊢
    rw [this]
    simp

theorem iecl_inline {cur t : Token} {r : List Token} {s : Inner} (h : InLine cur) :
    innerEmitConsumeLine c cur (t :: r) s = innerEmitConsumeLine c t r (s.push cur) := by
  obtain ⟨h1, h2, h3⟩ := h
  rw [innerEmitConsumeLine]
  split <;> simp_all

theorem iecl_nl {cur t : Token} {r : List Token} {s : Inner} (h : cur.typ = .newline) :
    innerEmitConsumeLine c cur (t :: r) s = innerLine c t r (s.push cur) := by
  rw [innerEmitConsumeLine, innerLine]
  split <;> simp_all

theorem runIECL_line (args : List Token) (nl t : Token) (r : List Token) (s : Inner)
    (ha : ∀ x ∈ args, InLine x) (hnl : nl.typ = .newline) :
    runIECL c (args ++ nl :: t :: r) s = runIL c (t :: r) (pushes s (args ++ [nl])) := by
  induction args generalizing s with
  | nil => exact (iecl_nl c hnl).trans (by rw [push_eq]; rfl)
  | cons a as ih =>
    have ha := List.forall_mem_cons.1 ha
    obtain ⟨x, xs, hx⟩ := exists_cons as nl (t :: r)
    rw [List.cons_append, hx, runIECL, iecl_inline c ha.1,
      ← runIECL, ← hx, ih _ ha.2, push_eq, pushes_pushes]
    rfl

theorem il_label {cur t : Token} {r : List Token} {lb : List String} {s : Inner}
    (h : isLabelTok cur = true) :
    innerLabels c cur (t :: r) lb s = innerLabels c t r (lb ++ [cur.val]) s := by
  obtain ⟨h1, h2, h3⟩ := isLabelTok_iff.1 h
  rw [innerLabels]
  simp [h1, h2, h3]

theorem runILab_labels {lbls rest : List Token} {lb : List String} {s : Inner}
    (hl : ∀ x ∈ lbls, isLabelTok x = true) (hr : rest ≠ []) :
    runILab c (lbls ++ rest) lb s = runILab c rest (lb ++ lbls.map (·.val)) s := by
  induction lbls generalizing lb with
  | nil => simp
  | cons a as ih =>
    have hl := List.forall_mem_cons.1 hl
    obtain ⟨x, xs, hx⟩ := List.exists_cons_of_ne_nil (List.append_ne_nil_of_right_ne_nil as hr)
    rw [List.cons_append, hx, runILab, il_label c hl.1,
      ← runILab, ← hx, ih hl.2, List.map_cons,
      List.append_assoc]
    rfl

/-- what a line of kind `k` does to the fields other than `forContent` -/
def kindMod (k : Kind) (s : Inner) : Inner :=
  match k with
  | .op => { s with out := s.out.emitLabels s.toWrite, toWrite := [] }
  | .for_ => { s with depth := s.depth + 1 }
  | .rof => { s with depth := s.depth - 1 }
  | _ => s

/-- `forInnerLabels` at the first token that is not a label; the label buffer is dropped in front
    of an inner `rof` -/
theorem il_head (cur : Token) (as r : List Token) (lb : List String) (s : Inner)
    (hh : isLabelTok cur = false) :
    innerLabels c cur r lb s =
      if lineKind (cur :: as) = .rof ∧ s.depth = 0 then forRof c s.content cur r s.out
      else innerEmitConsumeLine c cur r
        (pushes (kindMod (lineKind (cur :: as)) s)
          (if lineKind (cur :: as) = .rof then [] else labelToks lb)) := by
  rcases lineKind_cases cur as with ⟨h, _⟩ | ⟨h1, hk⟩ | ⟨h1, h2, h3, hk⟩ | ⟨h1, h2, h3, hk⟩ |
      ⟨h1, h2, h3, hk⟩ | ⟨h1, h2, h3, h4, h5, hk⟩
  · rw [hh] at h; cases h
  all_goals rw [hk, innerLabels.eq_def]
  · simp [h1, kindMod, pushLabels_eq]
  · simp [h1, h2, h3, kindMod, pushLabels_eq]
  · simp [h1, isPseudoOp_of_lower_for h3, h3, kindMod, pushLabels_eq]
  · by_cases hd : s.depth = 0 <;>
      simp [h1, isPseudoOp_of_lower_rof h3, h3, hd, Nat.pos_iff_ne_zero, kindMod]
  · rw [if_pos (by simp [h1]), if_pos h3]
    split
    · exact absurd ‹_› h4
    · exact absurd ‹_› h5
    · simp [kindMod, pushLabels_eq]

/-- what goes into `forContent` for a line -/
def lineContent (l : List Token) : List Token :=
  if lineKind l = .rof then l.dropWhile isLabelTok else l

def stepInner (s : Inner) (l : Line) : Inner :=
  pushes (kindMod (lineKind l.toks) s) (lineContent l.toks ++ [l.nl])

/-- `forInnerLine` is `forInnerLabels` with an empty label buffer: on a token that is not text
    the empty buffer is copied and the line is consumed -/
theorem runIL_eq (l : List Token) (s : Inner) : runIL c l s = runILab c l [] s := by
  cases l with
  | nil => rfl
  | cons x r =>
    rw [runIL, runILab, innerLine]
    split
    · rfl
    · rw [innerLabels.eq_def, if_neg ‹_›]; rfl

theorem rof_skip {content : Array Token} {cur t : Token} {r : List Token} {o : Out}
    (h : InLine cur) : forRof c content cur (t :: r) o = forRof c content t r o := by
  obtain ⟨h1, h2, h3⟩ := h
  rw [forRof]
  simp [h1, h2, h3]

theorem rof_nl {content : Array Token} {cur t : Token} {r : List Token} {o : Out}
    (h : cur.typ = .newline) :
    forRof c content cur (t :: r) o = emitConsumeStream t r (expand c content o) := by
  rw [forRof]
  simp [h, nextTok, Token.isTerm]

theorem runRof_line (content : Array Token) (args : List Token) (nl t : Token) (r : List Token)
    (o : Out) (ha : ∀ x ∈ args, InLine x) (hnl : nl.typ = .newline) :
    runRof c content (args ++ nl :: t :: r) o = runECS (t :: r) (expand c content o) := by
  induction args with
  | nil => exact rof_nl c hnl
  | cons a as ih =>
    have ha := List.forall_mem_cons.1 ha
    obtain ⟨x, xs, hx⟩ := exists_cons as nl (t :: r)
    rw [List.cons_append, hx, runRof, rof_skip c ha.1,
      ← runRof, ← hx, ih ha.2]

theorem runILab_line (l : List Token) (nl t : Token) (r : List Token) (lb : List String)
    (s : Inner) (hl : ∀ x ∈ l, InLine x) (hnl : nl.typ = .newline) :
    runILab c (l ++ nl :: t :: r) lb s =
      if lineKind l = .rof ∧ s.depth = 0 then runECS (t :: r) (expand c s.content s.out)
      else runIL c (t :: r) (pushes (kindMod (lineKind l) s)
        ((if lineKind l = .rof then l.dropWhile isLabelTok else labelToks lb ++ l) ++ [nl])) := by
  obtain ⟨lbls, rest, rfl, hlab, hdrop, hhead⟩ := exists_labels l
  have hbuf : labelToks (lb ++ lbls.map (·.val)) = labelToks lb ++ lbls := by
    rw [labelToks_append, labelToks_vals (fun x hx => (isLabelTok_iff.1 (hlab x hx)).1)]
  have hrest : ∀ x ∈ rest, InLine x := fun x hx => hl x (by simp [hx])
  rw [lineKind_labels _ hlab, hdrop, List.append_assoc, runILab_labels c hlab (by simp)]
  cases rest with
  | nil =>
    have hb : lineKind [nl] = .blank := lineKind_nontext (by rw [hnl]; decide)
    rw [List.nil_append, runILab, il_head c nl [] _ _ s (by simp [isLabelTok, hnl]), hb,
      if_neg (by simp), ← runIECL, ← List.nil_append (nl :: t :: r),
      runIECL_line c _ _ _ _ _ hrest hnl, pushes_pushes, hbuf]
    simp [lineKind]
  | cons a as =>
    rw [List.cons_append, runILab, il_head c a as _ _ s (hhead a rfl)]
    by_cases hk : lineKind (a :: as) = .rof ∧ s.depth = 0
    · rw [if_pos hk, if_pos hk, ← runRof, ← List.cons_append,
        runRof_line c _ _ nl t r _ hrest hnl]
    · rw [if_neg hk, if_neg hk, ← runIECL, ← List.cons_append,
        runIECL_line c _ _ _ _ _ hrest hnl, pushes_pushes, hbuf]
      by_cases hr : lineKind (a :: as) = .rof <;> simp [hr]

theorem runIL_line (l : Line) (t : Token) (r : List Token) (s : Inner) (hwf : l.WF) :
    runIL c (l.flat ++ t :: r) s =
      if lineKind l.toks = .rof ∧ s.depth = 0 then runECS (t :: r) (expand c s.content s.out)
      else runIL c (t :: r) (stepInner s l) := by
  rw [runIL_eq, Line.flat, List.append_assoc, List.singleton_append,
    runILab_line c _ _ _ _ [] s hwf.2 hwf.1]
  rfl

theorem runIL_close (l : Line) (t : Token) (r : List Token) (s : Inner) (hwf : l.WF)
    (hk : lineKind l.toks = .rof) (hd : s.depth = 0) :
    runIL c (l.flat ++ t :: r) s = runECS (t :: r) (expand c s.content s.out) := by
  rw [runIL_line c l t r s hwf, if_pos ⟨hk, hd⟩]

def kindDepth (k : Kind) (d : Nat) : Nat :=
  match k with
  | .for_ => d + 1
  | .rof => d - 1
  | _ => d

def NoClose : Nat → List Line → Prop
  | _, [] => True
  | d, l :: ls => ¬(lineKind l.toks = .rof ∧ d = 0) ∧ NoClose (kindDepth (lineKind l.toks) d) ls

def depthAfter (d : Nat) (ls : List Line) : Nat :=
  ls.foldl (fun d l => kindDepth (lineKind l.toks) d) d

/-- the `for` and `rof` lines of `ls` match up: the body of a block -/
def Balanced (ls : List Line) : Prop := NoClose 0 ls ∧ depthAfter 0 ls = 0

/-- the line as it is copied into `forContent` -/
def Line.norm (l : Line) : Line := { l with toks := lineContent l.toks }

def bodyContent (ls : List Line) : List Token := flat (ls.map Line.norm)

/-- the first line with an opcode after its labels is where the renamed line labels of the FOR
    line are written -/
def hasOpLine (ls : List Line) : Bool := ls.any (fun l => lineKind l.toks == .op)

theorem stepInner_eq (s : Inner) (l : Line) :
    stepInner s l =
      { content := s.content ++ (lineContent l.toks ++ [l.nl]).toArray
        depth := kindDepth (lineKind l.toks) s.depth
        toWrite := if lineKind l.toks = .op then [] else s.toWrite
        out := if lineKind l.toks = .op then s.out.emitLabels s.toWrite else s.out } := by
  unfold stepInner pushes kindMod kindDepth
  cases lineKind l.toks <;> rfl

theorem emitLabels_nil (o : Out) : o.emitLabels [] = o := rfl

theorem foldl_stepInner (ls : List Line) (s : Inner) :
    ls.foldl stepInner s =
      { content := s.content ++ (bodyContent ls).toArray
        depth := depthAfter s.depth ls
        toWrite := if hasOpLine ls then [] else s.toWrite
        out := if hasOpLine ls then s.out.emitLabels s.toWrite else s.out } := by
  induction ls generalizing s with
  | nil => simp [bodyContent, depthAfter, hasOpLine]
  | cons l ls ih =>
    rw [List.foldl_cons, ih, stepInner_eq]
    by_cases hk : lineKind l.toks = .op <;>
      simp [hk, hasOpLine, bodyContent, Line.norm, Line.flat, depthAfter, emitLabels_nil]

theorem runIL_body (ls : List Line) (t : Token) (r : List Token) (s : Inner)
    (hwf : ∀ l ∈ ls, l.WF) (hb : NoClose s.depth ls) :
    runIL c (flat ls ++ t :: r) s = runIL c (t :: r) (ls.foldl stepInner s) := by
  induction ls generalizing s with
  | nil => rfl
  | cons l ls ih =>
    obtain ⟨x, xs, hx⟩ := exists_cons (flat ls) t r
    rw [flat_cons, List.append_assoc, hx, runIL_line c l x xs s (hwf l (List.mem_cons_self ..)), if_neg hb.1,
      ← hx, List.foldl_cons]
    apply ih _ (fun l' h' => hwf l' (List.mem_cons_of_mem _ h'))
    rw [stepInner_eq]
    exact hb.2

def iteration (content : List Token) (k : Nat) : List Token := content.map (substTok c (k + 1))

def repeated (content : List Token) (n : Nat) : List Token :=
  (List.range n).flatMap (iteration c content)

theorem expand_eq (content : Array Token) (o : Out) :
    expand c content o = emits o (repeated c content.toList c.forCount.toNat) := by
  unfold expand repeated
  generalize List.range c.forCount.toNat = ks
  induction ks generalizing o with
  | nil => rfl
  | cons k ks ih =>
    rw [List.foldl_cons, ih, List.flatMap_cons, emits_append]
    congr 1
    rw [← Array.foldl_toList, iteration, emits, List.foldl_map]

theorem substTok_noTerm (i : Nat) (t : Token) (h : t.isTerm = false) :
    (substTok c i t).isTerm = false := by
  unfold substTok
  split
  · split
    · rfl
    · split
      · rfl
      · exact h
  · exact h

theorem repeated_noTerm (content : List Token) (n : Nat) (h : ∀ t ∈ content, t.isTerm = false) :
    ∀ t ∈ repeated c content n, t.isTerm = false := by
  intro t ht
  simp only [repeated, iteration, List.mem_flatMap, List.mem_map] at ht
  obtain ⟨_, _, x, hx, rfl⟩ := ht
  exact substTok_noTerm c _ _ (h x hx)

theorem ecs_step {cur t : Token} {r : List Token} {o : Out} (h : cur.isTerm = false) :
    emitConsumeStream cur (t :: r) o = emitConsumeStream t r (o.emit cur) := by
  obtain ⟨h1, h2⟩ := (isTerm_false_iff _).1 h
  rw [emitConsumeStream]
  simp [h1, h2]

/-- a tokError behind the block is sent, a tokEOF is not (`run()` sends its own) -/
theorem runECS_stream (q : List Token) (z : Token) (rest : List Token) (o : Out)
    (hq : ∀ x ∈ q, x.isTerm = false) (hz : z.isTerm = true) :
    runECS (q ++ z :: rest) o =
      .ok (if z.typ = .eof then emits o q else emits o (q ++ [z])) := by
  induction q generalizing o with
  | nil =>
    simp only [List.nil_append, runECS, emits_nil, emits_cons]
    rcases (isTerm_iff _).1 hz with h | h
    · rw [emitConsumeStream.eq_def]; simp [h]
    · rw [emitConsumeStream.eq_def]; simp [h]
  | cons a as ih =>
    have hq := List.forall_mem_cons.1 hq
    obtain ⟨x, xs, hx⟩ := exists_cons as z rest
    have hrec := ih (o.emit a) hq.2
    rw [hx] at hrec
    rw [List.cons_append, hx, runECS, ecs_step hq.1]
    exact hrec

end ForPass
end Gmars
