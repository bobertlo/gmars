/-
  Textual substitution of a symbol table into a token list, as expr.go and compile.go perform it:
  one parallel round `stepT`, `k` rounds `iterT`.  On a table without cycles the rounds reach a list
  that mentions no key any more; that list does not depend on the number of rounds
  (`iterT_unique`), and it is what every expansion of the model and of the reference computes.
  The cycle check decides whether the table has a rank (`acyclic_iff_tranked`).
  `substT ρ`: every name replaced by what a function gives for it (the labels, in ExpandLoop).
-/
import Gmars.Proofs.CompileExpand

namespace Gmars.AsmLine
open Gmars.Compile

def stepTTok (V : SymTab) (t : Token) : List Token :=
  if t.typ == .text then
    match V.get? t.val with
    | some v => v
    | none => [t]
  else [t]

def stepT (V : SymTab) (ts : List Token) : List Token := ts.flatMap (stepTTok V)

def iterT (V : SymTab) : Nat → List Token → List Token
  | 0, ts => ts
  | k + 1, ts => iterT V k (stepT V ts)

/-- what `expandValue` writes for a key, and what `expandAndEvaluate` evaluates -/
theorem expandValue_flatMap (res : SymTab) (value : List Token) :
    value.flatMap (fun t =>
      if t.typ == .text then
        match res.get? t.val with
        | some v => v
        | none => [t]
      else [t]) = stepT res value := rfl

theorem stepT_cons (V : SymTab) (t : Token) (r : List Token) :
    stepT V (t :: r) = stepTTok V t ++ stepT V r := by
  simp [stepT]

theorem stepT_append (V : SymTab) (a b : List Token) : stepT V (a ++ b) = stepT V a ++ stepT V b := by
  simp [stepT]

theorem iterT_nil (V : SymTab) (k : Nat) : iterT V k [] = [] := by
  induction k with
  | zero => rfl
  | succ k ih => exact ih

theorem iterT_append (V : SymTab) (k : Nat) : ∀ a b : List Token,
    iterT V k (a ++ b) = iterT V k a ++ iterT V k b := by
  induction k with
  | zero => intro a b; rfl
  | succ k ih => intro a b; rw [iterT, stepT_append, ih]; rfl

theorem iterT_flatMap (V : SymTab) (k : Nat) (f : Token → List Token) (ts : List Token) :
    iterT V k (ts.flatMap f) = ts.flatMap (fun t => iterT V k (f t)) := by
  induction ts with
  | nil => simp [iterT_nil]
  | cons t r ih => simp only [List.flatMap_cons, iterT_append, ih]

theorem iterT_add (V : SymTab) (a b : Nat) : ∀ ts : List Token,
    iterT V (a + b) ts = iterT V b (iterT V a ts) := by
  induction a with
  | zero => intro ts; rw [Nat.zero_add]; rfl
  | succ a ih => intro ts; rw [Nat.add_right_comm]; exact ih _

theorem stepTTok_notext (V : SymTab) (t : Token) (h : t.typ ≠ .text) : stepTTok V t = [t] := by
  unfold stepTTok
  rw [if_neg (by simpa using h)]

theorem stepTTok_text (V : SymTab) (t : Token) (h : t.typ = .text) :
    stepTTok V t = (V.get? t.val).getD [t] := by
  unfold stepTTok
  rw [if_pos (by simpa using h)]
  cases V.get? t.val <;> rfl

theorem stepT_congr {V V' : SymTab} {ts : List Token}
    (h : ∀ t ∈ ts, t.typ = .text → V'.get? t.val = V.get? t.val) : stepT V' ts = stepT V ts := by
  refine flatMap_congr fun t ht => ?_
  by_cases htx : t.typ = .text
  · rw [stepTTok_text _ _ htx, stepTTok_text _ _ htx, h t ht htx]
  · rw [stepTTok_notext _ _ htx, stepTTok_notext _ _ htx]

theorem mem_stepT {V : SymTab} {ts : List Token} {x : Token} (hx : x ∈ stepT V ts) :
    (x ∈ ts ∧ (x.typ = .text → V.get? x.val = none)) ∨
      ∃ t v, t ∈ ts ∧ t.typ = .text ∧ V.get? t.val = some v ∧ x ∈ v := by
  obtain ⟨t, ht, hxt⟩ := List.mem_flatMap.mp hx
  by_cases htx : t.typ = .text
  · rw [stepTTok_text V t htx] at hxt
    cases hv : V.get? t.val with
    | some v => rw [hv] at hxt; exact Or.inr ⟨t, v, ht, htx, hv, hxt⟩
    | none =>
      rw [hv] at hxt
      cases List.mem_singleton.mp hxt
      exact Or.inl ⟨ht, fun _ => hv⟩
  · rw [stepTTok_notext V t htx] at hxt
    cases List.mem_singleton.mp hxt
    exact Or.inl ⟨ht, fun h => absurd h htx⟩

def TKeyFree (V : SymTab) (ts : List Token) : Prop :=
  ∀ t ∈ ts, t.typ = .text → V.get? t.val = none

theorem stepT_keyfree (V : SymTab) (ts : List Token) (h : TKeyFree V ts) : stepT V ts = ts := by
  induction ts with
  | nil => rfl
  | cons t r ih =>
    rw [stepT_cons, ih (fun x hx => h x (List.mem_cons_of_mem _ hx))]
    by_cases ht : t.typ = .text
    · rw [stepTTok_text V t ht, h t (List.mem_cons_self ..) ht]; rfl
    · rw [stepTTok_notext V t ht]; rfl

theorem iterT_keyfree (V : SymTab) (k : Nat) (ts : List Token) (h : TKeyFree V ts) :
    iterT V k ts = ts := by
  induction k with
  | zero => rfl
  | succ k ih => rw [iterT, stepT_keyfree V ts h, ih]

theorem TKeyFree.single {V : SymTab} {t : Token} (h : t.typ = .text → V.get? t.val = none) :
    TKeyFree V [t] := fun x hx hxt => by
  cases List.mem_singleton.mp hx
  exact h hxt

theorem stepT_keyfree_of_values {V : SymTab} (hk : ∀ k v, V.get? k = some v → TKeyFree V v)
    (ts : List Token) : TKeyFree V (stepT V ts) := by
  intro x hx hxt
  rcases mem_stepT hx with ⟨_, hnone⟩ | ⟨t, v, _, _, htv, hxv⟩
  · exact hnone hxt
  · exact hk _ v htv x hxv hxt

theorem iterT_of_keyfree {V : SymTab} {a b : Nat} {ts : List Token}
    (h : TKeyFree V (iterT V a ts)) (hab : a ≤ b) : iterT V b ts = iterT V a ts := by
  obtain ⟨k, rfl⟩ := Nat.exists_eq_add_of_le hab
  rw [iterT_add, iterT_keyfree V k _ h]

theorem iterT_unique {V : SymTab} {a b : Nat} {ts : List Token}
    (ha : TKeyFree V (iterT V a ts)) (hb : TKeyFree V (iterT V b ts)) :
    iterT V a ts = iterT V b ts :=
  (Nat.le_total a b).elim (fun h => (iterT_of_keyfree ha h).symm) (iterT_of_keyfree hb)

def TRanked (V : SymTab) (d : String → Nat) : Prop :=
  ∀ k v, V.get? k = some v → ∀ t ∈ v, t.typ = .text → (V.get? t.val).isSome = true → d t.val < d k

theorem Ranked.tranked {V : SymTab} {d : String → Nat} (h : Ranked V d) : TRanked V d :=
  fun k v hkv t ht htx _ => h k v hkv t ht htx

theorem acyclic_of_tranked {V : SymTab} {d : String → Nat} (hnd : (V.map (·.1)).Nodup)
    (hr : TRanked V d) : graphContainsCycle (buildReferenceGraph V) = false := by
  apply graphContainsCycle_ranked (d := d)
  intro k refs hg r hrr
  obtain ⟨toks, he, _, rfl⟩ := mem_of_graph_get? hg
  obtain ⟨t, ht, htx, hhas, rfl⟩ := mem_refsOf_iff.mp hrr
  exact hr k toks (SymTab.get?_of_mem_nodup hnd he) t ht htx (by rw [← SymTab.has_eq]; exact hhas)

theorem acyclic_iff_tranked {V : SymTab} (hnd : (V.map (·.1)).Nodup) :
    graphContainsCycle (buildReferenceGraph V) = false ↔ ∃ d, TRanked V d :=
  ⟨fun hc => ⟨_, Ranked.tranked (ranked_of_acyclic hc).1⟩, fun ⟨_, hr⟩ => acyclic_of_tranked hnd hr⟩

def TBound (V : SymTab) (d : String → Nat) (r : Nat) (ts : List Token) : Prop :=
  ∀ t ∈ ts, t.typ = .text → (V.get? t.val).isSome = true → d t.val < r

theorem TBound.keyfree {V : SymTab} {d : String → Nat} {ts : List Token} (h : TBound V d 0 ts) :
    TKeyFree V ts :=
  fun t ht htx => Option.not_isSome_iff_eq_none.1 fun hsome => Nat.not_lt_zero _ (h t ht htx hsome)

theorem TBound.mono {V : SymTab} {d : String → Nat} {r r' : Nat} {ts : List Token}
    (h : TBound V d r ts) (hle : r ≤ r') : TBound V d r' ts :=
  fun t ht htx hs => Nat.lt_of_lt_of_le (h t ht htx hs) hle

theorem TBound.step {V : SymTab} {d : String → Nat} (hr : TRanked V d) {r : Nat} {ts : List Token}
    (h : TBound V d (r + 1) ts) : TBound V d r (stepT V ts) := by
  intro x hx hxt hsome
  rcases mem_stepT hx with ⟨_, hnone⟩ | ⟨t, v, ht, htx, htv, hxv⟩
  · rw [hnone hxt] at hsome; cases hsome
  · exact Nat.lt_of_lt_of_le (hr t.val v htv x hxv hxt hsome)
      (Nat.le_of_lt_succ (h t ht htx (by rw [htv]; rfl)))

theorem iterT_keyfree_of_bound {V : SymTab} {d : String → Nat} (hr : TRanked V d) :
    ∀ (r : Nat) (ts : List Token), TBound V d r ts → TKeyFree V (iterT V r ts) := by
  intro r
  induction r with
  | zero => intro ts h; exact h.keyfree
  | succ r ih => intro ts h; exact ih _ (h.step hr)

theorem stepT_deep {V V' : SymTab} {k : Nat} {ts : List Token}
    (h : ∀ t ∈ ts, t.typ = .text → V'.get? t.val = (V.get? t.val).map (iterT V k)) :
    stepT V' ts = iterT V (k + 1) ts := by
  rw [iterT, stepT, stepT, iterT_flatMap]
  refine flatMap_congr fun t ht => ?_
  by_cases htx : t.typ = .text
  · rw [stepTTok_text V' t htx, stepTTok_text V t htx, h t ht htx]
    cases hg : V.get? t.val with
    | some v => rfl
    | none => exact (iterT_keyfree V k _ (TKeyFree.single fun _ => hg)).symm
  · rw [stepTTok_notext V' t htx, stepTTok_notext V t htx]
    exact (iterT_keyfree V k _ (TKeyFree.single fun h => absurd h htx)).symm

def substT (ρ : String → Option (List Token)) : List Token → Option (List Token)
  | [] => some []
  | t :: r =>
    if t.typ == .text then
      (ρ t.val).bind fun x => (substT ρ r).map fun rest => x ++ rest
    else (substT ρ r).map (t :: ·)

theorem substT_append (ρ : String → Option (List Token)) (a b : List Token) :
    substT ρ (a ++ b) = (substT ρ a).bind fun x => (substT ρ b).map fun y => x ++ y := by
  induction a with
  | nil => simp [substT]
  | cons t r ih =>
    simp only [List.cons_append, substT]
    split
    · cases ρ t.val with
      | none => rfl
      | some v =>
        simp only [Option.bind_some, ih]
        cases substT ρ r with
        | none => rfl
        | some x => cases substT ρ b <;> simp
    · rw [ih]
      cases substT ρ r with
      | none => rfl
      | some x => cases substT ρ b <;> simp

theorem substT_notext (ρ : String → Option (List Token)) (ts : List Token)
    (h : ∀ t ∈ ts, t.typ ≠ .text) : substT ρ ts = some ts := by
  induction ts with
  | nil => rfl
  | cons t r ih =>
    have ht : (t.typ == TokType.text) = false := by simpa using h t (List.mem_cons_self ..)
    simp only [substT, ht, Bool.false_eq_true, if_false,
      ih (fun x hx => h x (List.mem_cons_of_mem _ hx)), Option.map_some]

end Gmars.AsmLine
