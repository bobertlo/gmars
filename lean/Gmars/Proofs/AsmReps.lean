/-
  The programs the compiler-stage theorems speak about, as syntax: label programs (`LItem`, with
  template operands `NT`) beside the programs with EQUs of `EquDefs` (`XItem`); how each is read
  as source lines (`toLine`, `lrender`/`xrender`), its label table, its instruction count, and how
  these go along `++`; the END line with labels in front of it (`xendLineT`) and what `loadSymbols`
  asks of the keywords (`XItem.KW`).  The other conditions on a program, and what it means, are
  said in `AsmLabels` and `AsmEqu`; the modules that relate programs to their text need only this
  one.
-/
import Gmars.Proofs.EquDefs

namespace Gmars.AsmLine
open Gmars.ExprProofs

inductive NT
  | num (n : Nat)
  | name (s : String)
  | signs (ss : List Bool) (e : NT)
  | paren (e : NT)
  | bin (op : String) (l r : NT)
  deriving Repr, Inhabited

def NT.tokens : NT → List Token
  | .num n => [ExprProofs.numTok n]
  | .name s => [textTok s]
  | .signs ss e => ss.map signTok ++ e.tokens
  | .paren e => lpTok :: (e.tokens ++ [rpTok])
  | .bin op l r => l.tokens ++ opTok op :: r.tokens

def NT.etoks : NT → List Spec.ETok
  | .num n => [.num n]
  | .name s => [.name s]
  | .signs ss e => ss.map (fun s => Spec.ETok.op (signStr s)) ++ e.etoks
  | .paren e => .lp :: (e.etoks ++ [.rp])
  | .bin op l r => l.etoks ++ .op op :: r.etoks

def NT.names : NT → List String
  | .num _ => []
  | .name s => [s]
  | .signs _ e => e.names
  | .paren e => e.names
  | .bin _ l r => l.names ++ r.names

structure LOperand where
  mode : Option Mode
  expr : NT

inductive LItem
  | instr (labels : List String) (op : String) (md : Option String) (a : LOperand) (b : Option LOperand)
  | org (kw : String) (e : NT)
  | end_ (kw : String) (e : Option NT)

def LOperand.toP (o : LOperand) : Spec.POperand := { mode := o.mode, expr := o.expr.etoks }

/-- the program as the reference reads it -/
def LItem.toItem : LItem → Spec.Item
  | .instr ls op md a b => .instr ls op md a.toP (b.map LOperand.toP)
  | .org _ e => .org e.etoks
  | .end_ _ e => .end_ (e.map NT.etoks)

def LItem.isInstr : LItem → Bool
  | .instr .. => true
  | _ => false

/-- the program as the parser hands it to the compiler -/
def LItem.toLine (k : Nat) : LItem → SourceLine
  | .instr ls op md a b =>
    { typ := .instruction, codeLine := (k : Int), labels := ls, op := opString op md,
      amode := modeString a.mode, a := some a.expr.tokens,
      bmode := modeString (b.bind (·.mode)), b := b.map (·.expr.tokens) }
  | .org kw e => { typ := .pseudoOp, op := kw, a := some e.tokens }
  | .end_ kw e => { typ := .pseudoOp, op := kw, a := e.map NT.tokens }

def lrender (k : Nat) : List LItem → List SourceLine
  | [] => []
  | it :: r => it.toLine k :: lrender (if it.isInstr then k + 1 else k) r

def labelsFrom (k : Nat) : List LItem → List (String × Nat)
  | [] => []
  | .instr ls _ _ _ _ :: r => ls.map (fun l => (l, k)) ++ labelsFrom (k + 1) r
  | .org _ _ :: r => labelsFrom k r
  | .end_ _ _ :: r => labelsFrom k r

def linstrCount (prog : List LItem) : Nat := (prog.filter LItem.isInstr).length

theorem xinstrCount_app (a b : List XItem) : xinstrCount (a ++ b) = xinstrCount a + xinstrCount b := by
  simp [xinstrCount]

theorem xinstrCount_cons_add (it : XItem) (r : List XItem) (k : Nat) :
    (if it.isInstr then k + 1 else k) + xinstrCount r = k + xinstrCount (it :: r) := by
  cases hi : it.isInstr <;> simp [xinstrCount, hi] <;> omega

theorem xrender_app (a b : List XItem) :
    ∀ k, xrender k (a ++ b) = xrender k a ++ xrender (k + xinstrCount a) b := by
  induction a with
  | nil => intro k; simp [xrender, xinstrCount]
  | cons it r ih =>
    intro k
    simp only [List.cons_append, xrender, ih, xinstrCount_cons_add]

theorem xlabelsFrom_app (a b : List XItem) :
    ∀ k, xlabelsFrom k (a ++ b) = xlabelsFrom k a ++ xlabelsFrom (k + xinstrCount a) b := by
  induction a with
  | nil => intro k; simp [xlabelsFrom, xinstrCount]
  | cons it r ih =>
    intro k
    cases it with
    | instr ls op md a' b' =>
      rw [List.cons_append, xlabelsFrom, xlabelsFrom, ih, List.append_assoc, ← xinstrCount_cons_add]
      rfl
    | _ => simp [xlabelsFrom, ih, XItem.isInstr, xinstrCount]

theorem xequs_app (a b : List XItem) : xequs (a ++ b) = xequs a ++ xequs b := by
  induction a with
  | nil => rfl
  | cons it r ih => cases it <;> simp [xequs, ih]

/-- the END line as the parser records it: the labels in front of `end` are its `labels` -/
def xendLineT (kw : String) (e : Option (List Spec.ETok)) (tail : List String) : SourceLine :=
  { (XItem.end_ kw e).toLine 0 with labels := tail }

theorem toksOf_ne_nil {e : List Spec.ETok} (h : e ≠ []) : toksOf e ≠ [] :=
  fun hn => h (List.map_eq_nil_iff.1 hn)

/-- what `loadSymbols` needs to know: the keywords are the keywords, an `END` argument is not empty -/
def XItem.KW : XItem → Prop
  | .equ kw _ _ => lowerStr kw = "equ"
  | .org kw _ => lowerStr kw = "org"
  | .end_ kw e => lowerStr kw = "end" ∧ ∀ x, e = some x → x ≠ []
  | _ => True

end Gmars.AsmLine
