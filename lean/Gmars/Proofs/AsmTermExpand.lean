/-
  C05: the FOR expander, one invariant for all its state functions.

  `Fine (termB cur rest) P result`: a `hang` needs an unterminated input; an output is `Good`
  (either still open, no terminating token sent, or closed by exactly one terminating token, sent
  last) and satisfies the size bound `P`. The size bound: a pass copies its input token by token
  except for the FIRST `for` block it meets: the FOR line is dropped, the body (at most the tokens
  read up to the matching `rof`) is sent `count` times, and the rest of the stream is copied, so
  `out.length ≤ toks.length + count * toks.length`.

  `vs o` ("virtual size") is the number of tokens sent once the closing tokEOF of `run()` has
  been accounted for: a terminating token does not increase it.
-/
import Gmars.Proofs.AsmTermBase

namespace Gmars
namespace ForExpand

def Out.Good (o : Out) : Prop :=
  if o.done then Lex.endsOnce o.toks.toList = true else Lex.noTerm o.toks.toList = true

def vs (o : Out) : Nat := o.toks.size + (if o.done then 0 else 1)

theorem Out.good_empty : Out.Good {} := by
  simp [Out.Good, Lex.noTerm]

theorem Out.Good.emit {o : Out} (h : o.Good) (t : Token) : (o.emit t).Good := by
  unfold Out.emit
  split
  · exact h
  · rename_i hd
    unfold Out.Good at h ⊢
    rw [if_neg hd] at h
    simp only [Array.toList_push]
    cases ht : t.isTerm
    · exact Lex.noTerm_append h (Lex.noTerm_single ht)
    · exact Lex.endsOnce_append h (Lex.endsOnce_single ht)

theorem vs_emit_le (o : Out) (t : Token) : vs (o.emit t) ≤ vs o + 1 := by
  unfold Out.emit vs
  split
  · omega
  · simp only [Array.size_push]
    split <;> simp <;> omega

theorem vs_emit_term (o : Out) {t : Token} (ht : t.isTerm = true) : vs (o.emit t) ≤ vs o := by
  unfold Out.emit vs
  split
  · omega
  · simp

theorem emit_eof (o : Out) : (o.emit { typ := .eof, val := "" }).done = true ∧
    (o.emit { typ := .eof, val := "" }).toks.size = vs o := by
  unfold Out.emit vs
  split <;> simp [*, Token.isTerm]

theorem foldl_good {α : Type} {k : Nat} (f : Out → α → Out)
    (hf : ∀ o a, o.Good → (f o a).Good ∧ vs (f o a) ≤ vs o + k) (l : List α) {o : Out}
    (h : o.Good) : (l.foldl f o).Good ∧ vs (l.foldl f o) ≤ vs o + l.length * k := by
  induction l generalizing o with
  | nil => exact ⟨h, by simp⟩
  | cons a as ih =>
    obtain ⟨h1, h2⟩ := hf o a h
    obtain ⟨h3, h4⟩ := ih h1
    refine ⟨h3, ?_⟩
    simp only [List.foldl_cons, List.length_cons, Nat.succ_mul] at h4 ⊢
    omega

theorem emitLabels_good {o : Out} (h : o.Good) (labels : List String) :
    (o.emitLabels labels).Good ∧ vs (o.emitLabels labels) ≤ vs o + labels.length := by
  have := foldl_good (k := 1) (fun o l => o.emit { typ := .text, val := l })
    (fun o _ ho => ⟨ho.emit _, vs_emit_le o _⟩) labels h
  rwa [Nat.mul_one] at this

theorem expand_good {o : Out} (h : o.Good) (c : Ctx) (content : Array Token) :
    (expand c content o).Good ∧ vs (expand c content o) ≤ vs o + c.forCount.toNat * content.size := by
  have := foldl_good (k := content.size)
    (fun o k => content.foldl (fun o tok => o.emit (substTok c (k + 1) tok)) o)
    (fun o k ho => by
      rw [← Array.foldl_toList]
      have := foldl_good (k := 1) (fun o tok => o.emit (substTok c (k + 1) tok))
        (fun o _ ho => ⟨ho.emit _, vs_emit_le o _⟩) content.toList ho
      rwa [Nat.mul_one, Array.length_toList] at this)
    (List.range c.forCount.toNat) h
  rwa [List.length_range] at this

-- `split` and `intro` bring goals `Fine _ _ (if cur.isOp then _ else _)` to weak head normal form;
-- this keeps them from evaluating the string comparisons inside
attribute [local irreducible] Token.isOp Token.isPseudoOp lowerStr

theorem error_isTerm {t : Token} (h : t.typ = .error) : t.isTerm = true := by
  simp [Token.isTerm, h]

theorem text_not_isTerm {t : Token} (h : (t.typ == .text) = true) : t.isTerm = false := by
  simp [Token.isTerm, eq_of_beq h]

def Fine (b : Bool) (P : Out → Prop) : Res → Prop
  | .ok o => o.Good ∧ P o
  | .error _ => b = false

theorem Fine.imp {b : Bool} {P P' : Out → Prop} {x : Res} (h : Fine b P x)
    (hP : ∀ o, P o → P' o) : Fine b P' x := by
  cases x with
  | ok o => exact ⟨h.1, hP o h.2⟩
  | error f => exact h

theorem Fine.cons {cur t : Token} {r : List Token} {P P' : Out → Prop} {x : Res}
    (h : Fine (termB t r) P x) (hP : ∀ o, P o → P' o) : Fine (termB cur (t :: r)) P' x := by
  cases x with
  | ok o => exact ⟨h.1, hP o h.2⟩
  | error f =>
    show termB cur (t :: r) = false
    rw [termB_cons, show termB t r = false from h, Bool.and_false]

theorem Fine.hang {cur : Token} {P : Out → Prop} {f : Fault} (h : cur.isTerm = false) :
    Fine (termB cur []) P (.error f) := h

theorem Fine.term {b : Bool} {o : Out} {t : Token} {base : Nat} (ho : o.Good) (ht : t.isTerm = true)
    (h : vs o ≤ base) : Fine b (fun o' => vs o' ≤ base) (.ok (o.emit t)) :=
  ⟨ho.emit t, Nat.le_trans (vs_emit_term o ht) h⟩

theorem tail_induction {P : List Token → Prop}
    (h : ∀ rest, (∀ t r, rest = t :: r → P r) → P rest) : ∀ rest, P rest
  | [] => h [] (fun _ _ e => nomatch e)
  | _ :: r => h _ (fun _ _ e => by cases e; exact tail_induction h r)

theorem emitConsumeStream_fine (rest : List Token) : ∀ (cur : Token) (o : Out), o.Good →
    Fine (termB cur rest) (fun o' => vs o' ≤ vs o + rest.length) (emitConsumeStream cur rest o) := by
  induction rest using tail_induction with
  | h rest ih =>
    intro cur o ho
    unfold emitConsumeStream
    split
    · exact ⟨ho, Nat.le_add_right _ _⟩
    · split
      · rename_i he
        exact .term ho (error_isTerm (eq_of_beq he)) (Nat.le_add_right _ _)
      · split
        · exact .hang (by simp [Token.isTerm, *])
        · refine (ih _ _ rfl _ _ (ho.emit cur)).cons fun o' h => ?_
          have := vs_emit_le o cur
          simp only [List.length_cons]; omega

theorem forRof_fine (c : Ctx) (content : Array Token) (rest : List Token) :
    ∀ (cur : Token) (o : Out), o.Good →
    Fine (termB cur rest) (fun o' => vs o' ≤ vs o + c.forCount.toNat * content.size + rest.length)
      (forRof c content cur rest o) := by
  induction rest using tail_induction with
  | h rest ih =>
    intro cur o ho
    obtain ⟨he, hv⟩ := expand_good ho c content
    unfold forRof
    split
    · rename_i h
      have hn : cur.isTerm = false := by simp [Token.isTerm, eq_of_beq h]
      simp only [nextTok, hn, Bool.false_eq_true, if_false]
      cases rest with
      | nil => exact (emitConsumeStream_fine [] cur _ he).imp fun o' h => by omega
      | cons t r =>
        exact (emitConsumeStream_fine r t _ he).cons fun o' h => by
          simp only [List.length_cons]; omega
    · split
      · exact (emitConsumeStream_fine rest cur _ he).imp fun o' h => by omega
      · split
        · rename_i he
          exact .term ho (error_isTerm (eq_of_beq he)) (by omega)
        · split
          · exact .hang (by simp [Token.isTerm, *])
          · exact (ih _ _ rfl _ _ ho).cons fun o' h => by simp only [List.length_cons]; omega

theorem pushLabels_size (s : Inner) (lb : List String) :
    (s.pushLabels lb).content.size = s.content.size + lb.length := by
  unfold Inner.pushLabels
  generalize s.content = a
  induction lb generalizing a with
  | nil => rfl
  | cons l ls ih =>
    rw [List.foldl_cons, ih, Array.size_push, List.length_cons]
    omega

/-- `K` bounds the final size of the body: what is stored already plus everything still unread -/
theorem inner_fine (c : Ctx) (K : Nat) (rest : List Token) :
    (∀ (cur : Token) (s : Inner), s.out.Good → s.content.size + rest.length + 1 ≤ K →
      Fine (termB cur rest)
        (fun o' => vs o' ≤ vs s.out + s.toWrite.length + rest.length + c.forCount.toNat * K)
        (innerEmitConsumeLine c cur rest s)) ∧
    (∀ (cur : Token) (labelBuf : List String) (s : Inner), s.out.Good →
      s.content.size + labelBuf.length + rest.length + 1 ≤ K →
      Fine (termB cur rest)
        (fun o' => vs o' ≤ vs s.out + s.toWrite.length + rest.length + c.forCount.toNat * K)
        (innerLabels c cur rest labelBuf s)) := by
  induction rest using tail_induction with
  | h rest ih =>
    have hE : ∀ (cur : Token) (s : Inner), s.out.Good → s.content.size + rest.length + 1 ≤ K →
        Fine (termB cur rest)
          (fun o' => vs o' ≤ vs s.out + s.toWrite.length + rest.length + c.forCount.toNat * K)
          (innerEmitConsumeLine c cur rest s) := by
      intro cur s hs hK
      unfold innerEmitConsumeLine
      split
      · rename_i he
        exact .term hs (error_isTerm he) (by omega)
      · exact ⟨hs, by omega⟩
      · split
        · exact .hang (by simp [Token.isTerm, *])
        · simp only [List.length_cons] at hK ⊢
          split
          · exact ((ih _ _ rfl).2 _ _ (s.push cur) hs
              (by simp only [Inner.push, Array.size_push, List.length_nil]; omega)).cons
              fun o' h => by simp only [Inner.push] at h; omega
          · exact ((ih _ _ rfl).1 _ (s.push cur) hs
              (by simp only [Inner.push, Array.size_push]; omega)).cons
              fun o' h => by simp only [Inner.push] at h; omega
      · split
        · exact .hang ((isTerm_false_iff _).2 ⟨‹_›, ‹_›⟩)
        · simp only [List.length_cons] at hK ⊢
          exact ((ih _ _ rfl).1 _ (s.push cur) hs
            (by simp only [Inner.push, Array.size_push]; omega)).cons
            fun o' h => by simp only [Inner.push] at h; omega
    refine ⟨hE, ?_⟩
    intro cur labelBuf s hs hK
    -- the labels read so far go into the body, and the rest of the line follows
    have hpush : ∀ s' : Inner, s'.out.Good → s'.content.size = s.content.size →
        Fine (termB cur rest)
          (fun o' => vs o' ≤ vs s'.out + s'.toWrite.length + rest.length + c.forCount.toNat * K)
          (innerEmitConsumeLine c cur rest (s'.pushLabels labelBuf)) :=
      fun s' h1 h2 => hE cur (s'.pushLabels labelBuf) h1 (by rw [pushLabels_size, h2]; omega)
    unfold innerLabels
    split
    · rename_i htext
      split
      · split
        · exact hpush { s with depth := s.depth + 1 } hs rfl
        · split
          · exact hE _ { s with depth := s.depth - 1 } hs (by show s.content.size + _ + 1 ≤ K; omega)
          · refine (forRof_fine c s.content rest cur s.out hs).imp fun o' h => ?_
            have hm : c.forCount.toNat * s.content.size ≤ c.forCount.toNat * K :=
              Nat.mul_le_mul_left _ (by omega)
            omega
        · exact hpush s hs rfl
      · split
        · obtain ⟨hg, hl⟩ := emitLabels_good hs s.toWrite
          exact (hpush { s with out := s.out.emitLabels s.toWrite, toWrite := [] } hg rfl).imp
            fun o' (h : vs o' ≤ vs (s.out.emitLabels s.toWrite) + 0 + rest.length + _) => by omega
        · split
          · exact .hang (text_not_isTerm htext)
          · exact ((ih _ _ rfl).2 _ _ s hs (by
              simp only [List.length_append, List.length_cons, List.length_nil] at hK ⊢; omega)).cons
              fun o' h => by simp only [List.length_cons]; omega
    · exact hpush s hs rfl

theorem innerLine_fine (c : Ctx) (K : Nat) (cur : Token) (rest : List Token) (s : Inner)
    (hs : s.out.Good) (hK : s.content.size + rest.length + 1 ≤ K) :
    Fine (termB cur rest)
      (fun o' => vs o' ≤ vs s.out + s.toWrite.length + rest.length + c.forCount.toNat * K)
      (innerLine c cur rest s) := by
  unfold innerLine
  split
  · exact (inner_fine c K rest).2 _ _ _ hs (by simpa using hK)
  · exact (inner_fine c K rest).1 _ _ hs hK

/-- `n` is the count of the block a pass unrolls, 0 when none is. The candidates will be sublists of
    the input, not infixes: comment tokens are skipped while the count expression is collected. -/
def Cnt (eval : List Token → SymTab → EvalRes) (syms : SymTab) (cands : List Token → Prop)
    (n : Nat) : Prop :=
  n = 0 ∨ ∃ expr v, cands expr ∧ eval expr syms = .ok v ∧ n = v.toNat

def Bnd (eval : List Token → SymTab → EvalRes) (syms : SymTab) (cands : List Token → Prop)
    (base K : Nat) (o' : Out) : Prop :=
  ∃ n, Cnt eval syms cands n ∧ vs o' ≤ base + n * K

theorem Bnd.zero {eval syms cands base K o'} (h : vs o' ≤ base) : Bnd eval syms cands base K o' :=
  ⟨0, Or.inl rfl, by omega⟩

theorem Bnd.mono {eval syms} {cands cands' : List Token → Prop} {base base' K : Nat} {o' : Out}
    (hc : ∀ e, cands e → cands' e) (hb : base ≤ base') (h : Bnd eval syms cands base K o') :
    Bnd eval syms cands' base' K o' := by
  obtain ⟨n, hn, hv⟩ := h
  refine ⟨n, ?_, by omega⟩
  rcases hn with h0 | ⟨e, v, he, hev, hnv⟩
  · exact Or.inl h0
  · exact Or.inr ⟨e, v, hc e he, hev, hnv⟩

theorem Fine.term0 {b : Bool} {eval syms cands K} {o : Out} {t : Token} {base : Nat} (ho : o.Good)
    (ht : t.isTerm = true) (h : vs o ≤ base) :
    Fine b (Bnd eval syms cands base K) (.ok (o.emit t)) :=
  (Fine.term ho ht h).imp fun _ => .zero

theorem Fine.cons_sub {eval syms K cur t r base base' x}
    (h : Fine (termB t r) (Bnd eval syms (·.Sublist (t :: r)) base K) x) (hb : base ≤ base') :
    Fine (termB cur (t :: r)) (Bnd eval syms (·.Sublist (cur :: t :: r)) base' K) x :=
  h.cons fun _ => .mono (fun _ he => he.cons _) hb

theorem forFor_fine (eval : List Token → SymTab → EvalRes) (symbols : SymTab) (K : Nat) (cur : Token)
    (rest : List Token) (exprBuf : List Token) (labelBuf : List String) (o : Out) (ho : o.Good)
    (hK : rest.length + 1 ≤ K) :
    Fine (termB cur rest)
      (Bnd eval symbols (· = exprBuf) (vs o + exprBuf.length + labelBuf.length + rest.length) K)
      (forFor eval symbols cur rest exprBuf labelBuf o) := by
  unfold forFor
  obtain ⟨hg1, h1⟩ := foldl_good (k := 1) (fun o t =>
      if t.isTerm then o.emit { typ := .error, val := "unexpected expression term: " ++ t.str } else o)
    (fun o t ho => by
      split
      · exact ⟨ho.emit _, vs_emit_le o _⟩
      · exact ⟨ho, Nat.le_add_right _ _⟩) exprBuf ho
  rw [Nat.mul_one] at h1
  generalize (exprBuf.foldl (fun o t =>
      if t.isTerm then o.emit { typ := .error, val := "unexpected expression term: " ++ t.str } else o) o) = o1 at *
  dsimp only
  split
  · rename_i val hev
    have key : ∀ c : Ctx, c.forCount = val → c.forLineLabels.length ≤ labelBuf.length →
        Fine (termB cur rest)
          (Bnd eval symbols (· = exprBuf) (vs o + exprBuf.length + labelBuf.length + rest.length) K)
          (innerLine c cur rest { toWrite := c.forLineLabels.map (forLabel c.forCountLabel), out := o1 }) := by
      intro c w1 w2
      refine (innerLine_fine c K cur rest _ hg1 (by simpa using hK)).imp fun o' hsz => ?_
      refine ⟨val.toNat, Or.inr ⟨exprBuf, val, rfl, hev, rfl⟩, ?_⟩
      rw [w1] at hsz
      simp only [List.length_map] at hsz
      omega
    cases hl : labelBuf.getLast? with
    | none => exact key _ rfl (by simp)
    | some l => exact key _ rfl (by simp)
  · exact .term0 hg1 rfl (by omega)
  · -- the `unmodelled` flag plays no part in `Good` or `vs`
    have := vs_emit_term o1 (t := { typ := .error, val := evalErrorVal }) rfl
    exact ⟨hg1.emit _, .zero (Nat.le_trans this (by omega))⟩

theorem consumeExpression_fine (eval : List Token → SymTab → EvalRes) (symbols : SymTab) (K : Nat)
    (rest : List Token) : ∀ (cur : Token) (exprBuf : List Token) (labelBuf : List String) (o : Out),
    o.Good → rest.length + 1 ≤ K →
    Fine (termB cur rest)
      (Bnd eval symbols (fun e => ∃ e', e'.Sublist (cur :: rest) ∧ e = exprBuf ++ e')
        (vs o + exprBuf.length + labelBuf.length + rest.length) K)
      (consumeExpression eval symbols cur rest exprBuf labelBuf o) := by
  induction rest using tail_induction with
  | h rest ih =>
    intro cur exprBuf labelBuf o ho hK
    unfold consumeExpression
    split
    · have hsub : ∀ e, e = exprBuf → ∃ e', e'.Sublist (cur :: rest) ∧ e = exprBuf ++ e' :=
        fun e he => ⟨[], List.nil_sublist _, by rw [he, List.append_nil]⟩
      split
      · exact (forFor_fine eval symbols K cur [] exprBuf labelBuf o ho hK).imp
          fun o' => .mono hsub (Nat.le_refl _)
      · simp only [List.length_cons] at hK ⊢
        exact (forFor_fine eval symbols K _ _ exprBuf labelBuf o ho (by omega)).cons
          fun o' => .mono hsub (by omega)
    · split
      · exact .hang (by simp [Token.isTerm, *])
      · simp only [List.length_cons] at hK ⊢
        refine (ih _ _ rfl _ exprBuf labelBuf o ho (by omega)).cons fun o' => .mono ?_ (by omega)
        rintro e ⟨e', hs, rfl⟩
        exact ⟨e', hs.cons _, rfl⟩
    · rename_i he
      exact .term0 ho (error_isTerm he) (by omega)
    · exact ⟨ho, .zero (by omega)⟩
    · split
      · exact .hang ((isTerm_false_iff _).2 ⟨‹_›, ‹_›⟩)
      · simp only [List.length_cons] at hK ⊢
        refine (ih _ _ rfl _ (exprBuf ++ [cur]) labelBuf o ho (by omega)).cons fun o' => .mono ?_
          (by simp only [List.length_append, List.length_cons, List.length_nil]; omega)
        rintro e ⟨e', hs, rfl⟩
        exact ⟨cur :: e', hs.cons_cons _, by simp⟩

theorem outer_fine (eval : List Token → SymTab → EvalRes) (symbols : SymTab) (K : Nat)
    (rest : List Token) :
    (∀ (cur : Token) (o : Out), o.Good → rest.length + 1 ≤ K →
      Fine (termB cur rest)
        (Bnd eval symbols (fun e => e.Sublist (cur :: rest)) (vs o + rest.length) K)
        (consumeEmitLine eval symbols cur rest o)) ∧
    (∀ (cur : Token) (labelBuf : List String) (o : Out), o.Good → rest.length + 1 ≤ K →
      Fine (termB cur rest)
        (Bnd eval symbols (fun e => e.Sublist (cur :: rest)) (vs o + labelBuf.length + rest.length) K)
        (consumeLabels eval symbols cur rest labelBuf o)) := by
  induction rest using tail_induction with
  | h rest ih =>
    have hE : ∀ (cur : Token) (o : Out), o.Good → rest.length + 1 ≤ K →
        Fine (termB cur rest)
          (Bnd eval symbols (fun e => e.Sublist (cur :: rest)) (vs o + rest.length) K)
          (consumeEmitLine eval symbols cur rest o) := by
      intro cur o ho hK
      have hem := vs_emit_le o cur
      unfold consumeEmitLine
      split
      · split
        · exact .hang (by simp [Token.isTerm, *])
        · simp only [List.length_cons] at hK ⊢
          split
          · exact ((ih _ _ rfl).2 _ _ _ (ho.emit cur) (by omega)).cons_sub
              (by simp only [List.length_nil]; omega)
          · exact ((ih _ _ rfl).1 _ _ (ho.emit cur) (by omega)).cons_sub (by omega)
      · rename_i he
        exact .term0 ho (error_isTerm he) (by omega)
      · rename_i he
        exact .term0 ho ((isTerm_iff _).2 (.inl he)) (by omega)
      · split
        · exact .hang ((isTerm_false_iff _).2 ⟨‹_›, ‹_›⟩)
        · simp only [List.length_cons] at hK ⊢
          exact ((ih _ _ rfl).1 _ _ (ho.emit cur) (by omega)).cons_sub (by omega)
    refine ⟨hE, ?_⟩
    intro cur labelBuf o ho hK
    -- forWriteLabelsEmitConsumeLine, once the reader has delivered `t`
    have hwl : ∀ t r, rest = t :: r → Fine (termB cur rest)
        (Bnd eval symbols (fun e => e.Sublist (cur :: rest)) (vs o + labelBuf.length + rest.length) K)
        (consumeEmitLine eval symbols t r ((o.emitLabels labelBuf).emit cur)) := by
      rintro t r rfl
      obtain ⟨hg, h1⟩ := emitLabels_good ho labelBuf
      have h2 := vs_emit_le (o.emitLabels labelBuf) cur
      simp only [List.length_cons] at hK ⊢
      exact ((ih _ _ rfl).1 _ _ (hg.emit cur) (by omega)).cons_sub (by omega)
    unfold consumeLabels
    dsimp only
    split
    · rename_i htext
      have hn := text_not_isTerm htext
      split
      · split
        · split
          · exact (consumeExpression_fine eval symbols K [] cur [] labelBuf o ho hK).imp
              fun o' => .mono (by rintro e ⟨e', hs, rfl⟩; simpa using hs)
                (by simp only [List.length_nil]; omega)
          · simp only [List.length_cons] at hK ⊢
            refine (consumeExpression_fine eval symbols K _ _ [] labelBuf o ho (by omega)).cons
              fun o' => .mono ?_ (by simp only [List.length_nil]; omega)
            rintro e ⟨e', hs, rfl⟩
            simpa using hs.cons _
        · split
          · exact .hang hn
          · exact hwl _ _ rfl
      · split
        · split
          · exact .hang hn
          · exact hwl _ _ rfl
        · split
          · exact .hang hn
          · simp only [List.length_cons] at hK ⊢
            exact ((ih _ _ rfl).2 _ _ _ ho (by omega)).cons_sub
              (by simp only [List.length_append, List.length_cons, List.length_nil]; omega)
    · split
      · rename_i h
        split
        · simp only [Bool.or_eq_true, beq_iff_eq] at h
          exact .hang (by rcases h with (h | h) | h <;> simp [Token.isTerm, h])
        · simp only [List.length_cons] at hK ⊢
          exact ((ih _ _ rfl).2 _ _ _ ho (by omega)).cons_sub (by omega)
      · exact .term0 ho rfl (by omega)

theorem forLine_fine (eval : List Token → SymTab → EvalRes) (symbols : SymTab) (K : Nat)
    (cur : Token) (rest : List Token) (o : Out) (ho : o.Good) (hK : rest.length + 1 ≤ K) :
    Fine (termB cur rest)
      (Bnd eval symbols (fun e => e.Sublist (cur :: rest)) (vs o + rest.length) K)
      (forLine eval symbols cur rest o) := by
  unfold forLine
  split
  · exact ((outer_fine eval symbols K rest).2 _ _ _ ho hK).imp fun o' =>
      .mono (fun _ he => he) (by simp)
  · exact (outer_fine eval symbols K rest).1 _ _ ho hK

theorem received_of_endsOnce {l : List Token} (h : Lex.endsOnce l = true) : received l = l := by
  have : ∀ l, received l = Lex.takeThrough l := by
    intro l; induction l with
    | nil => rfl
    | cons x xs ih => simp only [received, Lex.takeThrough, ih]; rfl
  rw [this, Lex.takeThrough_of_endsOnce h]

theorem sendsWith_ok {eval : List Token → SymTab → EvalRes} {toks : List Token} {symbols : SymTab}
    {s : List Token} {u : Bool} (h : sendsWith eval toks symbols = .ok (s, u)) :
    Lex.endsOnce s = true ∧ ∃ n, Cnt eval symbols (fun e => e.Sublist toks) n ∧
      s.length ≤ toks.length + n * toks.length := by
  unfold sendsWith at h
  split at h
  · cases h
  · rename_i t r
    split at h
    · cases h
    · have hg := forLine_fine eval symbols (t :: r).length t r {} Out.good_empty (by simp)
      split at h
      · cases h
      · rename_i o ho
        rw [ho] at hg
        obtain ⟨hgood, n, hn, hv⟩ := hg
        obtain ⟨hd, hsz⟩ := emit_eof o
        simp only [Except.ok.injEq, Prod.mk.injEq] at h
        rw [← h.1]
        refine ⟨?_, n, hn, ?_⟩
        · have := hgood.emit { typ := .eof, val := "" }
          unfold Out.Good at this
          rwa [if_pos hd] at this
        · have h3 : vs ({} : Out) = 1 := rfl
          rw [Array.length_toList, hsz]
          simp only [List.length_cons] at hv ⊢
          omega

end ForExpand

theorem forExpandWith_ok {eval : List Token → SymTab → EvalRes} {ts : List Token} {syms : SymTab}
    {x : Option (List Token)} {u : Bool} (h : forExpandWith eval ts syms = .ok (x, u)) :
    ∃ s, ForExpand.sendsWith eval ts syms = .ok (s, u) ∧ x = some s := by
  unfold forExpandWith at h
  cases hs : ForExpand.sendsWith eval ts syms with
  | error f => rw [hs] at h; cases h
  | ok y =>
    obtain ⟨s, u'⟩ := y
    rw [hs] at h
    simp only [Except.map, Except.ok.injEq, Prod.mk.injEq] at h
    obtain ⟨rfl, rfl⟩ := h
    exact ⟨s, rfl, by rw [ForExpand.received_of_endsOnce (ForExpand.sendsWith_ok hs).1]⟩

/-- on a terminated stream with a live first token (in `CompileWarrior`: the scanner saw a `for`,
    `scanInput_forSeen`) the expander goroutine neither hangs nor panics, and the consumer is
    not left waiting -/
theorem expand_no_fault {eval : List Token → SymTab → EvalRes} {ts : List Token} {syms : SymTab}
    (h : Terminated ts) (hfirst : ∃ t r, ts = t :: r ∧ t.isTerm = false) :
    ∀ f, forExpandWith eval ts syms ≠ .error f := by
  obtain ⟨t, r, rfl, ht⟩ := hfirst
  intro f hf
  have hg := ForExpand.forLine_fine eval syms (t :: r).length t r {} ForExpand.Out.good_empty
    (by simp)
  simp only [forExpandWith, ForExpand.sendsWith, ht, Bool.false_eq_true, if_false] at hf
  split at hf
  · rename_i f' hf'
    rw [hf', termB_of_terminated h] at hg
    cases hg
  · cases hf

/-- the precondition is needed: on a stream that is only its terminating token `run()` returns
    without sending and `Tokens()` blocks for ever -/
theorem expand_first_terminal_hangs (eval : List Token → SymTab → EvalRes) (syms : SymTab) :
    forExpandWith eval [{ typ := .eof, val := "" }] syms = .error (.hang "forexpand: nothing sent") := rfl

/-- C05 `expander_terminal_last`: whenever `ForExpand` returns, the tokens it returns end with
    exactly one terminating token (the goroutine sends one, and nothing after it) -/
theorem expand_terminated {eval : List Token → SymTab → EvalRes} {ts ts' : List Token} {syms : SymTab}
    {u : Bool} (h : forExpandWith eval ts syms = .ok (some ts', u)) : Terminated ts' := by
  obtain ⟨s, hs, hx⟩ := forExpandWith_ok h
  cases hx
  exact terminated_of_endsOnce (ForExpand.sendsWith_ok hs).1

/-- `ForExpand` never returns the "no tokens" error -/
theorem expand_some {eval : List Token → SymTab → EvalRes} {ts : List Token} {syms : SymTab}
    {x : Option (List Token)} {u : Bool} (h : forExpandWith eval ts syms = .ok (x, u)) :
    ∃ ts', x = some ts' :=
  let ⟨s, _, hx⟩ := forExpandWith_ok h
  ⟨s, hx⟩

open ForExpand in
/-- the count of the block one pass unrolls: 0 when the pass unrolls none, else the value the
    evaluator returns for a count expression that is a subsequence of the input -/
def IsCount (eval : List Token → SymTab → EvalRes) (syms : SymTab) (toks : List Token) (n : Nat) : Prop :=
  n = 0 ∨ ∃ expr v, expr.Sublist toks ∧ eval expr syms = .ok v ∧ n = v.toNat

open ForExpand in
/-- C05: one pass of the FOR expander, on ANY token list: the output is the input
    plus at most `count` copies of (a part of) it, `count` being the evaluated count of the one
    block the pass unrolls -/
theorem expand_pass_size {eval : List Token → SymTab → EvalRes} {toks out : List Token}
    {syms : SymTab} {u : Bool} (h : forExpandWith eval toks syms = .ok (some out, u)) :
    ∃ n, IsCount eval syms toks n ∧ out.length ≤ toks.length + n * toks.length := by
  obtain ⟨s, hs, hx⟩ := forExpandWith_ok h
  cases hx
  -- `IsCount` is `Cnt` with the sublists of `toks` as candidates
  exact (ForExpand.sendsWith_ok hs).2

theorem expand_pass_size_le {eval : List Token → SymTab → EvalRes} {toks out : List Token}
    {syms : SymTab} {u : Bool} {n : Nat}
    (hn : ∀ expr v, expr.Sublist toks → eval expr syms = .ok v → v.toNat ≤ n)
    (h : forExpandWith eval toks syms = .ok (some out, u)) :
    out.length ≤ toks.length * (n + 1) := by
  obtain ⟨m, hm, hle⟩ := expand_pass_size h
  have hmn : m ≤ n := by
    rcases hm with rfl | ⟨e, v, hs, hev, rfl⟩
    · omega
    · exact hn e v hs hev
  have : m * toks.length ≤ n * toks.length := Nat.mul_le_mul_right _ hmn
  rw [Nat.mul_succ, Nat.mul_comm toks.length n]
  omega

theorem expand_pass_size_zero {eval : List Token → SymTab → EvalRes} {toks out : List Token}
    {syms : SymTab} {u : Bool}
    (hn : ∀ expr v, expr.Sublist toks → eval expr syms = .ok v → v ≤ 0)
    (h : forExpandWith eval toks syms = .ok (some out, u)) :
    out.length ≤ toks.length := by
  have := expand_pass_size_le (n := 0) (fun e v hs hev => by have := hn e v hs hev; omega) h
  omega

end Gmars
