/-
  C03 / C08, labels + EQUs + FOR blocks in ONE program: the structured programs as tokens, and the
  pass loop on them: the token-level unrolling (`GUnroll`) follows the item-level one (`AUnroll`;
  for the bodies `gunroll_of_BUnroll`), so the loop returns the tokens of the unrolled program
  (`forLoop_all`).
-/
import Gmars.Proofs.AsmComposeAllProg

namespace Gmars
namespace AsmComposeAll
open Gmars.AsmCompose Gmars.Render Gmars.AsmLine Gmars.ForPass
open Gmars.AsmComposeFor Gmars.AsmComposeEqu

def AItem.toT : AItem → TItem
  | .item it => .chunk it.toP.tokens (clearP it.toP).tokens (pitemsEqus [it.toP])
  | .block c n body => .block ⟨.text, c⟩ FProg.forTok n.tok nlTok body.toProg FProg.rofLine

theorem hasBlock_toT (l : List AItem) : hasBlock (l.map AItem.toT) = ahasBlock l := by
  induction l with
  | nil => rfl
  | cons i r ih =>
    simp only [hasBlock, ahasBlock, List.map_cons, List.any_cons] at ih ⊢
    rw [ih]
    cases i <;> rfl

theorem clearE_toP (it : EItem) : (clearE it).toP = clearP it.toP := by
  cases it with
  | instr ls op md a b k =>
    simp only [clearE, EItem.toP, clearP, WItem.toItem, WStmt.toStmt, xwStmt, clearStmt, clearLabels,
      List.map_map]
    rfl
  | equ n kw e k => rfl
  | org kw e k => rfl
  | assert cs e k => rfl
  | comment cs k => rfl

theorem equs_toP (it : EItem) : pitemsEqus [it.toP] = (equsOfE it).map rendEqu := by
  cases it <;> rfl

def aequs (l : List AItem) : ETab :=
  l.flatMap (fun i => match i with | .item it => equsOfE it | .block .. => [])

theorem aequs_cons_item (it : EItem) (r : List AItem) :
    aequs (.item it :: r) = equsOfE it ++ aequs r := rfl

theorem aequs_cons_block (c : String) (n : Cnt) (b : FProg) (r : List AItem) :
    aequs (.block c n b :: r) = aequs r := rfl

theorem xwOperand_lopX (o : LOperand) : xwOperand (lopX o) = wOperand o := by
  simp [xwOperand, lopX, wOperand, ewords_etoks]

theorem toE_toP (x : FInstr) : (toE x).toP = .x x.toS.toX := by
  obtain ⟨op, md, a, b⟩ := x
  simp only [toE, EItem.toP, FInstr.toS, SItem.toX, xwStmt, wStmt, xwOperand_lopX, List.map_nil]
  congr 5
  cases b with
  | none => rfl
  | some bo => simp [xwOperand_lopX]

theorem toE_tokens (x : FInstr) (h : x.LexOK) : (toE x).toP.tokens = x.line.flat := by
  rw [toE_toP]
  exact FInstr.toX_tokens x h

theorem pitemsTokens_toE (U : List FInstr) (h : ∀ x ∈ U, x.LexOK) :
    pitemsTokens ((U.map toE).map EItem.toP) = flat (U.map FInstr.line) := by
  induction U with
  | nil => rfl
  | cons x r ih =>
    simp only [List.map_cons, pitemsTokens, flat_cons,
      toE_tokens x (h x (List.mem_cons_self ..)), ih (fun y hy => h y (List.mem_cons_of_mem _ hy))]

theorem pitemsTokens_append (a b : List PItem) :
    pitemsTokens (a ++ b) = pitemsTokens a ++ pitemsTokens b := by
  induction a with
  | nil => rfl
  | cons x r ih => simp [pitemsTokens, ih]

def BlocksOK (items : List AItem) : Prop :=
  ∀ c n body, AItem.block c n body ∈ items → (FProg.block c n body .nil).OK

theorem gunroll_of_AUnroll {eqs : ETab} {items : List AItem} {U : List EItem} {k : Nat}
    (h : AUnroll eqs items U k) (R : ETab) (d : String → Nat) :
    ((eqs ++ aequs items).map (·.1)).Nodup → ERanked (eqs ++ (aequs items ++ R)) d →
    (∀ it, AItem.item it ∈ items → it.toP.OK) → BlocksOK items →
    GUnroll (eqs.map rendEqu) (items.map AItem.toT) (pitemsTokens (U.map EItem.toP)) k := by
  induction h with
  | nil eqs => intro _ _ _ _; exact GUnroll.nil _
  | @item eqs it r U k _ ih =>
    intro hnd hrk hitem hblock
    have hok := hitem it (List.mem_cons_self ..)
    have hnd' : (((eqs ++ equsOfE it) ++ aequs r).map (·.1)).Nodup := by
      rw [List.append_assoc]
      exact hnd
    have hfresh : Fresh (pitemsEqus [it.toP]) (eqs.map rendEqu) := by
      unfold Fresh
      rw [equs_toP, rendEqu_keys, rendEqu_keys, ← List.map_append]
      rw [List.map_append] at hnd'
      exact nodup_left hnd'
    have hrec := ih hnd' (by simpa only [aequs_cons_item, List.append_assoc] using hrk)
      (fun x hx => hitem x (List.mem_cons_of_mem _ hx))
      (fun c n b hb => hblock c n b (List.mem_cons_of_mem _ hb))
    rw [List.map_append, ← equs_toP] at hrec
    have := GUnroll.chunk (chunk_pitem it.toP hok) (chunk_pitem_clear it.toP hok) hfresh hrec
    refine this.cast ?_ rfl
    rw [hasBlock_toT]
    cases ahasBlock r <;> simp [pitemsTokens, clearE_toP]
  | @block eqs c cnt body r U k m L K hcnt hm hcopies _ ih =>
    intro hnd hrk hitem hblock
    have hok := hblock c cnt body (List.mem_cons_self ..)
    have hndE : (eqs.map (·.1)).Nodup := by
      rw [List.map_append] at hnd
      exact nodup_left hnd
    have hac := acyclic_prefix hrk hndE
    have hrec := ih hnd hrk
      (fun x hx => hitem x (List.mem_cons_of_mem _ hx))
      (fun c n b hb => hblock c n b (List.mem_cons_of_mem _ hb))
    -- the block alone is a body program: unroll it as such, then the rest
    have hB := BUnroll.block m L K hcnt hm hcopies BUnroll.nil
    have := GUnroll.append (gunroll_of_BUnroll hndE hac hB hok) (stable_embed _) hrec
    refine this.cast ?_ (by omega)
    rw [List.map_append, List.map_append, pitemsTokens_append,
      pitemsTokens_toE _ (fun x hx => (hB.instrs_ok hok x (List.mem_append_left _ hx)).1),
      List.map_nil, List.append_nil]

def AProg.finTail (p : AProg) : List Token :=
  match p.fin with
  | none => []
  | some (kw, e) =>
    (⟨.text, kw⟩ : Token) :: ((e.map toksOf).getD [] ++ nlTok :: List.replicate p.trail nlTok)

def AProg.tokens (p : AProg) : List Token :=
  List.replicate p.lead nlTok ++ progToks (p.items.map AItem.toT) ++ p.finTail ++ [ForPass.eofTok]

theorem unrolled_finTokens (p : AProg) (U : List EItem) :
    (p.unrolled U).toP.finTokens = p.finTail ++ [ForPass.eofTok] := by
  unfold PProg.finTokens EProg.toP AProg.unrolled AProg.finTail
  cases p.fin with
  | none => rfl
  | some q => obtain ⟨kw, e⟩ := q; simp; rfl

theorem unrolled_tokens (p : AProg) (U : List EItem) :
    (p.unrolled U).toP.tokens =
      List.replicate p.lead nlTok ++ pitemsTokens (U.map EItem.toP) ++ p.finTail ++ [ForPass.eofTok] := by
  rw [PProg.tokens, unrolled_finTokens]
  simp [EProg.toP, AProg.unrolled]

theorem AUnroll.equs {eqs : ETab} {items : List AItem} {U : List EItem} {k : Nat}
    (h : AUnroll eqs items U k) : xequs (U.filterMap EItem.toX) = aequs items := by
  induction h with
  | nil eqs => rfl
  | @item eqs it r U k _ ih =>
    rw [aequs_cons_item, ← ih, List.filterMap_cons, toX_ite_clearE]
    cases it <;> rfl
  | @block eqs c cnt body r U k m L K _ _ _ _ ih =>
    rw [aequs_cons_block, ← ih, List.filterMap_append, xequs_app]
    have : ∀ V : List FInstr, xequs ((V.map toE).filterMap EItem.toX) = [] := by
      intro V
      induction V with
      | nil => rfl
      | cons x r ih => simpa [toE, EItem.toX, xequs] using ih
    rw [this, List.nil_append]

theorem AUnroll.mem_item {eqs : ETab} {items : List AItem} {U : List EItem} {k : Nat}
    (h : AUnroll eqs items U k) : ∀ it, AItem.item it ∈ items → it ∈ U ∨ clearE it ∈ U := by
  induction h with
  | nil eqs => intro it hit; cases hit
  | @item eqs it0 r U k _ ih =>
    intro it hit
    rcases List.mem_cons.1 hit with h | h
    · cases h
      cases ahasBlock r
      · exact Or.inl (List.mem_cons_self ..)
      · exact Or.inr (List.mem_cons_self ..)
    · exact (ih it h).imp (List.mem_cons_of_mem _) (List.mem_cons_of_mem _)
  | @block eqs c cnt body r U k m L K _ _ _ _ ih =>
    intro it hit
    rcases List.mem_cons.1 hit with h | h
    · cases h
    · exact (ih it h).imp (List.mem_append_right _) (List.mem_append_right _)

theorem finTail_stop (p : AProg) (U : List EItem) (hP : (p.unrolled U).toP.OK) :
    (∀ t ∈ p.finTail, t.isTerm = false) ∧
      ∀ s : SymTab, ForPass.runScan (p.finTail ++ [ForPass.eofTok]) s = Scan.stop s := by
  unfold AProg.finTail
  cases hf : p.fin with
  | none => exact ⟨fun t ht => (by cases ht), tail_nil_scan⟩
  | some q =>
    obtain ⟨kw, e⟩ := q
    obtain ⟨hkw, hts, _⟩ := hP.fin kw ((e.map toksOf).getD []) (by
      simp [EProg.toP, AProg.unrolled, hf])
    refine ⟨fun t ht => ?_, tail_end_scan _ _ rfl hkw⟩
    simp only [List.mem_cons, List.mem_append] at ht
    rcases ht with rfl | ht | rfl | ht
    · rfl
    · exact (inLine_of_exprTerm (hts t ht)).isTerm
    · rfl
    · exact noTerm_nls _ t ht

/-- **the pass loop on the tokens of the program returns the tokens of the unrolled program**; with
    13 or more block expansions it gives up (finding F12) -/
theorem forLoop_all (p : AProg) (U : List EItem) (k : Nat) (hu : AUnroll [] p.items U k)
    (hblocks : BlocksOK p.items) (hP : (p.unrolled U).toP.OK)
    (sc : Spec.Cfg) (d : String → Nat)
    (hnd : (p.unrolled U).equNames.Nodup)
    (hrk : ERanked (xequs (p.unrolled U).xitems ++ Spec.predefined sc) d) :
    forLoop 14 0 p.tokens = if k ≤ 12 then .ok (p.unrolled U).toP.tokens else .error .err := by
  have hequs : xequs (p.unrolled U).xitems = aequs p.items := by
    unfold EProg.xitems
    rw [xequs_app, (p.unrolled U).finX_equs, List.append_nil]
    exact hu.equs
  have hitem : ∀ it, AItem.item it ∈ p.items → it.toP.OK := by
    intro it hit
    rcases hu.mem_item it hit with h | h
    · exact hP.items _ (List.mem_map_of_mem h)
    · have := hP.items _ (List.mem_map_of_mem h)
      rw [clearE_toP] at this
      exact (clearP_OK_iff _).1 this
  rw [EProg.equNames, hequs] at hnd
  rw [hequs] at hrk
  have hg := gunroll_of_AUnroll hu (Spec.predefined sc) d hnd hrk hitem hblocks
  have hlead := GUnroll.chunk (chunk_nls' p.lead) (chunk_nls' p.lead) (fresh_nil [] List.nodup_nil) hg
  have ⟨hterm, hscan⟩ := finTail_stop p U hP
  have := for_unroll_all _ _ k hlead p.finTail hterm hscan
  rw [unrolled_tokens]
  simpa [AProg.tokens, TItem.toks, List.append_assoc] using this

end AsmComposeAll
end Gmars
