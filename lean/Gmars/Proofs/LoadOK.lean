/-
  C10 "the load-file reader rejects what it cannot represent":
  properties of the model of the Go load-file reader (Gmars/Model/Load.lean).
  The file also holds what the byte-level reader (Proofs/LoadU, LoadUAscii) and the round-trip
  theorems (Proofs/RoundTripA, LoadLayoutBase) share: the line readers with the state left open
  (`read94`, `read88`, `Act`) and, with it closed, the one description of what a line does
  (`readAct`, `lineOf_eq`), the classification of lines (`kindOf`) and their count (`countK`).
-/
import Gmars.Spec.LoadText
import Gmars.Proofs.GoStrLemmas
import Gmars.Proofs.Legal88

namespace Gmars
open GoStr

theorem redInt_lt (x : Int) (m : Nat) (hm : 0 < m) :
    (if x.tmod (m : Int) < 0 then ((m : Int) + x.tmod m).tmod m else x.tmod m).toNat < m := by
  have h1 := Int.tmod_lt_of_pos x (b := (m : Int)) (by omega)
  have h2 := Int.lt_tmod_of_pos x (b := (m : Int)) (by omega)
  generalize x.tmod (m : Int) = r at *
  split
  · rw [Int.tmod_eq_of_lt (by omega) (by omega)]; omega
  · omega

/-- nothing is asked of the core size: a zero core size delivers no address -/
theorem parseAddress_some_lt {s : Str} {coresize v : UInt64}
    (h : parseAddress s coresize = .ok (some v)) : v < coresize := by
  unfold parseAddress at h
  split at h
  · cases h
  split at h
  · cases h
  rename_i x _ h0
  cases h
  have h0 : coresize ≠ 0 := by simpa using h0
  have hm : 0 < coresize.toNat := Nat.pos_of_ne_zero fun e => h0 (UInt64.toNat_inj.mp e)
  have := redInt_lt x coresize.toNat hm
  have := coresize.toNat_lt
  rw [UInt64.lt_iff_toNat_lt, UInt64.toNat_ofNat', Nat.mod_eq_of_lt (by omega)]
  assumption

theorem parseAddress_lt {s : Str} {coresize v : UInt64} (h0 : coresize ≠ 0)
    (_h63 : coresize.toNat < 2 ^ 63)
    (h : parseAddress s coresize = .ok (some v)) : v < coresize :=
  parseAddress_some_lt h

/-- the only panic: the division by a zero core size -/
theorem parseAddress_error {s : Str} {coresize : UInt64} {e : Panic}
    (h : parseAddress s coresize = .error e) : coresize = 0 := by
  unfold parseAddress at h
  split at h
  · cases h
  split at h
  · rename_i hc; simpa using hc
  · cases h

theorem lowerStrip (raw : Str) :
    (if containsChar (toLower raw) ';' = true then beforeChar (toLower raw) ';' else toLower raw)
      = toLower (raw.takeWhile (· != ';')) := by
  rw [← beforeChar_toLower raw (by decide)]
  split
  · rfl
  · rename_i h
    refine (takeWhile_ne_self _ _ fun x hx e => h ?_).symm
    rw [containsChar, List.contains_iff_mem]
    exact e ▸ hx

def lowerOf (raw : Str) : Str := toLower (raw.takeWhile (· != ';'))

/-- what the reader looks at in a line that is not a comment: its fields, and whether it has a comma -/
def fieldsOf (raw : Str) : List Str := fields (replaceComma (lowerOf raw))
def commaOf (raw : Str) : Bool := containsChar (lowerOf raw) ','

/-- what a line that is not a comment does to the state of the reader -/
inductive Act
  | push (i : Instr)
  | skip
  | org (v : Int)
  | fin (v : Int)
  | stop
  | fail

/-- `line94` after the comment test, on the fields of the line, with the state left open: what
    the line does goes to `k`.  `line94` and `line94U` (Gmars/Model/LoadU.lean) are both this text
    (`line94_eq`, `line94U_eq`), so what is proved of it holds of both.  The body is copied from
    the model character by character: the `rfl` in those two lemmas holds for that reason only,
    and breaks if either side is edited alone. -/
def read94 {ο : Type} (k : Act → ο) (coresize : UInt64) (fs : List Str) (comma : Bool) :
    Except Panic ο :=
    match fs with
    | [f0, f1, f2, f3, f4] =>
      if !comma then .ok (k .fail) else
      match getOp94 f0 with
      | none => .ok (k .fail)
      | some (op, md) =>
      match getAddressMode f1 with
      | none => .ok (k .fail)
      | some am => do
      match ← parseAddress f2 coresize with
      | none => .ok (k .fail)
      | some a =>
      match getAddressMode f3 with
      | none => .ok (k .fail)
      | some bm => do
      match ← parseAddress f4 coresize with
      | none => .ok (k .fail)
      | some b => .ok (k (.push { op, md, am, a, bm, b }))
    | [] => if comma then .ok (k .fail) else .ok (k .skip)
    | f0 :: rest =>
      if rest.isEmpty && f0 == "end".toList then .ok (k .stop)
      else if f0 != "org".toList then .ok (k .fail)
      else match rest with
        | [f1] =>
          match parseInt f1 32 with
          | none => .ok (k .fail)
          | some v => if v < 0 then .ok (k .fail) else .ok (k (.org v))
        | _ => .ok (k .fail)

/-- `line88` / `line88U` in the same way; `size` is the number of instructions read so far -/
def read88 {ο : Type} (k : Act → ο) (coresize : UInt64) (size : Nat) (fs : List Str)
    (comma : Bool) : Except Panic ο :=
    match fs with
    | [f0, f1, f2, f3, f4] =>
      if !comma then .ok (k .fail) else
      match getOpCode88 f0 with
      | none => .ok (k .fail)
      | some op =>
      match getAddressMode88 f1 with
      | none => .ok (k .fail)
      | some am => do
      match ← parseAddress f2 coresize with
      | none => .ok (k .fail)
      | some a =>
      match getAddressMode88 f3 with
      | none => .ok (k .fail)
      | some bm => do
      match ← parseAddress f4 coresize with
      | none => .ok (k .fail)
      | some b =>
      match getOpModeAndValidate88 op am bm with
      | none => .ok (k .fail)
      | some md => .ok (k (.push { op, md, am, a, bm, b }))
    | [] => if comma then .ok (k .fail) else .ok (k .skip)
    | f0 :: rest =>
      if f0 != "end".toList && f0 != "org".toList then .ok (k .fail)
      else if rest.length > 1 then .ok (k .fail)
      else match rest with
        | [] => if f0 == "org".toList then .ok (k .fail) else .ok (k .stop)
        | f1 :: _ =>
          match parseInt f1 32 with
          | none => .ok (k .fail)
          | some v =>
            if v < 0 || (f0 != "org".toList && v > size) then .ok (k .fail)
            else if f0 == "end".toList then .ok (k (.fin v)) else .ok (k (.org v))

def LoadState.act (st : LoadState) : Act → LineOutcome
  | .push i => .cont { st with code := st.code.push i }
  | .skip => .cont st
  | .org v => .cont { st with start := v }
  | .fin v => .stop { st with start := v }
  | .stop => .stop st
  | .fail => .fail

theorem line94_eq (cs : UInt64) (st : LoadState) (raw : Str) :
    line94 cs st raw =
      if raw.head? == some ';' then .ok (.cont (metaLine st raw (toLower raw)))
      else read94 st.act cs (fieldsOf raw) (commaOf raw) := by
  unfold line94
  simp only [lowerStrip]
  rfl

theorem line88_eq (cs : UInt64) (st : LoadState) (raw : Str) :
    line88 cs st raw =
      if raw.head? == some ';' then .ok (.cont (metaLine st raw (toLower raw)))
      else read88 st.act cs st.code.size (fieldsOf raw) (commaOf raw) := by
  unfold line88
  simp only [lowerStrip]
  rfl

inductive Kind | skip | instr | org | fin
  deriving DecidableEq, Repr

/-- the classification `Spec.significantInstrLines` makes, by the first field -/
def kindOf (fs : List Str) (comma : Bool) : Kind :=
  if fs.isEmpty && !comma then .skip
  else match fs.head? with
    | some h => if h == "end".toList then .fin else if h == "org".toList then .org else .instr
    | none => .instr

def ActOK (cs : UInt64) (legacy : Bool) (k : Kind) : Act → Prop
  | .push i => k = .instr ∧ i.a < cs ∧ i.b < cs ∧ (legacy = true → Spec.Legal88 i = true)
  | .skip => k = .skip
  | .org v => k = .org ∧ 0 ≤ v
  | .fin v => k = .fin ∧ 0 ≤ v
  | .stop => k = .fin
  | .fail => True

theorem kindOf_cons_instr {α : Type} {get : Str → Option α} (hend : get "end".toList = none)
    (horg : get "org".toList = none) {f0 : Str} {x : α} (h : get f0 = some x) {rest : List Str}
    {c : Bool} : kindOf (f0 :: rest) c = .instr := by
  have h1 : f0 ≠ "end".toList := by
    rintro rfl
    rw [hend] at h
    cases h
  have h2 : f0 ≠ "org".toList := by
    rintro rfl
    rw [horg] at h
    cases h
  simp only [kindOf, List.isEmpty_cons, Bool.false_and, List.head?_cons,
    beq_eq_false_iff_ne.mpr h1, beq_eq_false_iff_ne.mpr h2]
  rfl

def ReadOK (cs : UInt64) (legacy : Bool) (k : Kind) : Except Panic Act → Prop
  | .ok a => ActOK cs legacy k a
  | .error _ => cs = 0

/-- `h` has the shape of `read94_spec` / `read88_spec` -/
theorem ReadOK.ok {cs : UInt64} {legacy : Bool} {kd : Kind} {ο : Type} {k : Act → ο}
    {x : Except Panic Act} {y : Except Panic ο} (h : y = x.map k ∧ ReadOK cs legacy kd x) {o : ο}
    (ho : y = .ok o) : ∃ a, o = k a ∧ ActOK cs legacy kd a := by
  obtain ⟨rfl, hx⟩ := h
  cases x with
  | error e => cases ho
  | ok a => cases ho; exact ⟨a, rfl, hx⟩

theorem ReadOK.no_panic {cs : UInt64} {legacy : Bool} {kd : Kind} {ο : Type} {k : Act → ο}
    {x : Except Panic Act} {y : Except Panic ο} (h : y = x.map k ∧ ReadOK cs legacy kd x)
    (h0 : cs ≠ 0) : ∃ o, y = .ok o := by
  obtain ⟨rfl, hx⟩ := h
  cases x with
  | error e => exact absurd hx h0
  | ok a => exact ⟨_, rfl⟩

/-- one walk over the reader for both facts: `k` is used on what it delivers and in no other way,
    and what it delivers is allowed; where the line is refused both hold by computation
    (`trivial`) -/
theorem read94_spec {ο : Type} (k : Act → ο) (cs : UInt64) (fs : List Str) (comma : Bool) :
    read94 k cs fs comma = (read94 id cs fs comma).map k ∧
    ReadOK cs false (kindOf fs comma) (read94 id cs fs comma) := by
  unfold read94
  split
  · split
    · trivial
    split
    · trivial
    split
    · trivial
    simp only [bind, Except.bind]
    split
    · exact ⟨rfl, parseAddress_error ‹_›⟩
    split
    · trivial
    split
    · trivial
    split
    · exact ⟨rfl, parseAddress_error ‹_›⟩
    split
    · trivial
    exact ⟨rfl, kindOf_cons_instr (get := getOp94) (by decide) (by decide) ‹_›,
      parseAddress_some_lt ‹_›, parseAddress_some_lt ‹_›, nofun⟩
  · split
    · trivial
    · rename_i hc
      rw [Bool.not_eq_true] at hc
      subst hc
      exact ⟨rfl, rfl⟩
  · rename_i f0 rest _
    -- the first two tests by hand: `split` on an `if` is slow while the goal holds the whole branch
    by_cases he : (rest.isEmpty && f0 == "end".toList) = true
    · simp only [if_pos he]
      simp only [Bool.and_eq_true, List.isEmpty_iff, beq_iff_eq] at he
      rw [he.1, he.2]
      exact ⟨rfl, rfl⟩
    by_cases horg : (f0 != "org".toList) = true
    · simp only [if_neg he, if_pos horg]
      trivial
    simp only [if_neg he, if_neg horg]
    simp only [bne_iff_ne, ne_eq, Decidable.not_not] at horg
    subst horg
    split
    · split
      · trivial
      split
      · trivial
      rename_i hneg
      exact ⟨rfl, rfl, by simpa using hneg⟩
    · trivial

theorem read88_spec {ο : Type} (k : Act → ο) (cs : UInt64) (n : Nat) (fs : List Str)
    (comma : Bool) : read88 k cs n fs comma = (read88 id cs n fs comma).map k ∧
    ReadOK cs true (kindOf fs comma) (read88 id cs n fs comma) := by
  unfold read88
  split
  · split
    · trivial
    split
    · trivial
    split
    · trivial
    simp only [bind, Except.bind]
    split
    · exact ⟨rfl, parseAddress_error ‹_›⟩
    split
    · trivial
    split
    · trivial
    split
    · exact ⟨rfl, parseAddress_error ‹_›⟩
    split
    · trivial
    split
    · trivial
    rename_i hmd
    rw [validate88_eq _ _ _ (getAddressMode88_range ‹_›) (getAddressMode88_range ‹_›)] at hmd
    exact ⟨rfl, kindOf_cons_instr (get := getOpCode88) (by decide) (by decide) ‹_›,
      parseAddress_some_lt ‹_›, parseAddress_some_lt ‹_›,
      fun _ => by simp only [Spec.Legal88, hmd, beq_self_eq_true]⟩
  · split
    · trivial
    · rename_i hc
      rw [Bool.not_eq_true] at hc
      subst hc
      exact ⟨rfl, rfl⟩
  · rename_i f0 rest _
    by_cases hk : (f0 != "end".toList && f0 != "org".toList) = true
    · simp only [if_pos hk]
      trivial
    by_cases hl : rest.length > 1
    · simp only [if_neg hk, if_pos hl]
      trivial
    simp only [if_neg hk, if_neg hl]
    have hk' : f0 = "end".toList ∨ f0 = "org".toList := by
      simpa only [bne_iff_ne, ne_eq, Bool.and_eq_true, Decidable.not_and_iff_not_or_not,
        Decidable.not_not] using hk
    split
    · split
      · trivial
      · rename_i horg
        rcases hk' with rfl | rfl
        · exact ⟨rfl, rfl⟩
        · exact absurd rfl horg
    · split
      · trivial
      split
      · trivial
      rename_i v _ hneg
      have hv0 : 0 ≤ v := by
        simp only [Bool.or_eq_true, decide_eq_true_eq, not_or] at hneg
        omega
      split
      · rename_i he
        rw [beq_iff_eq.mp he]
        exact ⟨rfl, rfl, hv0⟩
      · rename_i he
        rcases hk' with rfl | rfl
        · exact absurd rfl he
        · exact ⟨rfl, rfl, hv0⟩

/-- what a line that is not a comment does, in either dialect: the one description of the reader
    that both the analysis of every text (`readAct_ok`) and the reading of printed text
    (`readAct_instr`, `readAct_org`, `readAct_end` of Proofs/RoundTripA.lean) rest on -/
def readAct (legacy : Bool) (cs : UInt64) (size : Nat) (fs : List Str) (comma : Bool) :
    Except Panic Act :=
  if legacy = true then read88 id cs size fs comma else read94 id cs fs comma

theorem readAct_ok (legacy : Bool) (cs : UInt64) (n : Nat) (fs : List Str) (comma : Bool) :
    ReadOK cs legacy (kindOf fs comma) (readAct legacy cs n fs comma) := by
  cases legacy
  · exact (read94_spec id ..).2
  · exact (read88_spec id ..).2

abbrev lineOf (legacy : Bool) (cs : UInt64) : LoadState → Str → Except Panic LineOutcome :=
  if legacy = true then line88 cs else line94 cs

theorem lineOf_eq (legacy : Bool) (cs : UInt64) (st : LoadState) (raw : Str) :
    lineOf legacy cs st raw =
      if raw.head? == some ';' then .ok (.cont (metaLine st raw (toLower raw)))
      else (readAct legacy cs st.code.size (fieldsOf raw) (commaOf raw)).map st.act := by
  cases legacy
  · exact (line94_eq ..).trans (by rw [(read94_spec ..).1]; rfl)
  · exact (line88_eq ..).trans (by rw [(read88_spec ..).1]; rfl)

def Inv (cs : UInt64) (legacy : Bool) (st : LoadState) : Prop :=
  0 ≤ st.start ∧ ∀ i ∈ st.code.toList, i.a < cs ∧ i.b < cs ∧ (legacy = true → Spec.Legal88 i = true)

/-- the instructions a line of this kind adds -/
def Kind.weight : Kind → Nat
  | .instr => 1
  | _ => 0

def OutcomeOK (cs : UInt64) (legacy : Bool) (k : Kind) (st : LoadState) : LineOutcome → Prop
  | .fail => True
  | .cont st' => k ≠ .fin ∧ Inv cs legacy st' ∧ st'.code.size = st.code.size + k.weight
  | .stop st' => k = .fin ∧ Inv cs legacy st' ∧ st'.code.size = st.code.size

theorem act_ok {cs : UInt64} {legacy : Bool} {k : Kind} {a : Act} {st : LoadState}
    (h : ActOK cs legacy k a) (hi : Inv cs legacy st) : OutcomeOK cs legacy k st (st.act a) := by
  cases a with
  | push i =>
    obtain ⟨rfl, hi'⟩ := h
    refine ⟨nofun, ⟨hi.1, fun j hj => ?_⟩, Array.size_push _⟩
    rcases List.mem_append.mp (Array.toList_push ▸ hj) with hj | hj
    · exact hi.2 j hj
    · exact List.mem_singleton.mp hj ▸ hi'
  | skip => subst h; exact ⟨nofun, hi, rfl⟩
  | org v => obtain ⟨rfl, hv⟩ := h; exact ⟨nofun, ⟨hv, hi.2⟩, rfl⟩
  | fin v => exact ⟨h.1, ⟨h.2, hi.2⟩, rfl⟩
  | stop => exact ⟨h, hi, rfl⟩
  | fail => trivial

theorem meta_ok {cs : UInt64} {legacy : Bool} {st st' : LoadState}
    (h : st'.code = st.code ∧ st'.start = st.start) (hi : Inv cs legacy st) :
    OutcomeOK cs legacy .skip st (.cont st') :=
  ⟨nofun, ⟨h.2 ▸ hi.1, h.1 ▸ hi.2⟩, congrArg Array.size h.1⟩

/-- `Spec.significantInstrLines.go` on the kinds of the lines (`sig_go_eq`) -/
def countK {α : Type} (kind : α → Kind) : List α → Nat → Nat × Bool
  | [], n => (n, false)
  | l :: ls, n => if kind l = .fin then (n, true) else countK kind ls (n + (kind l).weight)

theorem loadLoop_no_panic {f : LoadState → Str → Except Panic LineOutcome}
    (hf : ∀ st raw, ∃ o, f st raw = .ok o) :
    ∀ (ls : List Str) (st : LoadState), ∃ r, loadLoop f st ls = .ok r := by
  intro ls
  induction ls with
  | nil => intro st; exact ⟨_, rfl⟩
  | cons l ls ih =>
    intro st
    obtain ⟨o, ho⟩ := hf st l
    unfold loadLoop
    simp only [bind, Except.bind, ho]
    cases o with
    | cont st' => exact ih st'
    | stop st' => exact ⟨_, rfl⟩
    | fail => exact ⟨_, rfl⟩

theorem loadLoop_ok {cs : UInt64} {legacy : Bool} {f : LoadState → Str → Except Panic LineOutcome}
    {kind : Str → Kind}
    (hf : ∀ {st raw o}, f st raw = .ok o → Inv cs legacy st → OutcomeOK cs legacy (kind raw) st o) :
    ∀ (ls : List Str) (st st' : LoadState), loadLoop f st ls = .ok (some st') →
      Inv cs legacy st → Inv cs legacy st' ∧ st'.code.size = (countK kind ls st.code.size).1 := by
  intro ls
  induction ls with
  | nil =>
    intro st st' h hi
    cases h
    exact ⟨hi, rfl⟩
  | cons l ls ih =>
    intro st st' h hi
    unfold loadLoop at h
    simp only [bind, Except.bind] at h
    split at h
    · cases h
    rename_i o ho
    have hk := hf ho hi
    cases o with
    | fail => cases h
    | stop st1 =>
      cases h
      exact ⟨hk.2.1, by rw [countK, if_pos hk.1]; exact hk.2.2⟩
    | cont st1 =>
      obtain ⟨r1, r2⟩ := ih st1 st' h hk.2.1
      exact ⟨r1, by rw [countK, if_neg hk.1, ← hk.2.2]; exact r2⟩

theorem loadLoop_cont {f : LoadState → Str → Except Panic LineOutcome} {st st' : LoadState}
    {l : Str} {ls : List Str} (h : f st l = .ok (.cont st')) :
    loadLoop f st (l :: ls) = loadLoop f st' ls := by
  simp [loadLoop, h, bind, Except.bind]

theorem loadLoop_stop {f : LoadState → Str → Except Panic LineOutcome} {st st' : LoadState}
    {l : Str} {ls : List Str} (h : f st l = .ok (.stop st')) :
    loadLoop f st (l :: ls) = .ok (some st') := by
  simp [loadLoop, h, bind, Except.bind]

theorem loadLoop_fail {f : LoadState → Str → Except Panic LineOutcome} {st : LoadState}
    {l : Str} {ls : List Str} (h : f st l = .ok .fail) :
    loadLoop f st (l :: ls) = .ok none := by
  simp [loadLoop, h, bind, Except.bind]

def kind (raw : Str) : Kind :=
  kindOf (fieldsOf raw) (commaOf raw)

theorem metaLine_code (st : LoadState) (raw lower : Str) :
    (metaLine st raw lower).code = st.code ∧ (metaLine st raw lower).start = st.start := by
  unfold metaLine
  repeat' split
  all_goals exact ⟨rfl, rfl⟩

theorem kind_comment {raw : Str} (h : (raw.head? == some ';') = true) : kind raw = .skip := by
  cases raw with
  | nil => cases h
  | cons c t =>
    simp only [List.head?_cons, beq_iff_eq, Option.some.injEq] at h
    subst h
    rfl

theorem line_ok {cs : UInt64} {legacy : Bool} {st : LoadState} {raw : Str} {o : LineOutcome}
    (h : lineOf legacy cs st raw = .ok o) (hi : Inv cs legacy st) :
    OutcomeOK cs legacy (kind raw) st o := by
  rw [lineOf_eq] at h
  split at h
  · rename_i hc
    cases h
    exact kind_comment hc ▸ meta_ok (metaLine_code ..) hi
  · obtain ⟨a, rfl, ha⟩ := ReadOK.ok ⟨rfl, readAct_ok ..⟩ h
    exact act_ok ha hi

theorem line_no_panic {cs : UInt64} (h0 : cs ≠ 0) (legacy : Bool) (st : LoadState) (raw : Str) :
    ∃ o, lineOf legacy cs st raw = .ok o := by
  rw [lineOf_eq]
  split
  · exact ⟨_, rfl⟩
  · exact ReadOK.no_panic ⟨rfl, readAct_ok ..⟩ h0

theorem sig_go_step (p : List Str × Str → Bool)
    (hp : ∀ fs r, p (fs, r) = (!fs.isEmpty || r.contains ','))
    (fs : List Str) (r : Str) (rest : List (List Str × Str)) (n : Nat) :
    Spec.significantInstrLines.go (List.filter p ((fs, r) :: rest)) n =
      if kindOf fs (r.contains ',') = .fin then (n, true)
      else Spec.significantInstrLines.go (List.filter p rest)
        (n + (kindOf fs (r.contains ',')).weight) := by
  cases fs with
  | nil =>
    cases hc : r.contains ','
    · have : p ([], r) = false := by rw [hp, hc]; rfl
      simp only [List.filter_cons, this, kindOf]
      rfl
    · have : p ([], r) = true := by rw [hp, hc]; rfl
      simp only [List.filter_cons, this, kindOf]
      rfl
  | cons h t =>
    have : p (h :: t, r) = true := by rw [hp]; rfl
    simp only [List.filter_cons, this, kindOf, if_true, Spec.significantInstrLines.go,
      List.head?_cons, List.isEmpty_cons, Bool.false_and]
    by_cases e1 : h = "end".toList
    · subst e1; rfl
    · by_cases e2 : h = "org".toList
      · subst e2; rfl
      · simp only [beq_eq_false_iff_ne.mpr e1, beq_eq_false_iff_ne.mpr e2]
        rfl

/-- the count of `Spec.significantInstrLines` over lines given by their fields and their text
    before the comment, for both readers -/
theorem sig_go_eq {α : Type} {toks : α → List Str × Str} {kind : α → Kind}
    (h : ∀ l, kindOf (toks l).1 ((toks l).2.contains ',') = kind l) (ls : List α) (n : Nat) :
    Spec.significantInstrLines.go
      ((ls.map toks).filter (fun (fs, r) => !fs.isEmpty || r.contains ',')) n = countK kind ls n := by
  induction ls generalizing n with
  | nil => rfl
  | cons l ls ih =>
    rw [List.map_cons, sig_go_step _ (fun _ _ => rfl), h, countK]
    split
    · rfl
    · exact ih _

theorem significantInstrLines_eq (text : Str) :
    Spec.significantInstrLines text = countK kind (readLines text) 0 := by
  unfold Spec.significantInstrLines
  simp only [List.zip_map']
  refine sig_go_eq (fun l => ?_) _ _
  unfold kind fieldsOf commaOf lowerOf
  rw [contains_toLower _ (by decide)]

theorem load_no_panic {cfg : Config} (h0 : cfg.coreSize ≠ 0) (text : Str) :
    ∃ r, parseLoadFile cfg text = .ok r := by
  unfold parseLoadFile
  obtain ⟨r, hr⟩ := loadLoop_no_panic (line_no_panic h0 (cfg.mode == .icws88)) (readLines text) {}
  simp only [lineOf] at hr
  simp only [bind, Except.bind, hr]
  cases r <;> exact ⟨_, rfl⟩

theorem parseLoadFile_some {cfg : Config} {text : Str} {w : WarriorData}
    (h : parseLoadFile cfg text = .ok (some w)) :
    ∃ st, Inv cfg.coreSize (cfg.mode == .icws88) st ∧
      st.code.size = (countK kind (readLines text) 0).1 ∧
      finish (cfg.mode == .icws88) st = some w := by
  unfold parseLoadFile at h
  simp only [bind, Except.bind] at h
  split at h
  · cases h
  rename_i r hr
  cases r with
  | none => cases h
  | some st =>
    have := loadLoop_ok (f := lineOf (cfg.mode == .icws88) cfg.coreSize) line_ok
      _ {} _ hr ⟨Int.le_refl 0, fun _ hi => by cases hi⟩
    exact ⟨st, this.1, this.2, Except.ok.inj h⟩

/-- the entry-point test of `finish` and `finishU` -/
theorem start_ok_of_not_bad {legacy : Bool} {start : Int} {n : Nat} (hs : 0 ≤ start)
    (h : ¬ (if legacy = true then start != 0 && decide (start ≥ n) else decide (start ≥ n)) = true) :
    (n = 0 ∧ start = 0) ∨ (0 ≤ start ∧ start < n) := by
  cases legacy <;>
    simp only [Bool.false_eq_true, if_false, if_true, Bool.and_eq_true, bne_iff_ne, ne_eq,
      decide_eq_true_eq] at h <;> omega

theorem finish_some {legacy : Bool} {st : LoadState} {w : WarriorData}
    (h : finish legacy st = some w) (hs : 0 ≤ st.start) :
    w.code = st.code ∧ w.start = st.start ∧
    ((st.code.size = 0 ∧ st.start = 0) ∨ (0 ≤ st.start ∧ st.start < st.code.size)) := by
  simp only [finish, Option.ite_none_left_eq_some, Option.some.injEq] at h
  obtain ⟨hb, rfl⟩ := h
  exact ⟨rfl, rfl, start_ok_of_not_bad hs hb⟩

/-- said of `finish`, used for both readers (`finish_toL`) -/
theorem finish_wf {cs : UInt64} {legacy : Bool} {st : LoadState} {w : WarriorData}
    (hi : Inv cs legacy st) (h : finish legacy st = some w) :
    w.code.size = st.code.size ∧
    ((w.code.size = 0 ∧ w.start = 0) ∨ (0 ≤ w.start ∧ w.start < w.code.size)) ∧
    (∀ i ∈ w.code.toList, i.a < cs ∧ i.b < cs) ∧
    (legacy = true → ∀ i ∈ w.code.toList, Spec.Legal88 i = true) := by
  obtain ⟨e1, e2, e3⟩ := finish_some h hi.1
  rw [e1, e2]
  exact ⟨rfl, e3, fun i hm => ⟨(hi.2 i hm).1, (hi.2 i hm).2.1⟩, fun hl i hm => (hi.2 i hm).2.2 hl⟩

theorem load_ok_wf {cfg : Config} {text : Str} {w : WarriorData}
    (_h0 : cfg.coreSize ≠ 0) (_h63 : cfg.coreSize.toNat < 2 ^ 63)
    (h : parseLoadFile cfg text = .ok (some w)) :
    ((w.code.size = 0 ∧ w.start = 0) ∨ (0 ≤ w.start ∧ w.start < w.code.size)) ∧
    (∀ i ∈ w.code.toList, i.a < cfg.coreSize ∧ i.b < cfg.coreSize) ∧
    (cfg.mode = .icws88 → ∀ i ∈ w.code.toList, Spec.Legal88 i = true) := by
  obtain ⟨st, hi, _, hfin⟩ := parseLoadFile_some h
  obtain ⟨_, h2, h3, h4⟩ := finish_wf hi hfin
  exact ⟨h2, h3, fun hm => h4 (by rw [hm]; rfl)⟩

theorem no_silent_skip {cfg : Config} {text : Str} {w : WarriorData}
    (h : parseLoadFile cfg text = .ok (some w)) :
    w.code.size = (Spec.significantInstrLines text).1 := by
  obtain ⟨st, hi, hn, hfin⟩ := parseLoadFile_some h
  rw [(finish_wf hi hfin).1, hn, significantInstrLines_eq]

end Gmars
