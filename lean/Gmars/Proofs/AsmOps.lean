/-
  C03 "Redcode source assembles to the instructions it denotes": the decoding helpers of asm.go
  (`getOpCode`, `getOpCode88`, `getOpMode`, `getOp94`, `getAddressMode`, `getAddressMode88`,
  `getOpMode94`) against the independently written look-ups of the reference, on ASCII opcode /
  modifier text.

  Outside ASCII the two sides DIFFER (Go's `strings.ToLower` maps U+0130 to `i`, Lean's
  `String.toUpper` leaves it alone): see `getOpCode_nonascii_counterexample`.
-/
import Gmars.Model.Token
import Gmars.Spec.Program
import Gmars.Proofs.GoStrLemmas

namespace Gmars.AsmLine
open GoStr

def Ascii (s : String) : Prop := ∀ c ∈ s.toList, c.toNat < 128

instance (s : String) : Decidable (Ascii s) := by unfold Ascii; infer_instance

theorem toUpper_eq {s : String} (h : Ascii s) :
    s.toUpper = String.ofList ((toLower s.toList).map Char.toUpper) := by
  apply String.toList_injective
  rw [String.toUpper, String.toList_map, String.toList_ofList, toLower, List.map_map]
  exact List.map_congr_left (fun c hc => (toUpper_lowerChar (h c hc)).symm)

theorem toLower_toUpper (s : String) :
    toLower s.toUpper.toList = toLower s.toList := by
  rw [String.toUpper, String.toList_map, toLower, toLower, List.map_map]
  exact List.map_congr_left (fun c _ => lowerChar_toUpper c)

abbrev Spelt (n k : String) : Prop :=
  String.ofList (k.toList.map Char.toUpper) = n ∧ String.ofList (toLower n.toList) = k ∧
    '.' ∉ k.toList

/-- gmars lower-cases the text and compares with `k`, the reference upper-cases it and compares
    with `n`: the same test on ASCII text -/
theorem Spelt.beq {s n k : String} (hw : Spelt n k) (h : Ascii s) :
    (String.ofList (toLower s.toList) == k) = (n == s.toUpper) := by
  rw [Bool.eq_iff_iff, beq_iff_eq, beq_iff_eq]
  constructor
  · intro e; rw [toUpper_eq h, ← hw.1, ← e, String.toList_ofList]
  · intro e; rw [← hw.2.1, e, toLower_toUpper]

theorem lookup_spelt {β : Type} {T : List (String × β)} {name : β → String}
    (hT : ∀ p ∈ T, Spelt (name p.2) p.1) {s : String} (h : Ascii s) :
    T.lookup (String.ofList (toLower s.toList)) =
      (T.map (·.2)).find? (fun o => name o == s.toUpper) := by
  induction T with
  | nil => rfl
  | cons p r ih =>
    obtain ⟨k, b⟩ := p
    rw [List.lookup_cons, List.map_cons, List.find?_cons, (hT _ (List.mem_cons_self ..)).beq h,
      ih (fun q hq => hT q (List.mem_cons_of_mem _ hq))]

theorem lookup_dot {β : Type} {T : List (String × β)} {name : β → String}
    (hT : ∀ p ∈ T, Spelt (name p.2) p.1) {l : Str} (h : '.' ∈ l) :
    T.lookup (String.ofList (toLower l)) = none := by
  rw [List.lookup_eq_none_iff]
  intro p hp
  rw [bne_iff_ne]
  intro e
  exact (hT p hp).2.2
    (by rw [← e, String.toList_ofList]; exact (mem_toLower_iff (by decide)).mpr h)

/-- the opcode table of `getOpCode`, in the order of `Op.all` -/
def opNames : List (String × Op) :=
  [("dat", .dat), ("mov", .mov), ("add", .add), ("sub", .sub), ("mul", .mul), ("div", .div),
   ("mod", .mod), ("cmp", .cmp), ("seq", .seq), ("sne", .sne), ("slt", .slt), ("jmp", .jmp),
   ("jmz", .jmz), ("jmn", .jmn), ("djn", .djn), ("spl", .spl), ("nop", .nop)]

theorem getOpCode_lookup (l : Str) : getOpCode l = opNames.lookup (String.ofList (toLower l)) := by
  unfold getOpCode
  generalize String.ofList (toLower l) = x
  split <;> try decide
  rw [eq_comm, List.lookup_eq_none_iff]
  simp [opNames]
  and_intros <;> assumption

theorem opNames_ops : opNames.map (·.2) = Op.all := by decide

theorem opNames_spelt : ∀ p ∈ opNames, Spelt p.2.name p.1 := by decide +kernel

theorem getOpCode_eq {s : String} (h : Ascii s) : getOpCode s.toList = Spec.opOfString s := by
  rw [getOpCode_lookup, Spec.opOfString, ← opNames_ops]
  exact lookup_spelt opNames_spelt h

/-- the counterexample outside ASCII: Go lower-cases U+0130 to `i`, so `dİv` is DIV for gmars and
    no opcode for the reference -/
theorem getOpCode_nonascii_counterexample :
    getOpCode "dİv".toList = some .div ∧ Spec.opOfString "dİv" = none := by
  refine ⟨by decide, ?_⟩
  have : "dİv".toUpper = "DİV" := by
    apply String.toList_injective
    rw [String.toUpper, String.toList_map]
    decide
  unfold Spec.opOfString
  rw [this]
  decide

theorem getOpCode88_eq_filter (l : Str) : getOpCode88 l = (getOpCode l).filter Spec.is88Op := by
  unfold getOpCode88 getOpCode
  generalize String.ofList (toLower l) = x
  split <;> try decide
  split <;> first | contradiction | decide | rfl

theorem getOpCode88_eq {s : String} (h : Ascii s) :
    getOpCode88 s.toList = (Spec.opOfString s).filter Spec.is88Op := by
  rw [getOpCode88_eq_filter, getOpCode_eq h]

theorem getOpCode_dot {l : Str} (h : '.' ∈ l) : getOpCode l = none := by
  rw [getOpCode_lookup]
  exact lookup_dot opNames_spelt h

theorem getOpCode88_dot {l : Str} (h : '.' ∈ l) : getOpCode88 l = none := by
  rw [getOpCode88_eq_filter, getOpCode_dot h]; rfl

/-- `lowerStr op == "dat"` (the test `assembleLine` uses for the '88 default mode) -/
theorem lowerStr_dat_iff (s : String) : (lowerStr s == "dat") = (getOpCode s.toList == some .dat) := by
  unfold getOpCode lowerStr
  generalize String.ofList (toLower s.toList) = x
  split <;> try decide
  simp [show x ≠ "dat" by assumption]

/-- the modifier table of `getOpMode`, in the order of `Modifier.all` -/
def modNames : List (String × Modifier) :=
  [("f", .f), ("a", .a), ("b", .b), ("ab", .ab), ("ba", .ba), ("x", .x), ("i", .i)]

theorem getOpMode_lookup (l : Str) : getOpMode l = modNames.lookup (String.ofList (toLower l)) := by
  unfold getOpMode
  generalize String.ofList (toLower l) = x
  split <;> try decide
  rw [eq_comm, List.lookup_eq_none_iff]
  simp [modNames]
  and_intros <;> assumption

theorem modNames_mods : modNames.map (·.2) = Modifier.all := by decide

theorem modNames_spelt : ∀ p ∈ modNames, Spelt p.2.name p.1 := by decide +kernel

theorem getOpMode_eq {s : String} (h : Ascii s) : getOpMode s.toList = Spec.modOfString s := by
  rw [getOpMode_lookup, Spec.modOfString, ← modNames_mods]
  exact lookup_spelt modNames_spelt h

theorem getOpMode_dot {l : Str} (h : '.' ∈ l) : getOpMode l = none := by
  rw [getOpMode_lookup]
  exact lookup_dot modNames_spelt h

theorem opNames_key : ∀ p ∈ opNames, opNames.lookup p.1 = some p.2 := by decide +kernel
theorem modNames_key : ∀ p ∈ modNames, modNames.lookup p.1 = some p.2 := by decide

theorem lookup_name {β : Type} {T : List (String × β)} {name : β → String}
    (hT : ∀ p ∈ T, Spelt (name p.2) p.1) (hk : ∀ p ∈ T, T.lookup p.1 = some p.2) {o : β}
    (ho : o ∈ T.map (·.2)) : T.lookup (String.ofList (toLower (name o).toList)) = some o := by
  obtain ⟨p, hp, rfl⟩ := List.mem_map.1 ho
  rw [(hT p hp).2.1, hk p hp]

theorem getOpCode_toLower (l : Str) : getOpCode (toLower l) = getOpCode l := by
  rw [getOpCode_lookup, getOpCode_lookup, toLower_idem]

theorem getOpMode_toLower (l : Str) : getOpMode (toLower l) = getOpMode l := by
  rw [getOpMode_lookup, getOpMode_lookup, toLower_idem]

/-- by the tables (`lookup_name`): no sweep over the names through the readers -/
theorem getOpCode_name (o : Op) : getOpCode o.name.toList = some o := by
  rw [getOpCode_lookup]
  exact lookup_name opNames_spelt opNames_key
    (opNames_ops ▸ List.mem_of_getElem? (Op.ofNat?_toNat o))

theorem getOpMode_name (m : Modifier) : getOpMode m.name.toList = some m := by
  rw [getOpMode_lookup]
  exact lookup_name modNames_spelt modNames_key
    (modNames_mods ▸ List.mem_of_getElem? (Modifier.ofNat?_toNat m))

theorem getOp94_two {o m : Str} (ho : '.' ∉ o) (hm : '.' ∉ m) :
    getOp94 (o ++ '.' :: m) = (getOpCode o).bind (fun op => (getOpMode m).map (fun md => (op, md))) := by
  unfold getOp94
  rw [splitOnChar_one '.' o m (fun x hx e => ho (e ▸ hx)) (fun x hx e => hm (e ▸ hx))]
  show (do let x ← getOpCode o; let y ← getOpMode m; pure (x, y)) = _
  cases getOpCode o <;> cases getOpMode m <;> rfl

theorem getOp94_many {l : Str} (h : 2 ≤ l.count '.') : getOp94 l = none := by
  unfold getOp94
  have := splitOnChar_length '.' l
  split
  · rename_i heq; rw [heq] at this; simp at this; omega
  · rfl

theorem getOp94_nodot {l : Str} (h : '.' ∉ l) : getOp94 l = none := by
  unfold getOp94
  rw [splitOnChar_none '.' l (fun x hx e => h (e ▸ hx))]

theorem getAddressMode_sym (m : Mode) : getAddressMode [m.sym] = some m := by cases m <;> rfl

theorem getAddressMode88_sym (m : Mode) :
    getAddressMode88 [m.sym] = if Spec.mode88 m then some m else none := by cases m <;> rfl

/-- the default modifiers of gmars are those of the ICWS'94 draft -/
theorem getOpMode94_eq (op : Op) (am bm : Mode) : getOpMode94 op am bm = Spec.defaultMod94 op am bm := by
  cases op <;> rfl

def opString (opS : String) (mdS : Option String) : String := opS ++ (mdS.map ("." ++ ·)).getD ""

def modeString (m : Option Mode) : String := (m.map (fun m => String.singleton m.sym)).getD ""

def textTok (s : String) : Token := { typ := .text, val := s }

def constNames : List String := ["CORESIZE", "MAXLENGTH", "MAXPROCESSES", "MINDISTANCE"]

end Gmars.AsmLine
