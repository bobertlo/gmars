/-
  C09, assembler half, layout perturbations: the token stream of the whole text of a
  `LoadLayout.Layout`.  A text that ends with a newline is a text with one more, empty, last line
  that is not terminated (`joinLines_true`), so there is one form: whole lines `a` and an
  unterminated last line `l`.
-/
import Gmars.Proofs.AsmLayoutLex

namespace Gmars
namespace AsmLayout
open Gmars.Render Gmars.GoStr Gmars.LoadLayout
open Gmars.RoundTrip (Blanks Gaps DirGaps)
open Gmars.Lex (sends)

def fillerLines (fs : List Filler) : List FLine := fs.map fillerLine

def instrLines (legacy : Bool) (p : InstrLay) : List FLine := fillerLines p.pre ++ [instrLine legacy p]

def flines94 (L : Layout) (start : Nat) : List FLine :=
  fillerLines L.dir.pre ++ dirLine L.dir "ORG" start ::
    (L.lines.flatMap (instrLines false) ++ fillerLines L.post)

def fbody88 (L : Layout) : List FLine := L.lines.flatMap (instrLines true) ++ fillerLines L.dir.pre

def flines88 (L : Layout) (start : Nat) : List FLine :=
  fbody88 L ++ dirLine L.dir "END" start :: fillerLines L.post

def flinesOf (L : Layout) (legacy : Bool) (start : Nat) : List FLine :=
  if legacy then flines88 L start else flines94 L start

/-- what the assembler needs of a layout: gaps are ASCII white space without newline (the gap
    between `ORG` / `END` and the number is not empty), comments have no newline -/
structure AsmOK (L : Layout) : Prop where
  dirPre : ∀ f ∈ L.dir.pre, f.ok
  dirGaps : L.dir.gaps.ok
  dirTrail : L.dir.trail.ok
  lines : ∀ p ∈ L.lines, (∀ f ∈ p.pre, f.ok) ∧ p.trail.ok ∧ GapsBlank p.gaps
  post : ∀ f ∈ L.post, f.ok

theorem AsmOK.of_ok {L : Layout} {M : UInt64} {legacy : Bool} (h : L.ok M legacy) : AsmOK L where
  dirPre := h.dirPre
  dirGaps := h.dirGaps
  dirTrail := h.dirTrail
  lines := fun p hp => ⟨(h.lines p hp).1, (h.lines p hp).2.1, GapsBlank.of_ok (h.lines p hp).2.2.1⟩
  post := h.post

theorem flTokens_append (a b : List FLine) : flTokens (a ++ b) = flTokens a ++ flTokens b := by
  induction a with
  | nil => rfl
  | cons l r ih => simp [flTokens, ih]

def LexPair (c : Str) (f : FLine) : Prop :=
  ∀ tail, LineEnd tail → sends (c ++ tail) = f.tokens0 ++ sends tail

inductive Lexed : List Str → List FLine → Prop
  | nil : Lexed [] []
  | cons {c : Str} {f : FLine} {cs : List Str} {fs : List FLine} :
      LexPair c f → Lexed cs fs → Lexed (c :: cs) (f :: fs)

theorem Lexed.append {a b : List Str} {a' b' : List FLine} (h : Lexed a a') (h' : Lexed b b') :
    Lexed (a ++ b) (a' ++ b') := by
  induction h with
  | nil => exact h'
  | cons hp _ ih => exact .cons hp ih

theorem joinLines_true (cs : List Str) : joinLines cs true = joinLines (cs ++ [[]]) false := by
  induction cs with
  | nil => rfl
  | cons c r ih =>
    cases r with
    | nil => simp [joinLines]
    | cons d r => rw [joinLines_cons_cons, ih]; rfl

theorem sends_joinLines {cs : List Str} {fs a : List FLine} {l : FLine} (h : Lexed cs fs)
    (e : fs = a ++ [l]) : sends (joinLines cs false) = flTokens a ++ (l.tokens0 ++ [Lex.eofTok]) := by
  induction h generalizing a with
  | nil => cases a <;> cases e
  | @cons c f cs fs hp hr ih =>
    cases a with
    | nil =>
      cases e
      cases hr
      simpa [joinLines, flTokens, sends_nil] using hp [] (Or.inl rfl)
    | cons f' a =>
      obtain ⟨rfl, e2⟩ := List.cons.inj e
      cases hr with
      | nil => cases a <;> cases e2
      | cons _ _ =>
        rw [joinLines_cons_cons, hp _ (Or.inr ⟨_, rfl⟩), sends_newline, ih e2]
        simp [flTokens, FLine.tokens, nlTok]

theorem lexed_fillers (fs : List Filler) (hf : ∀ f ∈ fs, f.ok) :
    Lexed ((fillerItems fs).map (·.1)) (fillerLines fs) := by
  induction fs with
  | nil => exact .nil
  | cons f r ih =>
    exact .cons (sends_filler f (hf f (by simp))) (ih fun x hx => hf x (by simp [hx]))

theorem lexed_instrs (legacy : Bool) (ps : List InstrLay)
    (h : ∀ p ∈ ps, (∀ f ∈ p.pre, f.ok) ∧ p.trail.ok ∧ GapsBlank p.gaps) :
    Lexed ((ps.flatMap (instrItems legacy)).map (·.1)) (ps.flatMap (instrLines legacy)) := by
  induction ps with
  | nil => exact .nil
  | cons p r ih =>
    obtain ⟨h1, h2, h3⟩ := h p (by simp)
    simp only [List.flatMap_cons, List.map_append, instrItems, instrLines, List.map_cons, List.map_nil]
    exact ((lexed_fillers _ h1).append (.cons (sends_instr legacy p h3 h2) .nil)).append
      (ih fun x hx => h x (by simp [hx]))

theorem lexed_layout (L : Layout) (legacy : Bool) (start : Nat) (hok : AsmOK L) :
    Lexed ((if legacy then L.items88 start else L.items94 start).map (·.1)) (flinesOf L legacy start) := by
  cases legacy
  · simp only [Bool.false_eq_true, if_false, Layout.items94, flinesOf, flines94, List.map_append,
      List.map_cons]
    exact (lexed_fillers _ hok.dirPre).append (.cons
      (sends_dir L.dir "ORG" (identOK_orgR _) start hok.dirGaps hok.dirTrail)
      ((lexed_instrs false _ hok.lines).append (lexed_fillers _ hok.post)))
  · simp only [if_true, Layout.items88, Layout.body88, flinesOf, flines88, fbody88, List.map_append,
      List.map_cons]
    exact ((lexed_instrs true _ hok.lines).append (lexed_fillers _ hok.dirPre)).append (.cons
      (sends_dir L.dir "END" (identOK_endR _) start hok.dirGaps hok.dirTrail) (lexed_fillers _ hok.post))

/-- the lines of the text: after a final newline comes one more, empty, line -/
def textLines (L : Layout) (legacy : Bool) (start : Nat) : List FLine :=
  flinesOf L legacy start ++ if L.finalNewline then [.blank] else []

theorem tokens_render (L : Layout) (legacy : Bool) (start : Nat) (hok : AsmOK L) {a : List FLine}
    {l : FLine} (h : textLines L legacy start = a ++ [l]) :
    Lex.tokens (L.render legacy start) = flTokens a ++ (l.tokens0 ++ [Lex.eofTok]) := by
  have hl := lexed_layout L legacy start hok
  rw [Lex.tokens_eq_sends, Layout.render]
  unfold textLines at h
  cases hnl : L.finalNewline
  · rw [hnl, if_neg nofun, List.append_nil] at h
    exact sends_joinLines hl h
  · rw [hnl, if_pos rfl] at h
    rw [joinLines_true]
    exact sends_joinLines (hl.append (.cons (fun _ _ => rfl) .nil)) h

end AsmLayout
end Gmars
