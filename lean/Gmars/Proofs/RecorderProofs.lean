/-
  staterecorder.go (C15): the bundled state recorder never panics on a well-formed
  report stream and shows, for every address, the kind and warrior of the last
  operation reported for it (a last-writer fold over the report stream).
-/
import Gmars.Model.Sim
import Gmars.Proofs.RefineArith

namespace Gmars

def Recorder.Inv (r : Recorder) : Prop :=
  r.color.size = r.coresize.toNat ∧ r.state.size = r.coresize.toNat

/-- `GetMemState`; outside the core, where Go panics, the default -/
def Recorder.view (r : Recorder) (a : Nat) : CoreState × Int :=
  (r.state.getD a .empty, r.color.getD a (-1))

def updView (view : Nat → CoreState × Int) (a : Nat) (v : CoreState × Int) :
    Nat → CoreState × Int :=
  fun b => if b = a then v else view b

/-- Specification: the (kind, warrior) of the last operation per address, one report step. -/
def lastOp (M : Nat) (len : Int → Option Nat) (recordReads : Bool)
    (view : Nat → CoreState × Int) (rp : Report) : Nat → CoreState × Int :=
  match rp.typ with
  | .simReset => fun _ => (.empty, -1)
  | .warriorSpawn =>
    match len rp.wi with
    | some n => fun a =>
        if ∃ i, i < n ∧ (rp.addr.toNat + i) % M = a then (.written, rp.wi) else view a
    | none => view
  | .taskTerminate => updView view rp.addr.toNat (.terminated, rp.wi)
  | .taskPop => updView view rp.addr.toNat (.executed, rp.wi)
  | .write => updView view rp.addr.toNat (.written, rp.wi)
  | .increment => updView view rp.addr.toNat (.incremented, rp.wi)
  | .decrement => updView view rp.addr.toNat (.decremented, rp.wi)
  | .read => if recordReads then updView view rp.addr.toNat (.read, rp.wi) else view
  | _ => view

/-- Exactly the hypotheses on a report under which `Recorder.report` is shown not to panic
    and to agree with `lastOp` (`M` = core size). For `warriorSpawn`: the warrior exists, the
    64-bit address arithmetic `addr + i` (`i < n`) does not wrap, and an empty core only sees
    empty warriors (the loop divides by the core size). -/
def Report.OK (M : Nat) (len : Int → Option Nat) (recordReads : Bool) (rp : Report) : Prop :=
  match rp.typ with
  | .warriorSpawn =>
    ∃ n, len rp.wi = some n ∧ rp.addr.toNat + n ≤ 2 ^ 64 ∧ (M = 0 → n = 0)
  | .taskTerminate | .taskPop | .write | .increment | .decrement => rp.addr.toNat < M
  | .read => recordReads = true → rp.addr.toNat < M
  | _ => True

def Recorder.StepTo (r r' : Recorder) (f : Nat → CoreState × Int) : Prop :=
  r'.Inv ∧ r'.coresize = r.coresize ∧ r'.recordReads = r.recordReads ∧ ∀ a, r'.view a = f a

theorem Recorder.new_inv (coresize : UInt64) : (Recorder.new coresize).Inv := by
  simp [Recorder.Inv, Recorder.new]

theorem Recorder.new_view (coresize : UInt64) (a : Nat) :
    (Recorder.new coresize).view a = (.empty, -1) := by
  simp only [Recorder.view, Recorder.new, Array.getD_eq_getD_getElem?, Array.getElem?_replicate]
  split <;> rfl

theorem Recorder.set_ok (r : Recorder) (a : UInt64) (st : CoreState) (wi : Int)
    (h : r.Inv) (ha : a.toNat < r.coresize.toNat) :
    ∃ r', r.set a st wi = .ok r' ∧ r.StepTo r' (updView r.view a.toNat (st, wi)) := by
  obtain ⟨hc, hs⟩ := h
  have hb : a.toNat < r.color.size ∧ a.toNat < r.state.size := by omega
  refine ⟨{ r with color := r.color.set a.toNat wi hb.1, state := r.state.set a.toNat st hb.2 },
    by simp only [Recorder.set, dif_pos hb], ?_, rfl, rfl, ?_⟩
  · simp [Recorder.Inv, hc, hs]
  · intro b
    simp only [Recorder.view, updView, Array.getD_eq_getD_getElem?, Array.getElem?_set]
    by_cases hba : b = a.toNat
    · subst hba; simp
    · simp [hba, Ne.symm hba]

theorem ite_ite_or {α : Type} (p q : Prop) [Decidable p] [Decidable q] (x y : α) :
    (if p then x else if q then x else y) = if p ∨ q then x else y := by
  by_cases p <;> by_cases q <;> simp [*]

/-- The spawn loop with the model's own (wrapping) address arithmetic: needs only the
    invariant and a non-empty core. -/
theorem Recorder.spawnLoop_model (addr : UInt64) (wi : Int) (l : List Nat) :
    ∀ (r : Recorder), r.Inv → 0 < r.coresize.toNat →
    ∃ r', l.foldlM (fun (r : Recorder) i =>
            r.set ((addr + UInt64.ofNat i) % r.coresize) .written wi) r = .ok r' ∧
      r.StepTo r' (fun a =>
        if ∃ i, i ∈ l ∧ ((addr + UInt64.ofNat i) % r.coresize).toNat = a then (.written, wi)
        else r.view a) := by
  induction l with
  | nil =>
    intro r h _
    exact ⟨r, rfl, h, rfl, rfl, fun a => by simp⟩
  | cons i l ih =>
    intro r h hpos
    have hlt : ((addr + UInt64.ofNat i) % r.coresize).toNat < r.coresize.toNat := by
      rw [UInt64.toNat_mod]; exact Nat.mod_lt _ hpos
    obtain ⟨r1, e1, inv1, cs1, rr1, v1⟩ := Recorder.set_ok r _ .written wi h hlt
    obtain ⟨r2, e2, inv2, cs2, rr2, v2⟩ := ih r1 inv1 (by rw [cs1]; exact hpos)
    refine ⟨r2, ?_, inv2, cs2.trans cs1, rr2.trans rr1, ?_⟩
    · simp only [List.foldlM_cons, e1]; exact e2
    · intro a
      rw [v2 a]
      simp only [v1, cs1, updView]
      rw [ite_ite_or]
      refine ite_congr (propext ?_) (fun _ => rfl) (fun _ => rfl)
      simp only [List.mem_cons, or_and_right, exists_or, exists_eq_left, @eq_comm _ a]
      exact Or.comm

theorem Recorder.stepTo_refl (r : Recorder) (h : r.Inv) : r.StepTo r r.view :=
  ⟨h, rfl, rfl, fun _ => rfl⟩

/-- C15, one report: under `Report.OK`, `Recorder.report` never panics and what the recorder shows
    afterwards is the `lastOp` step. -/
theorem Recorder.report_ok' (r : Recorder) (len : Int → Option Nat) (rp : Report)
    (h : r.Inv) (hok : rp.OK r.coresize.toNat len r.recordReads) :
    ∃ r', r.report len rp = .ok r' ∧
      r.StepTo r' (lastOp r.coresize.toNat len r.recordReads r.view rp) := by
  unfold Report.OK at hok
  unfold Recorder.report lastOp
  cases ht : rp.typ <;> simp only [ht] at hok ⊢
  case simReset =>
    exact ⟨_, rfl, Recorder.new_inv _, rfl, rfl, fun a => Recorder.new_view _ a⟩
  case cycleStart | cycleEnd | taskPush | warriorTerminate => exact ⟨r, rfl, r.stepTo_refl h⟩
  case taskPop | taskTerminate | write | increment | decrement =>
    exact Recorder.set_ok r _ _ _ h hok
  case read =>
    by_cases hrr : r.recordReads = true
    · simp only [if_pos hrr]
      exact Recorder.set_ok r _ _ _ h (hok hrr)
    · simp only [if_neg hrr]
      exact ⟨r, rfl, r.stepTo_refl h⟩
  case warriorSpawn =>
    obtain ⟨n, hn, hov, h0⟩ := hok
    simp only [hn]
    by_cases hz : r.coresize = 0
    · obtain rfl : n = 0 := h0 (by rw [hz]; rfl)
      refine ⟨r, by rw [hz]; rfl, h, rfl, rfl, fun a => ?_⟩
      exact (if_neg fun ⟨i, hi, _⟩ => Nat.not_lt_zero i hi).symm
    · have hpos : 0 < r.coresize.toNat := UInt64.lt_iff_toNat_lt.mp (UInt64.pos_iff_ne_zero.mpr hz)
      simp only [beq_eq_false_iff_ne.mpr hz, Bool.false_eq_true, if_false]
      obtain ⟨r', e, inv, cs, rr, v⟩ :=
        Recorder.spawnLoop_model rp.addr rp.wi (List.range n) r h hpos
      refine ⟨r', e, inv, cs, rr, fun a => ?_⟩
      have hiff : ∀ i, i ∈ List.range n ∧ ((rp.addr + UInt64.ofNat i) % r.coresize).toNat = a ↔
          i < n ∧ (rp.addr.toNat + i) % r.coresize.toNat = a := fun i => by
        rw [List.mem_range]
        exact and_congr_right fun hi => by
          rw [spawn_addr _ _ _ (Nat.lt_of_lt_of_le (Nat.add_lt_add_left hi _) hov)]
      simp only [v a, hiff]

theorem Report.OK.of_lt {cs : UInt64} {len : Int → Option Nat} {rr : Bool} {rp : Report}
    (hpos : 0 < cs.toNat) (ha : rp.addr < cs)
    (hspawn : rp.typ = .warriorSpawn → ∃ n, len rp.wi = some n ∧ rp.addr.toNat + n ≤ 2 ^ 64) :
    rp.OK cs.toNat len rr := by
  have ha' : rp.addr.toNat < cs.toNat := UInt64.lt_iff_toNat_lt.mp ha
  unfold Report.OK
  cases ht : rp.typ <;> simp only [] <;> try exact ha'
  · obtain ⟨n, hn, hov⟩ := hspawn ht
    exact ⟨n, hn, hov, fun e => absurd e (Nat.ne_of_gt hpos)⟩
  · exact fun _ => ha'

/-- The no-wrap hypothesis `rp.addr.toNat + n ≤ 2^64` of a spawn report cannot go: without it the
    model's wrapping 64-bit addition differs from `(addr + i) % M` on cores above 2^63 cells, see
    `Recorder.wrap_counterexample`; on cores up to 2^63 cells it always holds, see
    `Recorder.spawn_any_offset` and `Recorder.reports_ok_small`. -/
theorem Recorder.report_ok (r : Recorder) (len : Int → Option Nat) (rp : Report)
    (h : r.Inv) (hpos : 0 < r.coresize.toNat) (ha : rp.addr < r.coresize)
    (hspawn : rp.typ = .warriorSpawn → ∃ n, len rp.wi = some n ∧ rp.addr.toNat + n ≤ 2 ^ 64) :
    ∃ r', r.report len rp = .ok r' ∧ r'.Inv ∧ r'.coresize = r.coresize ∧
      r'.recordReads = r.recordReads ∧
      ∀ a < r.coresize.toNat,
        (r'.state.getD a .empty, r'.color.getD a (-1)) =
          lastOp r.coresize.toNat len r.recordReads
            (fun a => (r.state.getD a .empty, r.color.getD a (-1))) rp a := by
  obtain ⟨r', e, inv, cs, rr, v⟩ := r.report_ok' len rp h (Report.OK.of_lt hpos ha hspawn)
  exact ⟨r', e, inv, cs, rr, fun a _ => v a⟩

/-- Why the no-wrap hypothesis is needed for the RECORDER on cores above 2^63 cells (this is the
    recorder's own loop `(addr + i) % coresize` over an address that is already below the core
    size; it does not depend on how `SpawnWarrior` treats its offset): with `M = 2^64-1`,
    `addr = 2^64-2 < M`, `i = 2` the model writes address 0 while `(addr + i) % M = 1`. -/
theorem Recorder.wrap_counterexample :
    ((0xFFFFFFFFFFFFFFFE + UInt64.ofNat 2) % (0xFFFFFFFFFFFFFFFF : UInt64)).toNat = 0 ∧
    ((0xFFFFFFFFFFFFFFFE : UInt64).toNat + 2) % (0xFFFFFFFFFFFFFFFF : UInt64).toNat = 1 := by
  decide

/-- `Recorder.report_ok` without its no-wrap hypothesis is FALSE: a recorder for a core
    of size `2^64-1`, a warrior of length 3 spawned at `2^64-2`. The model writes addresses
    `M-1, 0, 0`, the specification `M-1, 0, 1`; they differ at address 1. -/
theorem Recorder.report_ok_unhyp_false :
    ¬ (∀ (r : Recorder) (len : Int → Option Nat) (rp : Report) (n : Nat),
        r.Inv → 0 < r.coresize.toNat → rp.addr < r.coresize →
        (rp.typ = .warriorSpawn → len rp.wi = some n) →
        ∃ r', r.report len rp = .ok r' ∧ r'.Inv ∧ r'.coresize = r.coresize ∧
          r'.recordReads = r.recordReads ∧
          ∀ a < r.coresize.toNat,
            (r'.state.getD a .empty, r'.color.getD a (-1)) =
              lastOp r.coresize.toNat len r.recordReads
                (fun a => (r.state.getD a .empty, r.color.getD a (-1))) rp a) := by
  intro H
  have hinv := Recorder.new_inv 0xFFFFFFFFFFFFFFFF
  have hcs : (Recorder.new 0xFFFFFFFFFFFFFFFF).coresize = 0xFFFFFFFFFFFFFFFF := rfl
  have hv1 : (Recorder.new 0xFFFFFFFFFFFFFFFF).view 1 = (.empty, -1) := Recorder.new_view _ 1
  generalize Recorder.new 0xFFFFFFFFFFFFFFFF = r at hinv hcs hv1
  have hpos : 0 < r.coresize.toNat := by rw [hcs]; decide
  obtain ⟨r', e, -, -, -, v⟩ := H r (fun _ => some 3)
    { typ := .warriorSpawn, wi := 0, addr := 0xFFFFFFFFFFFFFFFE } 3 hinv hpos
    (by rw [hcs]; decide) (fun _ => rfl)
  obtain ⟨r'', e', -, -, -, v'⟩ :=
    Recorder.spawnLoop_model 0xFFFFFFFFFFFFFFFE 0 (List.range 3) r hinv hpos
  have hne : (r.coresize == 0) = false := by rw [hcs]; decide
  have e2 : r.report (fun _ => some 3)
      { typ := .warriorSpawn, wi := 0, addr := 0xFFFFFFFFFFFFFFFE } = .ok r'' := by
    simp only [Recorder.report, hne, Bool.false_eq_true, if_false]
    exact e'
  obtain rfl : r' = r'' := Except.ok.inj (e.symm.trans e2)
  have h1 := v 1 (by rw [hcs]; decide)
  have h2 := v' 1
  simp only [Recorder.view] at h2 hv1
  rw [h2] at h1
  simp only [lastOp, hcs, hv1] at h1
  have hm : ¬ ∃ i, i ∈ List.range 3 ∧
      (((0xFFFFFFFFFFFFFFFE : UInt64) + UInt64.ofNat i) % 0xFFFFFFFFFFFFFFFF).toNat = 1 := by
    decide
  have hs : ∃ i, i < 3 ∧
      ((0xFFFFFFFFFFFFFFFE : UInt64).toNat + i) % (0xFFFFFFFFFFFFFFFF : UInt64).toNat = 1 :=
    ⟨2, by decide, by decide⟩
  rw [if_neg hm, if_pos hs] at h1
  exact absurd h1 (by decide)

/-- **`SpawnWarrior` at any offset, seen by the recorder.** `SpawnWarrior` reduces its offset
    modulo the core size and reports `Address: startOffset % s.m`; so for EVERY 64-bit offset,
    on a core of at most 2^63 cells and for a warrior of at most 2^63 instructions, the spawn
    report satisfies what `Recorder.report_ok` asks of it: address below the core size and no
    wrap-around in the recorder's loop. -/
theorem Recorder.spawn_any_offset (off m : UInt64) (n : Nat) (hm0 : 0 < m.toNat)
    (hm : m.toNat ≤ 2 ^ 63) (hn : n ≤ 2 ^ 63) :
    off % m < m ∧ (off % m).toNat + n ≤ 2 ^ 64 := by
  have h : (off % m).toNat < m.toNat := by rw [UInt64.toNat_mod]; exact Nat.mod_lt _ hm0
  exact ⟨UInt64.lt_iff_toNat_lt.mpr h, by omega⟩

example : (0xFFFFFFFFFFFFFFFF % 8000 : UInt64) < 8000 ∧
    (0xFFFFFFFFFFFFFFFF % 8000 : UInt64).toNat + 100 ≤ 2 ^ 64 :=
  Recorder.spawn_any_offset 0xFFFFFFFFFFFFFFFF 8000 100 (by decide) (by decide) (by decide)

theorem Recorder.reset_empty (r : Recorder) (len : Int → Option Nat) (rp : Report)
    (ht : rp.typ = .simReset) :
    ∃ r', r.report len rp = .ok r' ∧ r'.Inv ∧ r'.coresize = r.coresize ∧
      r'.recordReads = r.recordReads ∧
      ∀ a, (r'.state.getD a .empty, r'.color.getD a (-1)) = (.empty, -1) := by
  refine ⟨{ Recorder.new r.coresize with recordReads := r.recordReads }, ?_,
    Recorder.new_inv _, rfl, rfl, fun a => Recorder.new_view _ a⟩
  simp only [Recorder.report, ht]

theorem Recorder.reports_ok' (len : Int → Option Nat) (rps : List Report) :
    ∀ (r : Recorder), r.Inv → (∀ rp ∈ rps, rp.OK r.coresize.toNat len r.recordReads) →
    ∃ r', rps.foldlM (fun r rp => Recorder.report r len rp) r = .ok r' ∧
      r.StepTo r' (rps.foldl (lastOp r.coresize.toNat len r.recordReads) r.view) := by
  induction rps with
  | nil => intro r h _; exact ⟨r, rfl, r.stepTo_refl h⟩
  | cons rp rps ih =>
    intro r h hall
    obtain ⟨r1, e1, inv1, cs1, rr1, v1⟩ := r.report_ok' len rp h (hall rp (by simp))
    obtain ⟨r2, e2, inv2, cs2, rr2, v2⟩ := ih r1 inv1 (fun q hq => by
      rw [cs1, rr1]; exact hall q (by simp [hq]))
    refine ⟨r2, ?_, inv2, cs2.trans cs1, rr2.trans rr1, fun a => ?_⟩
    · simp only [List.foldlM_cons, e1]; exact e2
    · rw [v2 a, cs1, rr1, List.foldl_cons]
      have : r1.view = lastOp r.coresize.toNat len r.recordReads r.view rp := funext v1
      rw [this]

theorem Recorder.reports_ok (r : Recorder) (len : Int → Option Nat) (rps : List Report)
    (h : r.Inv) (hpos : 0 < r.coresize.toNat)
    (hall : ∀ rp ∈ rps, rp.addr < r.coresize ∧
      (rp.typ = .warriorSpawn → ∃ n, len rp.wi = some n ∧ rp.addr.toNat + n ≤ 2 ^ 64)) :
    ∃ r', rps.foldlM (fun r rp => Recorder.report r len rp) r = .ok r' ∧ r'.Inv ∧
      r'.coresize = r.coresize ∧ r'.recordReads = r.recordReads ∧
      ∀ a < r.coresize.toNat,
        (r'.state.getD a .empty, r'.color.getD a (-1)) =
          rps.foldl (lastOp r.coresize.toNat len r.recordReads)
            (fun a => (r.state.getD a .empty, r.color.getD a (-1))) a := by
  obtain ⟨r', e, inv, cs, rr, v⟩ := Recorder.reports_ok' len rps r h
    (fun rp hrp => Report.OK.of_lt hpos (hall rp hrp).1 (hall rp hrp).2)
  exact ⟨r', e, inv, cs, rr, fun a _ => v a⟩

theorem Recorder.reports_ok_small (r : Recorder) (len : Int → Option Nat) (rps : List Report)
    (h : r.Inv) (hpos : 0 < r.coresize.toNat) (hsmall : r.coresize.toNat ≤ 2 ^ 63)
    (hall : ∀ rp ∈ rps, rp.addr < r.coresize ∧
      (rp.typ = .warriorSpawn → ∃ n, len rp.wi = some n ∧ n ≤ 2 ^ 63)) :
    ∃ r', rps.foldlM (fun r rp => Recorder.report r len rp) r = .ok r' ∧ r'.Inv ∧
      r'.coresize = r.coresize ∧ r'.recordReads = r.recordReads ∧
      ∀ a < r.coresize.toNat,
        (r'.state.getD a .empty, r'.color.getD a (-1)) =
          rps.foldl (lastOp r.coresize.toNat len r.recordReads)
            (fun a => (r.state.getD a .empty, r.color.getD a (-1))) a := by
  refine Recorder.reports_ok r len rps h hpos (fun rp hrp => ?_)
  obtain ⟨ha, hspawn⟩ := hall rp hrp
  refine ⟨ha, fun ht => ?_⟩
  obtain ⟨n, hn, hle⟩ := hspawn ht
  have ha' : rp.addr.toNat < r.coresize.toNat := UInt64.lt_iff_toNat_lt.mp ha
  exact ⟨n, hn, by omega⟩

end Gmars
