/-
  Limit folding in the model: the UInt64 computation of sim.go agrees with the reference
  `Spec.fold` on naturals (no wrap because limits ≤ M), hence its range.
-/
import Gmars.Model.Sim
import Gmars.Proofs.SpecFold

namespace Gmars

def foldU (p L m : UInt64) : UInt64 :=
  let res := p % L
  if res > L / 2 then res + (m - L) else res

theorem Sim.readFold_eq (s : Sim) (p : UInt64) : s.readFold p = foldU p s.readLimit s.m := rfl
theorem Sim.writeFold_eq (s : Sim) (p : UInt64) : s.writeFold p = foldU p s.writeLimit s.m := rfl

theorem foldU_toNat (p L m : UInt64) (hL : 0 < L.toNat) (hLM : L.toNat ≤ m.toNat) :
    (foldU p L m).toNat = Spec.fold p.toNat L.toNat m.toNat := by
  -- `res < L ≤ m`, so `res + (m - L) < m < 2^64`: neither the subtraction nor the addition wraps
  unfold foldU Spec.fold
  have hlt : p.toNat % L.toNat < L.toNat := Nat.mod_lt _ hL
  have hm : m.toNat < 2 ^ 64 := m.toNat_lt
  have hsub : (m - L).toNat = m.toNat - L.toNat := UInt64.toNat_sub_of_le _ _ (UInt64.le_iff_toNat_le.mpr hLM)
  simp only [GT.gt, UInt64.lt_iff_toNat_lt, UInt64.toNat_div, UInt64.toNat_mod, UInt64.toNat_ofNat]
  split
  · rename_i h
    rw [UInt64.toNat_add, hsub, UInt64.toNat_mod]
    rw [Nat.mod_eq_of_lt (by omega)]
    omega
  · simp [UInt64.toNat_mod]

theorem foldU_lt (p L m : UInt64) (hL : 0 < L.toNat) (hLM : L.toNat ≤ m.toNat) : foldU p L m < m := by
  rw [UInt64.lt_iff_toNat_lt, foldU_toNat p L m hL hLM]
  exact Spec.fold_lt _ _ _ hL hLM

end Gmars
