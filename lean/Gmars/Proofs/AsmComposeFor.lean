/-
  C03 / C08: FOR/ROF blocks assemble to the MEANING of their manual unrolling.  `FProg` is a
  structured program (label-free instructions and FOR blocks, nested and sequential; a count is a
  number literal or the counter of an enclosing block; counters are used in operand expressions), read
  by the reference as `Spec.Item.for_` nodes (`toItems`) and by gmars as tokens (`toProg`).  Its manual
  unrolling (`FUnroll`; `AsmComposeAll.BUnroll` when EQUs stand in front and a count may be the name
  of an EQU with a literal value) is what the pass loop produces (`gunroll_of_BUnroll`, then
  `for_unroll_all`) and what `Spec.unroll` produces (`unr_of_BUnroll`); both are proved for
  `BUnroll`, `FUnroll` is the case of literal counts (`FUnroll.toB`).

  The count of a FOR line when EQU symbols are defined in front of it (`eval_count_lit`,
  `eval_count_name`): `ExpandAndEvaluate(count, symbols)` first checks the WHOLE symbol table for
  cycles and resolves EVERY symbol (so a cyclic table in front of a FOR line is an error whatever
  the count is), then replaces the names in the count and evaluates.

  Counter values: the expander writes iteration i as the number token `%d` of i ("1", "2", …; not
  pMARS' two-digit "01"), the reference substitutes `.num i`; the token of `.num i` is that token.
  Concatenation `&` is out of scope.

  Scope: every line outside the FOR / ROF lines is an instruction WITHOUT labels, so after the
  unrolling no names are left (`FProg.Closed []`: every name is the counter of an enclosing block);
  no ORG / END / EQU / comment / blank lines; `for` and `rof` in lower case.
  `U.length + k < 100000` is the fuel of `Spec.unroll`.

  A necessary side condition (see the end of `AsmComposeForExample.lean`):
    * no shadowing (`FProg.OK`: the counter of a block is not the counter of a block inside it): on
          i for 2 / i for 2 / dat i / rof / rof
      the expander turns the inner header into `1 for 2` in the first pass (`assemble = .err`),
      the reference substitutes the inner body only (`Spec.meaning` = four DATs).
-/
import Gmars.Proofs.AsmComposeForTok
import Gmars.Proofs.AsmComposeForSpec

namespace Gmars
namespace AsmComposeAll
open Gmars.ExprProofs Gmars.AsmLine

theorem iterT_numTok (V : SymTab) (k m : Nat) : iterT V k [numTok m] = [numTok m] := by
  apply iterT_keyfree
  intro t ht htx
  rw [List.mem_singleton.1 ht] at htx
  simp [numTok] at htx

theorem eval_count_lit (V : SymTab) (hc : graphContainsCycle (buildReferenceGraph V) = false)
    (m : Nat) (h : m < 2 ^ 31) : expandAndEvaluate [numTok m] V = .ok (m : Int) := by
  obtain ⟨resolved, hres, _⟩ := Compile.expandExpressions_full hc
  unfold expandAndEvaluate
  simp only [hc, Bool.false_eq_true, ↓reduceIte, hres]
  have ht : ((numTok m).typ == TokType.text) = false := rfl
  simp only [List.flatMap_cons, List.flatMap_nil, List.append_nil, ht, Bool.false_eq_true,
    ↓reduceIte]
  exact evaluate_numTok m h

theorem eval_count_name (V : SymTab) (hc : graphContainsCycle (buildReferenceGraph V) = false)
    (n : String) (m : Nat) (hget : V.get? n = some [numTok m]) (h : m < 2 ^ 31) :
    expandAndEvaluate [(⟨.text, n⟩ : Token)] V = .ok (m : Int) := by
  obtain ⟨resolved, hres, hall⟩ := Compile.expandExpressions_full hc
  unfold expandAndEvaluate
  simp only [hc, Bool.false_eq_true, ↓reduceIte, hres]
  have hr : resolved.get? n = some [numTok m] := by
    rw [hall n, hget, Option.map_some, iterT_numTok]
  simp only [List.flatMap_cons, List.flatMap_nil, List.append_nil, beq_self_eq_true, ↓reduceIte, hr]
  exact evaluate_numTok m h

theorem etab_get?_append_left {Q R : ETab} {k : String} {v : List Spec.ETok}
    (h : Q.get? k = some v) : (Q ++ R).get? k = some v := by
  unfold ETab.get? at *
  rw [List.find?_append]
  cases hf : Q.find? (·.1 == k) with
  | none => rw [hf] at h; cases h
  | some x => rw [hf] at h; simpa using h

theorem eranked_prefix {Q R : ETab} {d : String → Nat} (h : ERanked (Q ++ R) d) : ERanked Q d := by
  intro k v hkv s hs hsome
  refine h k v (etab_get?_append_left hkv) s hs ?_
  cases hq : Q.get? s with
  | none => rw [hq] at hsome; cases hsome
  | some w => rw [etab_get?_append_left hq]; rfl

theorem acyclic_prefix {Q R : ETab} {d : String → Nat} (hr : ERanked (Q ++ R) d)
    (hnd : (Q.map (·.1)).Nodup) :
    graphContainsCycle (buildReferenceGraph (Q.map rendEqu)) = false :=
  acyclic_of_tranked (by rw [rendEqu_keys]; exact hnd)
    (ERanked.tranked (tabRel_rend Q) (eranked_prefix hr))

end AsmComposeAll
end Gmars

namespace Gmars
namespace AsmComposeFor
open Gmars.AsmCompose Gmars.Render Gmars.AsmLine Gmars.ExprProofs Gmars.ForPass Gmars.Spec

def substCtr (c : String) (i : Nat) : NT → NT
  | .num n => .num n
  | .name s => if s = c then .num i else .name s
  | .signs ss e => .signs ss (substCtr c i e)
  | .paren e => .paren (substCtr c i e)
  | .bin op l r => .bin op (substCtr c i l) (substCtr c i r)

theorem substC_of_not_text (c : String) (i : Nat) (t : Token) (h : t.typ ≠ .text) :
    substC c i t = t := by
  simp [substC, h]

theorem substC_text (c : String) (i : Nat) (s : String) :
    substC c i ⟨.text, s⟩ = if s = c then ExprProofs.numTok i else ⟨.text, s⟩ := by
  unfold substC
  by_cases h : s = c <;> simp [h] <;> rfl

theorem substC_text_ne (c : String) (i : Nat) (s : String) (h : s ≠ c) :
    substC c i ⟨.text, s⟩ = ⟨.text, s⟩ := by
  rw [substC_text, if_neg h]

theorem map_substC_of_not_text (c : String) (i : Nat) (ts : List Token)
    (h : ∀ t ∈ ts, t.typ ≠ .text) : ts.map (substC c i) = ts :=
  (List.map_congr_left fun t ht => substC_of_not_text c i t (h t ht)).trans (List.map_id ts)

theorem substCtr_tokens (c : String) (i : Nat) (e : NT) :
    (substCtr c i e).tokens = e.tokens.map (substC c i) := by
  induction e with
  | num n => rfl
  | name s =>
    simp only [substCtr, NT.tokens, List.map_cons, List.map_nil, textTok, substC_text]
    split <;> rfl
  | signs ss e ih =>
    simp only [substCtr, NT.tokens, List.map_append, ih,
      map_substC_of_not_text c i _ (signToks_notext ss)]
  | paren e ih => simp [substCtr, NT.tokens, ih, substC, lpTok, rpTok]
  | bin op l r ihl ihr => simp [substCtr, NT.tokens, ihl, ihr, substC, opTok]

theorem substName_append (n : String) (v a b : List ETok) :
    substName n v (a ++ b) = substName n v a ++ substName n v b := by
  simp [substName]

theorem substName_cons (n : String) (v : List ETok) (t : ETok) (r : List ETok) :
    substName n v (t :: r) = (if t = .name n then v else [t]) ++ substName n v r := by
  simp [substName]

theorem substName_ops (n : String) (v : List ETok) (ss : List Bool) :
    substName n v (ss.map (fun s => ETok.op (signStr s))) = ss.map (fun s => ETok.op (signStr s)) := by
  induction ss with
  | nil => rfl
  | cons s r ih => simp [substName_cons, ih]

theorem substCtr_etoks (c : String) (i : Nat) (e : NT) :
    (substCtr c i e).etoks = substName c [.num i] e.etoks := by
  induction e with
  | num n => rfl
  | name s => by_cases h : s = c <;> simp [substCtr, NT.etoks, substName, h]
  | signs ss e ih => simp only [substCtr, NT.etoks, substName_append, substName_ops, ih]
  | paren e ih => simp [substCtr, NT.etoks, ih, substName]
  | bin op l r ihl ihr =>
    simp [substCtr, NT.etoks, substName_cons, substName_append, ihl, ihr]

theorem substCtr_lexOK (c : String) (i : Nat) (e : NT) (h : NTLexOK e) : NTLexOK (substCtr c i e) := by
  induction e with
  | num n => trivial
  | name s =>
    unfold substCtr
    split
    · trivial
    · exact h
  | signs ss e ih => exact ih h
  | paren e ih => exact ih h
  | bin op l r ihl ihr => exact ⟨h.1, ihl h.2.1, ihr h.2.2⟩

theorem substCtr_names (c : String) (i : Nat) (e : NT) :
    (substCtr c i e).names = e.names.filter (fun s => s != c) := by
  induction e with
  | num n => rfl
  | name s => by_cases h : s = c <;> simp [substCtr, NT.names, h]
  | signs ss e ih => simpa [substCtr, NT.names] using ih
  | paren e ih => simpa [substCtr, NT.names] using ih
  | bin op l r ihl ihr => simp [substCtr, NT.names, ihl, ihr]

theorem nt_tokens_inLine (e : NT) : ∀ t ∈ e.tokens, InLine t := by
  induction e with
  | num n => exact List.forall_mem_singleton.2 (by simp [InLine, ExprProofs.numTok])
  | name s => exact List.forall_mem_singleton.2 (inLine_of_text rfl)
  | signs ss e ih =>
    exact List.forall_mem_append.2 ⟨List.forall_mem_map.2 fun s _ => by simp [InLine, signTok], ih⟩
  | paren e ih =>
    exact List.forall_mem_cons.2 ⟨by simp [InLine, lpTok],
      List.forall_mem_append.2 ⟨ih, List.forall_mem_singleton.2 (by simp [InLine, rpTok])⟩⟩
  | bin op l r ihl ihr =>
    exact List.forall_mem_append.2 ⟨ihl, List.forall_mem_cons.2 ⟨by simp [InLine, opTok], ihr⟩⟩

def LOperand.subst (c : String) (i : Nat) (o : LOperand) : LOperand :=
  { mode := o.mode, expr := substCtr c i o.expr }

def FInstr.subst (c : String) (i : Nat) (x : FInstr) : FInstr :=
  { op := x.op, md := x.md, a := LOperand.subst c i x.a, b := x.b.map (LOperand.subst c i) }

theorem operandToks_subst (c : String) (i : Nat) (o : LOperand) :
    operandToks (LOperand.subst c i o) = (operandToks o).map (substC c i) := by
  unfold operandToks LOperand.subst
  simp only [List.map_append, substCtr_tokens]
  congr 1
  cases o.mode with
  | none => rfl
  | some m => simp only [List.map_cons, List.map_nil]; rw [substC_of_not_text _ _ _ (by simp)]

theorem bToks_subst (c : String) (i : Nat) (b : Option LOperand) :
    bToks (b.map (LOperand.subst c i)) = (bToks b).map (substC c i) := by
  cases b with
  | none => rfl
  | some bo =>
    simp only [Option.map_some, bToks, List.map_cons, operandToks_subst]
    rw [substC_of_not_text _ _ commaTok (by simp [commaTok])]

theorem FInstr.line_subst (c : String) (i : Nat) (x : FInstr) (h : opString x.op x.md ≠ c) :
    (x.subst c i).line = x.line.subst c i := by
  unfold FInstr.line Line.subst FInstr.subst
  simp only [List.map_cons, List.map_append, operandToks_subst, bToks_subst, substC_text_ne c i _ h]
  rw [substC_of_not_text c i nlTok (by simp [nlTok])]

theorem LOperand.toP_subst (c : String) (i : Nat) (o : LOperand) :
    (LOperand.subst c i o).toP = substOperand c [.num i] o.toP := by
  simp [LOperand.toP, LOperand.subst, substOperand, substCtr_etoks]

theorem FInstr.toItem_subst (c : String) (i : Nat) (x : FInstr) :
    (x.subst c i).toItem = substItem c [.num i] x.toItem := by
  unfold FInstr.toItem FInstr.toL FInstr.subst
  simp only [LItem.toItem]
  rw [substItem, LOperand.toP_subst]
  congr 1
  cases x.b with
  | none => rfl
  | some bo => simp [LOperand.toP_subst]

theorem FInstr.lexOK_subst (c : String) (i : Nat) (x : FInstr) (h : x.LexOK) :
    (x.subst c i).LexOK := by
  obtain ⟨h1, h2, h3, h4⟩ := h
  refine ⟨h1, h2, substCtr_lexOK c i _ h3, ?_⟩
  intro bo hbo
  simp only [FInstr.subst, Option.map_eq_some_iff] at hbo
  obtain ⟨b0, hb0, rfl⟩ := hbo
  exact substCtr_lexOK c i _ (h4 b0 hb0)

theorem FInstr.names_subst (c : String) (i : Nat) (x : FInstr) :
    (x.subst c i).names = x.names.filter (fun s => s != c) := by
  obtain ⟨op, md, a, b⟩ := x
  cases b <;>
    simp [FInstr.names, FInstr.toL, FInstr.subst, LItemNames, LOperand.subst, substCtr_names]

theorem FInstr.simpleLine (x : FInstr) (hop : x.OpOK) : SimpleLine x.line := by
  have hoperand : ∀ o : LOperand, ∀ t ∈ operandToks o, InLine t := by
    intro o
    unfold operandToks
    cases o.mode with
    | none => exact nt_tokens_inLine _
    | some m => exact List.forall_mem_cons.2 ⟨by simp [InLine], nt_tokens_inLine _⟩
  refine ⟨⟨rfl, List.forall_mem_cons.2 ⟨inLine_of_text rfl, List.forall_mem_append.2
    ⟨hoperand _, ?_⟩⟩⟩, ⟨.text, opString x.op x.md⟩, _, rfl, rfl, hop.1, hop.2⟩
  cases x.b with
  | none => intro t ht; cases ht
  | some bo => exact List.forall_mem_cons.2 ⟨by simp [InLine, commaTok], hoperand bo⟩

/-- the count of a FOR block: a number literal or a name (the counter of an enclosing block; for
    `BUnroll` also an EQU defined in front) -/
inductive Cnt
  | lit (m : Nat)
  | ctr (s : String)

def Cnt.subst (c : String) (i : Nat) : Cnt → Cnt
  | .lit m => .lit m
  | .ctr s => if s = c then .lit i else .ctr s

instance (n : Cnt) (P : String → Prop) [DecidablePred P] : Decidable (∀ s, n = .ctr s → P s) :=
  match n with
  | .lit _ => isTrue nofun
  | .ctr s => decidable_of_iff (P s) ⟨fun h _ e => Cnt.ctr.inj e ▸ h, fun h => h s rfl⟩

def Cnt.tok : Cnt → Token
  | .lit m => ExprProofs.numTok m
  | .ctr s => ⟨.text, s⟩

def Cnt.etoks : Cnt → List ETok
  | .lit m => [.num m]
  | .ctr s => [.name s]

theorem Cnt.tok_subst (c : String) (i : Nat) (n : Cnt) : (n.subst c i).tok = substC c i n.tok := by
  cases n with
  | lit m =>
    show ExprProofs.numTok m = substC c i (ExprProofs.numTok m)
    rw [substC_of_not_text c i _ (by simp [ExprProofs.numTok])]
  | ctr s =>
    simp only [Cnt.subst, Cnt.tok, substC_text]
    by_cases h : s = c <;> simp [h]

theorem Cnt.etoks_subst (c : String) (i : Nat) (n : Cnt) :
    (n.subst c i).etoks = substName c [.num i] n.etoks := by
  cases n with
  | lit m => rfl
  | ctr s => by_cases h : s = c <;> simp [Cnt.subst, Cnt.etoks, substName, h]

theorem Cnt.subst_ctr {c : String} {i : Nat} {n : Cnt} {s : String} (h : n.subst c i = .ctr s) :
    n = .ctr s ∧ s ≠ c := by
  cases n with
  | lit m => cases h
  | ctr t =>
    by_cases ht : t = c
    · rw [Cnt.subst, if_pos ht] at h; cases h
    · rw [Cnt.subst, if_neg ht] at h; cases h; exact ⟨rfl, ht⟩

theorem Cnt.tok_inLine (n : Cnt) : InLine n.tok := by
  cases n <;> simp [Cnt.tok, InLine, ExprProofs.numTok]

inductive FProg
  | nil
  | instr (x : FInstr) (rest : FProg)
  | block (ctr : String) (cnt : Cnt) (body rest : FProg)

namespace FProg

def subst (c : String) (i : Nat) : FProg → FProg
  | nil => nil
  | instr x r => instr (x.subst c i) (r.subst c i)
  | block ct n body r => block ct (n.subst c i) (body.subst c i) (r.subst c i)

def toItems : FProg → List Spec.Item
  | nil => []
  | instr x r => x.toItem :: r.toItems
  | block ct n body r => .for_ [] ct n.etoks body.toItems :: r.toItems

def forTok : Token := ⟨.text, "for"⟩
def rofLine : Line := { toks := [⟨.text, "rof"⟩], nl := nlTok }

theorem lower_for : lowerStr "for" = "for" := by decide
theorem lower_rof : lowerStr "rof" = "rof" := by decide

def toProg : FProg → ForPass.Prog
  | nil => .nil
  | instr x r => .line x.line r.toProg
  | block ct n body r => .block ⟨.text, ct⟩ forTok n.tok nlTok body.toProg rofLine r.toProg

def ctrs : FProg → List String
  | nil => []
  | instr _ r => r.ctrs
  | block ct _ body r => ct :: (body.ctrs ++ r.ctrs)

/-- the counter of a block is taken for a label (no opcode, no pseudo-op) and is not the counter
    of a block inside the block (no shadowing) -/
def OK : FProg → Prop
  | nil => True
  | instr x r => x.LexOK ∧ x.OpOK ∧ r.OK
  | block ct _ body r => IsLabelName ct ∧ ct ∉ body.ctrs ∧ body.OK ∧ r.OK

instance decOK : (p : FProg) → Decidable p.OK
  | nil => isTrue trivial
  | instr x r =>
    have := decOK r
    inferInstanceAs (Decidable (x.toS.LexOK ∧ IsOpName (opString x.op x.md) ∧ r.OK))
  | block ct _ body r =>
    have := decOK body
    have := decOK r
    inferInstanceAs (Decidable (IsLabelName ct ∧ ct ∉ body.ctrs ∧ body.OK ∧ r.OK))

theorem ctrs_subst (c : String) (i : Nat) (p : FProg) : (p.subst c i).ctrs = p.ctrs := by
  induction p with
  | nil => rfl
  | instr x r ih => simpa [subst, ctrs] using ih
  | block ct n body r ihb ih => simp [subst, ctrs, ihb, ih]

theorem OK_subst (c : String) (i : Nat) (p : FProg) (h : p.OK) : (p.subst c i).OK := by
  induction p with
  | nil => trivial
  | instr x r ih => exact ⟨FInstr.lexOK_subst c i x h.1, h.2.1, ih h.2.2⟩
  | block ct n body r ihb ih =>
    refine ⟨h.1, ?_, ihb h.2.2.1, ih h.2.2.2⟩
    rw [ctrs_subst]; exact h.2.1

theorem toItems_subst (c : String) (i : Nat) (p : FProg) :
    (p.subst c i).toItems = substItems c [.num i] p.toItems := by
  induction p with
  | nil => rfl
  | instr x r ih =>
    simp only [subst, toItems]
    rw [substItems, FInstr.toItem_subst, ih]
  | block ct n body r ihb ih =>
    simp only [subst, toItems]
    rw [substItems, substItem, Cnt.etoks_subst, ihb, ih]

theorem ne_of_label_op {c s : String} (hc : IsLabelName c) (hs : (⟨.text, s⟩ : Token).isOp = true) :
    s ≠ c := by
  intro h
  subst h
  unfold IsLabelName at hc
  rw [hc] at hs
  cases hs

/-- a counter is a label word, `for` and `rof` are not: the substitution leaves them alone -/
theorem substC_forTok {c : String} (i : Nat) (hc : IsLabelName c) : substC c i forTok = forTok :=
  substC_text_ne c i "for"
    (ne_of_label_op hc (isOp_of_isPseudoOp rfl (isPseudoOp_of_lower_for lower_for)))

theorem rofLine_subst {c : String} (i : Nat) (hc : IsLabelName c) :
    rofLine.subst c i = rofLine := by
  unfold Line.subst rofLine
  simp only [List.map_cons, List.map_nil]
  rw [substC_text_ne c i "rof"
      (ne_of_label_op hc (isOp_of_isPseudoOp rfl (isPseudoOp_of_lower_rof lower_rof))),
    substC_of_not_text c i nlTok (by simp [nlTok])]

theorem toProg_subst (c : String) (i : Nat) (hc : IsLabelName c) (p : FProg) (h : p.OK)
    (hn : c ∉ p.ctrs) : (p.subst c i).toProg = p.toProg.subst c i := by
  induction p with
  | nil => rfl
  | instr x r ih =>
    simp only [subst, toProg, Prog.subst]
    rw [FInstr.line_subst c i x (ne_of_label_op hc h.2.1.1), ih h.2.2 hn]
  | block ct n body r ihb ih =>
    simp only [ctrs, List.mem_cons, List.mem_append, not_or] at hn
    simp only [subst, toProg, Prog.subst]
    rw [ihb h.2.2.1 hn.2.1, ih h.2.2.2 hn.2.2, Cnt.tok_subst,
      substC_text_ne c i ct (fun e => hn.1 e.symm),
      substC_of_not_text c i nlTok (by simp [nlTok])]
    rw [substC_forTok i hc, rofLine_subst i hc]

theorem headerOK (ct : String) (n : Cnt) (h : IsLabelName ct) :
    HeaderOK ⟨.text, ct⟩ forTok n.tok nlTok := by
  refine ⟨?_, rfl, lower_for, n.tok_inLine, rfl⟩
  unfold IsLabelName at h
  simp [isLabelTok, h]

theorem rofOK : RofOK rofLine :=
  ⟨⟨rfl, by decide⟩, ⟨.text, "rof"⟩, [], rfl, rfl, lower_rof⟩

theorem shape (p : FProg) (h : p.OK) : p.toProg.Shape := by
  induction p with
  | nil => trivial
  | instr x r ih => exact ⟨x.simpleLine h.2.1, ih h.2.2⟩
  | block ct n body r ihb ih => exact ⟨headerOK ct n h.1, rofOK, ihb h.2.2.1, ih h.2.2.2⟩

def Closed : List String → FProg → Prop
  | _, nil => True
  | env, instr x r => (∀ s ∈ x.names, s ∈ env) ∧ r.Closed env
  | env, block ct n body r =>
    (∀ s, n = .ctr s → s ∈ env) ∧ body.Closed (ct :: env) ∧ r.Closed env

instance decClosed : (env : List String) → (p : FProg) → Decidable (p.Closed env)
  | _, nil => isTrue trivial
  | env, instr x r =>
    have := decClosed env r
    inferInstanceAs (Decidable ((∀ s ∈ x.names, s ∈ env) ∧ r.Closed env))
  | env, block ct n body r =>
    have := decClosed (ct :: env) body
    have := decClosed env r
    inferInstanceAs (Decidable ((∀ s, n = .ctr s → s ∈ env) ∧ body.Closed (ct :: env) ∧
      r.Closed env))

theorem closed_subst (c : String) (i : Nat) (p : FProg) :
    ∀ (env env' : List String), p.Closed env → (∀ s ∈ env, s = c ∨ s ∈ env') →
      (p.subst c i).Closed env' := by
  induction p with
  | nil => intro _ _ _ _; trivial
  | instr x r ih =>
    intro env env' h he
    refine ⟨fun s hs => ?_, ih env env' h.2 he⟩
    rw [FInstr.names_subst, List.mem_filter, bne_iff_ne] at hs
    exact (he s (h.1 s hs.1)).resolve_left hs.2
  | block ct n body r ihb ih =>
    intro env env' h he
    refine ⟨fun s hs => ?_, ihb (ct :: env) (ct :: env') h.2.1 fun s hs => ?_, ih env env' h.2.2 he⟩
    · obtain ⟨h1, h2⟩ := Cnt.subst_ctr hs
      exact (he s (h.1 s h1)).resolve_left h2
    · rcases List.mem_cons.1 hs with rfl | hs
      · exact Or.inr (List.mem_cons_self ..)
      · exact (he s hs).imp_right (List.mem_cons_of_mem _)

end FProg

/-- `FUnroll p U k`: the manual unrolling of `p` is the instruction list `U`, and it takes `k` block
    expansions.  A block whose count is the literal `m` is replaced by the unrollings of the `m`
    copies of its body with the counter replaced by 1 … m (in the copies the counts of inner blocks
    that named the counter have become literals). -/
inductive FUnroll : FProg → List FInstr → Nat → Prop
  | nil : FUnroll .nil [] 0
  | instr {x : FInstr} {r : FProg} {U : List FInstr} {k : Nat} :
      FUnroll r U k → FUnroll (.instr x r) (x :: U) k
  | block {c : String} {body r : FProg} {U : List FInstr} {k : Nat}
      (m : Nat) (L : Nat → List FInstr) (K : Nat → Nat) :
      m < 2 ^ 31 →
      (∀ j, j < m → FUnroll (body.subst c (j + 1)) (L j) (K j)) →
      FUnroll r U k →
      FUnroll (.block c (.lit m) body r)
        ((List.range m).flatMap L ++ U) (1 + ((List.range m).map K).sum + k)

theorem FUnroll.cast {p : FProg} {U U' : List FInstr} {k k' : Nat} (h : FUnroll p U k)
    (e1 : U = U') (e2 : k = k') : FUnroll p U' k' := by
  subst e1; subst e2; exact h

theorem FUnroll.names_nil {p : FProg} {U : List FInstr} {k : Nat} (h : FUnroll p U k) :
    p.Closed [] → ∀ x ∈ U, x.names = [] := by
  induction h with
  | nil => intro _ x hx; cases hx
  | instr _ ih =>
    exact fun hc => List.forall_mem_cons.2
      ⟨List.eq_nil_iff_forall_not_mem.2 (fun s hs => by cases hc.1 s hs), ih hc.2⟩
  | @block c body r U k m L K _ _ _ ihb ih =>
    refine fun hc => List.forall_mem_append.2 ⟨fun x hx => ?_, ih hc.2.2⟩
    obtain ⟨j, hj, hxj⟩ := List.mem_flatMap.1 hx
    exact ihb j (List.mem_range.1 hj)
      (FProg.closed_subst c (j + 1) body [c] [] hc.2.1 fun s hs => Or.inl (List.mem_singleton.1 hs))
      x hxj

end AsmComposeFor

namespace AsmComposeAll
open Gmars.AsmLine Gmars.Spec Gmars.AsmComposeFor Gmars.ForPass Gmars.Render

def cntValue (eqs : ETab) : Cnt → Option Nat
  | .lit m => some m
  | .ctr s =>
    match eqs.find? (·.1 == s) with
    | some (_, [.num m]) => some m
    | _ => none

theorem cntValue_ctr {eqs : ETab} {s : String} {m : Nat} (h : cntValue eqs (.ctr s) = some m) :
    ∃ n, eqs.find? (·.1 == s) = some (n, [.num m]) := by
  simp only [cntValue] at h
  split at h
  · rename_i n m' heq
    cases h
    exact ⟨n, heq⟩
  · cases h

/-- `BUnroll eqs p U k`: the manual unrolling of the body program `p` is the instruction list `U`,
    with `k` block expansions; `eqs` are the EQU definitions in front -/
inductive BUnroll (eqs : ETab) : FProg → List FInstr → Nat → Prop
  | nil : BUnroll eqs .nil [] 0
  | instr {x : FInstr} {r : FProg} {U : List FInstr} {k : Nat} :
      BUnroll eqs r U k → BUnroll eqs (.instr x r) (x :: U) k
  | block {c : String} {cnt : Cnt} {body r : FProg} {U : List FInstr} {k : Nat}
      (m : Nat) (L : Nat → List FInstr) (K : Nat → Nat) :
      cntValue eqs cnt = some m → m < 2 ^ 31 →
      (∀ j, j < m → BUnroll eqs (body.subst c (j + 1)) (L j) (K j)) →
      BUnroll eqs r U k →
      BUnroll eqs (.block c cnt body r)
        ((List.range m).flatMap L ++ U) (1 + ((List.range m).map K).sum + k)

theorem equsOf_instrs (U : List FInstr) : equsOf (U.map FInstr.toItem) = [] := by
  simp [equsOf, FInstr.toItem, FInstr.toL, LItem.toItem]

theorem expandEqus_cnt {eqs : ETab} {cnt : Cnt} {m : Nat} (h : cntValue eqs cnt = some m) :
    expandEqus 64 eqs cnt.etoks = some [.num m] := by
  cases cnt with
  | lit n =>
    cases h
    exact expandEqus_num 63 eqs m
  | ctr s =>
    obtain ⟨n, hf⟩ := cntValue_ctr h
    have h1 : expandEqus 64 eqs [.name s] = expandEqus 63 eqs [.num m] := by
      rw [expandEqus]
      simp [hf]
    exact h1.trans (expandEqus_num 62 eqs m)

theorem unr_of_BUnroll {eqs : ETab} {p : FProg} {U : List FInstr} {k : Nat}
    (h : BUnroll eqs p U k) : Unr eqs p.toItems (U.map FInstr.toItem) k := by
  induction h with
  | nil => exact .nil eqs
  | @instr x r U k _ ih =>
    exact .other rfl (by rwa [show equsOf [x.toItem] = [] from equsOf_instrs [x], List.append_nil])
  | @block c cnt body r U k m L K hcnt hm _ _ ihb ih =>
    have hX := Unr.flatMap (fun j => substItems c [.num (j + 1)] body.toItems)
      (fun j => (L j).map FInstr.toItem) K (List.range m)
      (fun j hj => FProg.toItems_subst c (j + 1) body ▸ ihb j (List.mem_range.1 hj))
      (fun j _ => equsOf_instrs (L j))
    have := Unr.block (labels := []) (n := m) (expandEqus_cnt hcnt)
      ((ExprProofs.evalInt_num m).trans (if_pos hm)) (by omega) (by rwa [Int.toNat_natCast])
      (by rw [attachLabels_nil, ← List.map_flatMap, equsOf_instrs, List.append_nil]; exact ih)
    simpa only [FProg.toItems, attachLabels_nil, ← List.map_flatMap, ← List.map_append] using this

theorem BUnroll.instrs_ok {eqs : ETab} {p : FProg} {U : List FInstr} {k : Nat}
    (h : BUnroll eqs p U k) : p.OK → ∀ x ∈ U, x.LexOK ∧ x.OpOK := by
  induction h with
  | nil => intro _ x hx; cases hx
  | instr _ ih => exact fun hok => List.forall_mem_cons.2 ⟨⟨hok.1, hok.2.1⟩, ih hok.2.2⟩
  | block m L K _ _ _ _ ihb ih =>
    refine fun hok => List.forall_mem_append.2 ⟨fun x hx => ?_, ih hok.2.2.2⟩
    obtain ⟨j, hj, hxj⟩ := List.mem_flatMap.1 hx
    exact ihb j (List.mem_range.1 hj) (FProg.OK_subst _ _ _ hok.2.2.1) x hxj

theorem eval_cnt {eqs : ETab} (hac : graphContainsCycle (buildReferenceGraph (eqs.map rendEqu)) = false)
    {cnt : Cnt} {m : Nat} (h : cntValue eqs cnt = some m) (hm : m < 2 ^ 31) :
    expandAndEvaluate (exprToks [cnt.tok]) (eqs.map rendEqu) = .ok (m : Int) := by
  cases cnt with
  | lit n =>
    simp only [cntValue, Option.some.injEq] at h
    subst h
    rw [exprToks_single _ (by simp [Cnt.tok, ExprProofs.numTok])]
    exact eval_count_lit _ hac n hm
  | ctr s =>
    obtain ⟨n, hf⟩ := cntValue_ctr h
    rw [exprToks_single _ (by simp [Cnt.tok])]
    have hget : SymTab.get? (eqs.map rendEqu) s = some [ExprProofs.numTok m] := by
      rw [tabRel_rend eqs s]
      unfold ETab.get?
      rw [hf]
      rfl
    exact eval_count_name _ hac s m hget hm

theorem gunroll_of_BUnroll {eqs : ETab} (hnd : (eqs.map (·.1)).Nodup)
    (hac : graphContainsCycle (buildReferenceGraph (eqs.map rendEqu)) = false)
    {p : FProg} {U : List FInstr} {k : Nat} (h : BUnroll eqs p U k) :
    p.OK → GUnroll (eqs.map rendEqu) (embed p.toProg) (flat (U.map FInstr.line)) k := by
  have hV : ((eqs.map rendEqu).map (·.1)).Nodup := by rw [rendEqu_keys]; exact hnd
  induction h with
  | nil => intro _; exact GUnroll.nil _
  | @instr x r U k _ ih =>
    intro hok
    have hs := x.simpleLine hok.2.1
    have hrec : GUnroll (eqs.map rendEqu ++ []) (embed r.toProg) (flat (U.map FInstr.line)) k := by
      rw [List.append_nil]; exact ih hok.2.2
    have := GUnroll.chunk (chunk_simple hs) (chunk_simple hs) (fresh_nil _ hV) hrec
    refine this.cast ?_ rfl
    simp
  | @block c cnt body r U k m L K hcnt hm _ _ ihb ih =>
    intro hok
    have hcopies : ∀ j, j < m →
        GUnroll (eqs.map rendEqu) (embed (body.toProg.subst (⟨.text, c⟩ : Token).val (j + 1)))
          (flat ((L j).map FInstr.line)) (K j) := by
      intro j hj
      have := ihb j hj (FProg.OK_subst _ _ _ hok.2.2.1)
      rw [FProg.toProg_subst c (j + 1) hok.1 body hok.2.2.1 hok.2.1] at this
      exact this
    have := GUnroll.block (c := ⟨.text, c⟩) (f := FProg.forTok) (n := cnt.tok) (nl := nlTok)
      (rof := FProg.rofLine) m (fun j => flat ((L j).map FInstr.line)) K
      (FProg.headerOK c cnt hok.1) (eval_cnt hac hcnt hm) FProg.rofOK
      (FProg.shape body hok.2.2.1) hcopies (ih hok.2.2.2)
    refine this.cast ?_ rfl
    simp [List.map_flatMap, flat_append, flat_flatMap]

end AsmComposeAll

namespace AsmComposeFor
open Gmars.AsmCompose Gmars.AsmLine Gmars.ForPass

theorem FUnroll.toB {p : FProg} {U : List FInstr} {k : Nat} (h : FUnroll p U k) (eqs : ETab) :
    AsmComposeAll.BUnroll eqs p U k := by
  induction h with
  | nil => exact .nil
  | instr _ ih => exact .instr ih
  | block m L K hm _ _ ihb ih => exact .block m L K rfl hm ihb ih

theorem unr_of_FUnroll {p : FProg} {U : List FInstr} {k : Nat} (h : FUnroll p U k) :
    Unr [] p.toItems (U.map FInstr.toItem) k :=
  AsmComposeAll.unr_of_BUnroll (h.toB [])

theorem spec_unroll {p : FProg} {U : List FInstr} {k : Nat} (h : FUnroll p U k)
    (hf : U.length + k < 100000) : Spec.unroll p.toItems = some (U.map FInstr.toItem) :=
  (unr_of_FUnroll h).unroll (by rwa [List.length_map])

theorem spec_expansions {p : FProg} {U : List FInstr} {k : Nat} (h : FUnroll p U k)
    (hf : U.length + k < 100000) : Spec.expansions p.toItems = k :=
  (unr_of_FUnroll h).expansions (by rwa [List.length_map])

/-- `for_unroll_all` without EQUs, nothing in front and nothing behind -/
theorem forLoop_FUnroll {p : FProg} {U : List FInstr} {k : Nat} (h : FUnroll p U k) (hok : p.OK) :
    forLoop 14 0 (flat p.toProg.render ++ [ForPass.eofTok]) =
      if k ≤ 12 then .ok (flat (U.map FInstr.line) ++ [ForPass.eofTok]) else .error .err := by
  have := AsmComposeAll.for_unroll_all _ _ k
    (AsmComposeAll.gunroll_of_BUnroll (eqs := []) List.nodup_nil rfl (h.toB []) hok) []
    (fun _ h => by cases h) AsmComposeAll.tail_nil_scan
  rwa [AsmComposeAll.progToks_embed, List.append_nil, List.append_nil] at this

/-- C03 ∘ C08, token level.  `fp` is a structured program:
    label-free instructions and label-free FOR blocks, sequential and nested to any depth, whose
    counts are number literals or counters of enclosing blocks and whose operand expressions may
    use the counters (`fp.OK`: instructions lexically well-formed with an opcode word first,
    counters are label words, no shadowing).  If its manual unrolling `U` (`FUnroll fp U k`) takes
    `k ≤ 12` block expansions, then `CompileWarrior` behind the lexer — FOR pass loop, parser,
    compiler — returns on the tokens of `fp` (`ctr for count` / body / `rof`) exactly the reference
    meaning `Spec.meaning` of the item program with its `Spec.Item.for_` nodes, or rejects exactly
    when the reference does.

    Side conditions on the unrolled program `U`, as in `compile_meaning_labels`: valid
    configuration, core size below 2^63, `ProgWF` (well-formed operand expressions).
    `fp.Closed []`: every name used in an operand or as a count is the counter of an enclosing
    block (there are no labels to refer to).  `U.length + k < 100000` is the fuel of the
    reference's `Spec.unroll`. -/
theorem assemble_meaning_for_tokens (cfg : Config) (sc : Spec.Cfg) (fp : FProg)
    (U : List FInstr) (k : Nat) (hu : FUnroll fp U k) (hk : k ≤ 12) (hok : fp.OK)
    (hfuel : U.length + k < 100000)
    (hv : cfg.validate = true) (h63 : cfg.coreSize.toNat < 2 ^ 63) (hr : CfgRel cfg sc)
    (hclosed : fp.Closed [])
    (hw : ProgWF sc.M [] 0 (U.map FInstr.toL)) :
    assembleTokens cfg (flat fp.toProg.render ++ [ForPass.eofTok]) =
      match Spec.meaning sc fp.toItems with
      | some m => .ok (toWD {} m)
      | none => .err := by
  have hU := (hu.toB []).instrs_ok hok
  rw [assembleTokens_of_forLoop cfg _ _ ((forLoop_FUnroll hu hok).trans (if_pos hk)),
    (unr_of_FUnroll hu).meaning sc (by rwa [List.length_map]),
    parseCompile_instrs cfg sc U hv h63 hr (fun x hx => (hU x hx).1) (fun x hx => (hU x hx).2)
      (hu.names_nil hclosed)
      (Nat.lt_trans (Nat.lt_of_le_of_lt (Nat.le_add_right _ _) hfuel) (by decide)) hw]
  -- the two `match`es are different auxiliary functions: compare them arm by arm
  cases Spec.meaningFlat sc (U.map FInstr.toItem) <;> rfl

/-- the same from bytes: any source the lexer turns into the tokens of `fp` -/
theorem assemble_meaning_for_lexed (cfg : Config) (sc : Spec.Cfg) (fp : FProg)
    (U : List FInstr) (k : Nat) (hu : FUnroll fp U k) (hk : k ≤ 12) (hok : fp.OK)
    (hfuel : U.length + k < 100000)
    (hv : cfg.validate = true) (h63 : cfg.coreSize.toNat < 2 ^ 63) (hr : CfgRel cfg sc)
    (hclosed : fp.Closed [])
    (hw : ProgWF sc.M [] 0 (U.map FInstr.toL))
    (src : List UInt8) (hsrc : lexBytes src = flat fp.toProg.render ++ [ForPass.eofTok]) :
    assemble cfg src =
      match Spec.meaning sc fp.toItems with
      | some m => .ok (toWD {} m)
      | none => .err := by
  rw [assemble_eq_tokens, hsrc]
  exact assemble_meaning_for_tokens cfg sc fp U k hu hk hok hfuel hv h63 hr hclosed hw

/-- with 13 or more block expansions the assembler gives up, whatever the reference says
    (finding F12) -/
theorem assemble_for_too_deep (cfg : Config) (fp : FProg) (U : List FInstr) (k : Nat)
    (hu : FUnroll fp U k) (hk : 13 ≤ k) (hok : fp.OK) :
    assembleTokens cfg (flat fp.toProg.render ++ [ForPass.eofTok]) = .err := by
  unfold assembleTokens
  rw [forLoop_FUnroll hu hok, if_neg (Nat.not_le.2 hk)]

end AsmComposeFor
end Gmars
