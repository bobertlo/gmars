/-
  Labels as relative offsets, on both sides: a label stands for `(idx - line) tmod M`, written as a
  signed number (`valCST`).  The reference's `Spec.substLabels` substitutes such numbers for the
  names of its token list (`substE`, `substLabels_eq`); what the model's `expandTok` writes for a
  label (`labC`, ExpandLoop) is the same number (`labC_eq`, `sigma_agree`).
  Go map assignments in a row (`setAll`) append where the keys are new (`setAll_fresh`).
-/
import Gmars.Proofs.AsmProgram

namespace Gmars.AsmLine
open Gmars.Compile Gmars.ExprProofs

def valCST (v : Int) : CST := if v < 0 then .signs [true] (.num v.natAbs) else .num v.toNat

def substE (σ : String → Option Int) : List Spec.ETok → Option (List Spec.ETok)
  | [] => some []
  | .name s :: r => (σ s).bind fun v => (substE σ r).map fun rest => (valCST v).etoks ++ rest
  | t :: r => (substE σ r).map (t :: ·)

theorem substE_cons_other (σ : String → Option Int) (t : Spec.ETok) (r : List Spec.ETok)
    (h : isName t = false) : substE σ (t :: r) = (substE σ r).map (t :: ·) := by
  cases t <;> first | rfl | (simp [isName] at h)

theorem valCST_tokens (v : Int) :
    (valCST v).tokens =
      if v < 0 then [{ typ := .symbol, val := "-" }, Compile.numTok v.natAbs] else [Compile.numTok v.toNat] := by
  unfold valCST
  split <;> rfl

theorem wrap64_bounds (i : Int) : -9223372036854775808 ≤ wrap64 i ∧ wrap64 i < 9223372036854775808 := by
  unfold wrap64
  simp only
  split <;> omega

/-- the offsets the model gives the names of a line -/
def sigmaC (c : Compiler) (line : Int) (s : String) : Option Int :=
  (c.labels.get? s).map fun label => Int.tmod (wrap64 (label - line)) (mInt c.m)

def rendσ (σ : String → Option Int) (s : String) : Option (List Token) :=
  (σ s).map fun v => (valCST v).tokens

/-- below `2^63` the model writes a label as the signed number of its offset -/
theorem labC_eq (c : Compiler) (line : Int) (hm : mInt c.m ≠ 0)
    (hm63 : mInt c.m < 9223372036854775808) : labC c line = rendσ (sigmaC c line) := by
  funext s
  unfold labC rendσ sigmaC
  cases c.labels.get? s with
  | none => rfl
  | some label =>
    simp only [Option.map_some, valCST_tokens, offToks]
    generalize hval : Int.tmod (wrap64 (label - line)) (mInt c.m) = val
    split
    · -- `|val| < |m| ≤ 2^63`, so `-val` does not wrap in `wrap64`
      have hlt : val.natAbs < (mInt c.m).natAbs := by
        rw [← hval, Int.natAbs_tmod]
        exact Nat.mod_lt _ (Int.natAbs_pos.2 hm)
      have hmb : -9223372036854775808 ≤ mInt c.m := (wrap64_bounds _).1
      rw [wrap64_id (by omega) (by omega)]
      have : (-val).toNat = val.natAbs := by omega
      rw [this]
    · rfl

/-- the offsets the reference gives the names of a line -/
def sigmaS (M : Nat) (labels : List (String × Nat)) (line : Nat) (s : String) : Option Int :=
  (labels.find? (·.1 == s)).map fun p => Int.tmod ((p.2 : Int) - (line : Int)) (M : Int)

theorem valCST_etoks (v : Int) :
    (valCST v).etoks = if v < 0 then [.op "-", .num v.natAbs] else [.num v.toNat] := by
  unfold valCST
  split <;> rfl

theorem foldlM_subst (σ : String → Option Int)
    (F : List Spec.ETok → Spec.ETok → Option (List Spec.ETok))
    (hname : ∀ acc s, F acc (.name s) = (σ s).map fun v => acc ++ (valCST v).etoks)
    (hother : ∀ acc t, isName t = false → F acc t = some (acc ++ [t])) :
    ∀ (ts acc : List Spec.ETok), ts.foldlM F acc = (substE σ ts).map (acc ++ ·) := by
  intro ts
  induction ts with
  | nil => intro acc; simp [substE]
  | cons t r ih =>
    intro acc
    rw [List.foldlM_cons]
    cases ht : isName t with
    | true =>
      cases t <;> simp [isName] at ht
      rename_i s
      rw [hname]
      simp only [substE]
      cases σ s with
      | none => rfl
      | some v =>
        simp only [Option.map_some, Option.bind_eq_bind, Option.bind_some, ih]
        cases substE σ r <;> simp
    | false =>
      rw [hother acc t ht, substE_cons_other σ t r ht]
      simp only [Option.bind_eq_bind, Option.bind_some, ih]
      cases substE σ r <;> simp

theorem substLabels_eq (c : Spec.Cfg) (t : Spec.Tables) (line : Nat) (ts : List Spec.ETok) :
    Spec.substLabels c t line ts = substE (sigmaS c.M t.labels line) ts := by
  unfold Spec.substLabels
  rw [foldlM_subst (sigmaS c.M t.labels line) _ ?_ ?_ ts []]
  · cases substE (sigmaS c.M t.labels line) ts <;> simp
  · intro acc s
    simp only [sigmaS]
    cases t.labels.find? (·.1 == s) with
    | none => rfl
    | some p =>
      obtain ⟨l, idx⟩ := p
      simp only [Option.map_some, valCST_etoks]
      split <;> rfl
  · intro acc tk h
    cases tk <;> first | rfl | (simp [isName] at h)

theorem substLabels_noname (c : Spec.Cfg) (t : Spec.Tables) (line : Nat) (ts : List Spec.ETok)
    (hn : ∀ t ∈ ts, isName t = false) :
    Spec.substLabels c t line ts = some ts := by
  rw [substLabels_eq]
  induction ts with
  | nil => rfl
  | cons x r ih =>
    rw [List.forall_mem_cons] at hn
    rw [substE_cons_other _ x r hn.1, ih hn.2]
    rfl

theorem evalAt_cst (c : Spec.Cfg) (t : Spec.Tables) (line : Nat) (e : CST) (hlen : e.ntoks ≤ 20000) :
    Spec.evalAt c t line e.etoks = Spec.Expr.evalInt e.etoks := by
  unfold Spec.evalAt
  rw [expandEqus_noname _ _ (etoks_no_name e) (by rw [CST.etoks_length]; exact hlen)]
  simp only [Option.bind_eq_bind, Option.bind_some]
  rw [substLabels_noname _ _ _ _ (etoks_no_name e)]
  rfl

/-- the reference, like gmars, evaluates a number literal as a 32-bit integer -/
theorem evalAt_num (c : Spec.Cfg) (t : Spec.Tables) (line : Nat) (n : Nat) :
    Spec.evalAt c t line [.num n] = if n < 2 ^ 31 then some (n : Int) else none :=
  (evalAt_cst c t line (.num n) (by simp [CST.ntoks])).trans (evalInt_num n)

def castL (p : String × Nat) : String × Int := (p.1, (p.2 : Int))

/-- assignments to a Go map, one per definition, in the order of the definitions -/
abbrev setAll {ν : Type} (set : List (String × ν) → String → ν → List (String × ν))
    (T defs : List (String × ν)) : List (String × ν) :=
  defs.foldl (fun t p => set t p.1 p.2) T

theorem setAll_fresh {ν : Type} {set : List (String × ν) → String → ν → List (String × ν)}
    (hset : ∀ T k v, k ∉ T.map (·.1) → set T k v = T ++ [(k, v)]) (defs : List (String × ν)) :
    ∀ T, (T.map (·.1) ++ defs.map (·.1)).Nodup → setAll set T defs = T ++ defs := by
  induction defs with
  | nil => intro T _; simp [setAll]
  | cons p r ih =>
    intro T hnd
    rw [setAll, List.foldl_cons,
      hset T p.1 p.2 fun hm => nodup_disjoint hnd hm (List.mem_cons_self ..)]
    refine (ih _ ?_).trans (by simp)
    simpa [List.append_assoc] using hnd

theorem LabTab.set_new (T : LabTab) (k : String) (v : Int) (h : k ∉ T.map (·.1)) :
    T.set k v = T ++ [(k, v)] := by
  unfold LabTab.set LabTab.has
  rw [find?_key_none h]
  rfl

theorem get?_castL (S : List (String × Nat)) (s : String) :
    LabTab.get? (S.map castL) s = (S.find? (·.1 == s)).map fun p => (p.2 : Int) := by
  unfold LabTab.get?
  rw [show S.map castL = S.map fun p => (p.1, (p.2 : Int)) from rfl, find?_key_map, Option.map_map]
  rfl

theorem sigma_agree (c : Compiler) (M : Nat) (S : List (String × Nat)) (k : Nat)
    (hl : c.labels = S.map castL) (hm : mInt c.m = (M : Int))
    (hS : ∀ p ∈ S, p.2 < 2 ^ 63) (hk : S ≠ [] → k < 2 ^ 63) (s : String) :
    sigmaC c (k : Int) s = sigmaS M S k s := by
  unfold sigmaC sigmaS
  rw [hl, get?_castL, hm]
  cases h : S.find? (·.1 == s) with
  | none => rfl
  | some p =>
    have hp := hS p (List.mem_of_find?_eq_some h)
    have hk := hk (List.ne_nil_of_mem (List.mem_of_find?_eq_some h))
    simp only [Option.map_some]
    rw [wrap64_id (by omega) (by omega)]

theorem eraseDups_of_nodup {α : Type} [BEq α] [LawfulBEq α] :
    ∀ (l : List α), l.Nodup → l.eraseDups = l := by
  intro l
  induction l with
  | nil => intro _; rfl
  | cons a as ih =>
    intro h
    rw [List.nodup_cons] at h
    have hf : as.filter (fun b => !b == a) = as := by
      rw [List.filter_eq_self]
      intro b hb
      simpa using fun e : b = a => h.1 (e ▸ hb)
    rw [List.eraseDups_cons, hf, ih h.2]

theorem predefined_find?_none (sc : Spec.Cfg) (s : String) (h : s ∉ constNames) :
    (Spec.predefined sc).find? (·.1 == s) = none :=
  find?_key_none (l := Spec.predefined sc) h

end Gmars.AsmLine
