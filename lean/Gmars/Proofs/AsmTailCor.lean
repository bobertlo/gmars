/-
  C03 / C06, labels on the END line: the value of such a label.  Let `last` be a label of the END
  line of a program with `n` instructions, core size `M`.  Used bare as an operand of instruction
  `i` it evaluates to `(n - i) mod M` (for `i = 0`, `n = M` that is `0`, never `M`).  A program whose
  entry point expression is the bare label is rejected when `0 < n < M` (the entry point `n` is not
  `< n`); when `n = M` it means what it means with `END 0` (`meaningFlatT_end_tail_full`).
-/
import Gmars.Proofs.AsmTailEqu

namespace Gmars.AsmLine
open Gmars.ExprProofs

theorem evalAt_label_fwd (sc : Spec.Cfg) (t : Spec.Tables) (i n : Nat) (s s' : String)
    (hq : t.equs.find? (·.1 == s) = none) (hl : t.labels.find? (·.1 == s) = some (s', n))
    (hi : i ≤ n) (hM : 0 < sc.M) (h31 : sc.M ≤ 2 ^ 31) :
    Spec.evalAt sc t i [.name s] = some (((n - i) % sc.M : Nat) : Int) := by
  unfold Spec.evalAt
  rw [expandEqus_nokey _ _ (by
    intro x hx
    cases List.mem_singleton.1 hx
    exact hq) (by simp)]
  simp only [Option.bind_eq_bind, Option.bind_some]
  have hv : Int.tmod ((n : Int) - (i : Int)) (sc.M : Int) = (((n - i) % sc.M : Nat) : Int) := by
    rw [← Int.ofNat_sub hi, ← Int.ofNat_tmod]
  have hsub : Spec.substLabels sc t i [.name s] = some [.num ((n - i) % sc.M)] := by
    unfold Spec.substLabels
    simp only [List.foldlM_cons, List.foldlM_nil, hl, hv]
    rw [if_neg (Int.not_lt.2 (Int.natCast_nonneg _)), Int.toNat_natCast]
    rfl
  rw [hsub]
  simp only [Option.bind_some]
  have hlt : (n - i) % sc.M < sc.M := Nat.mod_lt _ hM
  exact (evalInt_num _).trans (if_pos (by omega))

theorem reduce_natCast (M k : Nat) (hM : 0 < M) :
    Spec.reduce M ((k % M : Nat) : Int) = UInt64.ofNat (k % M) := by
  unfold Spec.reduce
  rw [Int.emod_eq_of_lt (Int.natCast_nonneg _) (Int.ofNat_lt.2 (Nat.mod_lt _ hM)), Int.toNat_natCast]

theorem find?_xtailLabels (body : List XItem) (tail : List String) (l : String)
    (hl : l ∈ tail) (hnl : l ∉ (xlabelsFrom 0 body).map (·.1)) :
    (xtailLabels body tail).find? (·.1 == l) = some (l, xinstrCount body) := by
  unfold xtailLabels
  rw [List.find?_append, find?_key_none hnl, Option.none_or]
  induction tail with
  | nil => cases hl
  | cons a r ih =>
    simp only [List.map_cons, List.find?_cons]
    by_cases ha : a = l
    · subst ha; simp
    · rcases List.mem_cons.1 hl with h | h
      · exact absurd h.symm ha
      · rw [beq_false_of_ne ha]
        exact ih h

theorem xtablesT_eq (sc : Spec.Cfg) (body : List XItem) (kw : String) (e : Option (List Spec.ETok))
    (tail : List String) :
    xtablesT sc body kw e tail = xtablesS sc (xtailLabels body tail) body := by
  unfold xtablesT xtablesS
  rw [xequs_end]

theorem tail_label_fresh {body : List XItem} {tail : List String} {l : String}
    (hnd : ((xlabelsFrom 0 body).map (·.1) ++ tail ++ (xequs body).map (·.1) ++ constNames).Nodup)
    (hl : l ∈ tail) :
    l ∉ (xlabelsFrom 0 body).map (·.1) ∧ l ∉ (xequs body).map (·.1) ∧ l ∉ constNames :=
  ⟨fun h => nodup_disjoint (nodup_left (nodup_left hnd)) h hl,
    fun h => nodup_disjoint (nodup_left hnd) (List.mem_append_right _ hl) h,
    fun h => nodup_disjoint hnd (List.mem_append_left _ (List.mem_append_right _ hl)) h⟩

theorem evalAt_tail (sc : Spec.Cfg) (body : List XItem) (kw : String) (e : Option (List Spec.ETok))
    (tail : List String) (last : String) (i : Nat)
    (hnd : ((xlabelsFrom 0 body).map (·.1) ++ tail ++ (xequs body).map (·.1) ++ constNames).Nodup)
    (hl : last ∈ tail) (hi : i ≤ xinstrCount body) (hM : 0 < sc.M) (h31 : sc.M ≤ 2 ^ 31) :
    Spec.evalAt sc (xtablesT sc body kw e tail) i [.name last] =
      some (((xinstrCount body - i) % sc.M : Nat) : Int) := by
  obtain ⟨h1, h2, h3⟩ := tail_label_fresh hnd hl
  rw [xtablesT_eq]
  refine evalAt_label_fwd sc _ i (xinstrCount body) last last ?_ ?_ hi hM h31
  · show (xequs body ++ Spec.predefined sc).find? (·.1 == last) = none
    rw [List.find?_append, find?_key_none h2, Option.none_or]
    exact predefined_find?_none sc last h3
  · exact find?_xtailLabels body tail last hl h1

theorem reduce_tail_full (M : Nat) (hM : 0 < M) :
    Spec.reduce M (((M - 0) % M : Nat) : Int) = 0 := by
  rw [reduce_natCast M (M - 0) hM]
  simp

theorem instrMeaning_a (sc : Spec.Cfg) (t : Spec.Tables) (line : Nat) (op : String)
    (md : Option String) (a b : Spec.POperand) (ins : Instr) (v : Int)
    (h : Spec.instrMeaning sc t line op md a (some b) = some ins)
    (hv : Spec.evalAt sc t line a.expr = some v) : ins.a = Spec.reduce sc.M v := by
  rw [instrMeaning_eq] at h
  cases hop : Spec.opOfString op with
  | none => rw [hop] at h; cases h
  | some o =>
    simp only [hop, hv, Option.ite_none_left_eq_some, Option.bind_some, Option.bind_eq_some_iff,
      Option.some.injEq] at h
    obtain ⟨_, _, _, _, _, _, rfl⟩ := h
    rfl

/-- By `compile_meaning_equ_tail` / `assemble_meaning_equ_tail` this is the A-field gmars
    assembles. -/
theorem instrMeaning_tail_a (sc : Spec.Cfg) (body : List XItem) (kw : String)
    (e : Option (List Spec.ETok)) (tail : List String) (last : String) (i : Nat)
    (op : String) (md : Option String) (mode : Option Mode) (b : Spec.POperand) (ins : Instr)
    (hnd : ((xlabelsFrom 0 body).map (·.1) ++ tail ++ (xequs body).map (·.1) ++ constNames).Nodup)
    (hl : last ∈ tail) (hi : i ≤ xinstrCount body) (hM : 0 < sc.M) (h31 : sc.M ≤ 2 ^ 31)
    (h : Spec.instrMeaning sc (xtablesT sc body kw e tail) i op md ⟨mode, [.name last]⟩ (some b) =
      some ins) :
    ins.a = UInt64.ofNat ((xinstrCount body - i) % sc.M) := by
  rw [instrMeaning_a sc _ i op md _ b ins _ h (evalAt_tail sc body kw e tail last i hnd hl hi hM h31)]
  exact reduce_natCast sc.M _ hM

theorem xstart_end_some (body : List XItem) (kw : String) (x : List Spec.ETok) :
    xstart (body ++ [XItem.end_ kw (some x)]) = x := by
  unfold xstart
  rw [List.foldl_append]
  rfl

theorem flatTail_bad_start (sc : Spec.Cfg) (items : List Spec.Item) (S : List (String × Nat)) (n : Nat)
    (sv : Int) (hsv : Spec.evalAt sc (tablesOf sc items S) 0 (startFold items) = some sv)
    (hge : (n : Int) ≤ sv) (hne : sv ≠ 0) : flatTail sc items S n = none := by
  rw [Option.eq_none_iff_forall_ne_some]
  intro m h
  simp only [flatTail, Option.ite_none_left_eq_some, Option.bind_eq_some_iff, hsv,
    Option.some.injEq] at h
  obtain ⟨_, _, _, _, _, _, _, rfl, hok, _⟩ := h
  apply hok
  simp [hge, hne]

/-- `org last` / `end last` (`xstart`: the last ORG, or the END argument) is rejected for
    `0 < n < M`: the entry point would be `n`, which is not `< n`. -/
theorem meaningFlatT_start_tail (sc : Spec.Cfg) (body : List XItem) (kw : String)
    (e : Option (List Spec.ETok)) (tail : List String) (last : String)
    (hnd : ((xlabelsFrom 0 body).map (·.1) ++ tail ++ (xequs body).map (·.1) ++ constNames).Nodup)
    (hl : last ∈ tail) (hstart : xstart (body ++ [XItem.end_ kw e]) = [.name last])
    (hn : 0 < xinstrCount body) (hlt : xinstrCount body < sc.M) (h31 : sc.M ≤ 2 ^ 31) :
    Spec.meaningFlatT sc ((body ++ [XItem.end_ kw e]).map XItem.toItem) tail = none := by
  rw [meaningFlatT_xitems, xinstrCount_end]
  have hev := evalAt_tail sc body kw e tail last 0 hnd hl (Nat.zero_le _) (by omega) h31
  rw [Nat.sub_zero, Nat.mod_eq_of_lt hlt] at hev
  refine flatTail_bad_start sc _ _ _ (xinstrCount body : Int) ?_ (Int.le_refl _) (by omega)
  rw [tablesOf_xitemsS, xstartFold_items, hstart]
  exact hev

theorem meaningFlatT_end_tail (sc : Spec.Cfg) (body : List XItem) (kw : String)
    (tail : List String) (last : String)
    (hnd : ((xlabelsFrom 0 body).map (·.1) ++ tail ++ (xequs body).map (·.1) ++ constNames).Nodup)
    (hl : last ∈ tail)
    (hn : 0 < xinstrCount body) (hlt : xinstrCount body < sc.M) (h31 : sc.M ≤ 2 ^ 31) :
    Spec.meaningFlatT sc ((body ++ [XItem.end_ kw (some [.name last])]).map XItem.toItem) tail =
      none :=
  meaningFlatT_start_tail sc body kw _ tail last hnd hl (xstart_end_some body kw _) hn hlt h31

/-- The compiler stage of gmars returns an error (`.ok none`; that the case is a modelled one is
    `compile_meaning_equ_tail_modelled`). -/
theorem compile_start_tail_rejected (lexTokens : String → List Token) (cfg : Config) (sc : Spec.Cfg)
    (body : List XItem) (kw : String) (e : Option (List Spec.ETok)) (tail : List String)
    (last : String) (ameta : AsmMeta) (d : String → Nat)
    (hv : cfg.validate = true) (h63 : cfg.coreSize.toNat < 2 ^ 63) (hr : CfgRel cfg sc)
    (hnd : ((xlabelsFrom 0 body).map (·.1) ++ tail ++ (xequs body).map (·.1) ++ constNames).Nodup)
    (hsmall : xinstrCount body < 2 ^ 63)
    (hrk : ERanked (xequs body ++ Spec.predefined sc) d) (hlt : ∀ s, d s < 63)
    (hw : XProgWF lexTokens sc (xtablesT sc body kw e tail) 0 (body ++ [XItem.end_ kw e]))
    (hl : last ∈ tail) (hstart : xstart (body ++ [XItem.end_ kw e]) = [.name last])
    (hn : 0 < xinstrCount body) (hnM : xinstrCount body < sc.M) (h31 : sc.M ≤ 2 ^ 31) :
    compile lexTokens cfg (xrenderT body kw e tail) ameta = .ok none := by
  rw [compile_meaning_equ_tail lexTokens cfg sc body kw e tail ameta d hv h63 hr hnd hsmall hrk hlt hw,
    meaningFlatT_start_tail sc body kw e tail last hnd hl hstart hn hnM h31]
  rfl

theorem equsOf_snoc_end (l : List Spec.Item) (x : Option (List Spec.ETok)) :
    Spec.equsOf (l ++ [.end_ x]) = Spec.equsOf l := by
  unfold Spec.equsOf
  rw [List.filterMap_append]
  exact List.append_nil _

theorem codeFold_snoc_end (c : Spec.Cfg) (t : Spec.Tables) (l : List Spec.Item)
    (x : Option (List Spec.ETok)) (init : Option (List Instr) × Nat) :
    codeFold c t (l ++ [.end_ x]) init = codeFold c t l init := by
  unfold codeFold
  rw [List.foldl_append]
  exact codeFold_end c t x [] _

theorem assertsOk_snoc_end (c : Spec.Cfg) (t : Spec.Tables) (l : List Spec.Item)
    (x : Option (List Spec.ETok)) : assertsOk c t (l ++ [.end_ x]) = assertsOk c t l := by
  unfold assertsOk
  rw [List.all_append]
  exact Bool.and_true _

theorem startFold_snoc_end (l : List Spec.Item) (e : List Spec.ETok) :
    startFold (l ++ [.end_ (some e)]) = e := by
  unfold startFold
  rw [List.foldl_append]
  rfl

theorem metaOf_snoc_end (l : List Spec.Item) (x : Option (List Spec.ETok)) (k : Spec.MetaKind) :
    metaOf (l ++ [.end_ x]) k = metaOf l k := by
  unfold metaOf
  rw [List.filterMap_append]
  exact List.append_nil _

theorem flatTail_end_congr (c : Spec.Cfg) (l : List Spec.Item) (e1 e2 : List Spec.ETok)
    (S : List (String × Nat)) (n : Nat)
    (h : Spec.evalAt c (tablesOf c l S) 0 e1 = Spec.evalAt c (tablesOf c l S) 0 e2) :
    flatTail c (l ++ [.end_ (some e1)]) S n = flatTail c (l ++ [.end_ (some e2)]) S n := by
  unfold flatTail tablesOf at *
  simp only [equsOf_snoc_end, codeFold_snoc_end, assertsOk_snoc_end, startFold_snoc_end,
    metaOf_snoc_end, h]

theorem evalAt_zero (c : Spec.Cfg) (t : Spec.Tables) : Spec.evalAt c t 0 [.num 0] = some 0 :=
  (evalAt_num c t 0 0).trans (if_pos (by decide))

/-- `end last` is `end 0` for `n = M`.  In a program that fills the core (`n = M` instructions:
    possible when `Length = CoreSize`) the END-line label evaluates to `M mod M = 0`, a valid entry
    point.  So "`org last` / `end last` is always rejected for non-empty code" is false; it holds
    for `0 < n < M` (`meaningFlatT_start_tail`). -/
theorem meaningFlatT_end_tail_full (sc : Spec.Cfg) (body : List XItem) (kw : String)
    (tail : List String) (last : String)
    (hnd : ((xlabelsFrom 0 body).map (·.1) ++ tail ++ (xequs body).map (·.1) ++ constNames).Nodup)
    (hl : last ∈ tail) (hfull : xinstrCount body = sc.M) (hM : 0 < sc.M) (h31 : sc.M ≤ 2 ^ 31) :
    Spec.meaningFlatT sc ((body ++ [XItem.end_ kw (some [.name last])]).map XItem.toItem) tail =
      Spec.meaningFlatT sc ((body ++ [XItem.end_ kw (some [.num 0])]).map XItem.toItem) tail := by
  rw [meaningFlatT_xitems, meaningFlatT_xitems, xinstrCount_end, xinstrCount_end]
  simp only [List.map_append, List.map_cons, List.map_nil, XItem.toItem]
  apply flatTail_end_congr
  have := evalAt_tail sc body kw (some [.name last]) tail last 0 hnd hl (Nat.zero_le _) hM h31
  rw [Nat.sub_zero, hfull, Nat.mod_self, xtablesT_eq, ← tablesOf_xitemsS] at this
  rw [evalAt_zero]
  exact this

end Gmars.AsmLine
