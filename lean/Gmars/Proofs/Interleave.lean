/-
  Independence of jobs that share no mutable state (C14): under ANY interleaving each job ends in
  the state it reaches when run alone.
-/
namespace Gmars.Interleave

variable {ι : Type} [DecidableEq ι] {σ : Type}

def upd (st : ι → σ) (i : ι) (v : σ) : ι → σ := fun j => if j = i then v else st j

/-- run a schedule: each entry lets one job take one step on ITS OWN state -/
def runSched (step : ι → σ → σ) (init : ι → σ) (sched : List ι) : ι → σ :=
  sched.foldl (fun st i => upd st i (step i (st i))) init

def iter (f : σ → σ) : Nat → σ → σ
  | 0, s => s
  | n + 1, s => iter f n (f s)

theorem jobs_independent (step : ι → σ → σ) (init : ι → σ) (sched : List ι) (i : ι) :
    runSched step init sched i = iter (step i) (sched.count i) (init i) := by
  induction sched generalizing init with
  | nil => rfl
  | cons j l ih =>
    have e : runSched step init (j :: l) = runSched step (upd init j (step j (init j))) l := rfl
    rw [e, ih]
    by_cases h : i = j
    · subst h
      simp [upd, iter]
    · have hji : j ≠ i := fun e => h e.symm
      rw [List.count_cons_of_ne (by simpa using hji)]
      simp [upd, h]

end Gmars.Interleave
