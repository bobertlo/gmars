/-
  Association lists as the model uses them for Go maps (`SymTab`, `LabTab`, `Graph`, `ETab`, the
  reference's tables): the first entry with the key is the value, `l.find? (·.1 == k)`.  With unique
  keys (as in a Go map) the entry found is any entry with the key, so order does not matter.
-/
namespace Gmars

theorem nodup_left {α : Type} {a b : List α} (h : (a ++ b).Nodup) : a.Nodup :=
  (List.nodup_append.1 h).1

theorem nodup_disjoint {α : Type} {a b : List α} (h : (a ++ b).Nodup) {x : α} (ha : x ∈ a)
    (hb : x ∈ b) : False :=
  (List.nodup_append.1 h).2.2 x ha x hb rfl

theorem flatMap_congr {α β : Type} {l : List α} {f g : α → List β} (h : ∀ a ∈ l, f a = g a) :
    l.flatMap f = l.flatMap g := by
  rw [List.flatMap_def, List.flatMap_def, List.map_congr_left h]

variable {κ ν ν' : Type} [BEq κ] [LawfulBEq κ] {l l' : List (κ × ν)} {k : κ} {e : κ × ν}

theorem find?_key_none (h : k ∉ l.map (·.1)) : l.find? (·.1 == k) = none :=
  List.find?_eq_none.2 fun _ hx hb => h (eq_of_beq hb ▸ List.mem_map_of_mem hx)

theorem find?_key_mem (h : l.find? (·.1 == k) = some e) : e ∈ l ∧ e.1 = k :=
  ⟨List.mem_of_find?_eq_some h, eq_of_beq (List.find?_some (p := fun x : κ × ν => x.1 == k) h)⟩

theorem find?_key_iff (hnd : (l.map (·.1)).Nodup) :
    l.find? (·.1 == k) = some e ↔ e ∈ l ∧ e.1 = k := by
  refine ⟨find?_key_mem, ?_⟩
  rintro ⟨hm, rfl⟩
  -- nothing in front of `e` has its key
  obtain ⟨as, bs, rfl⟩ := List.append_of_mem hm
  rw [List.map_append] at hnd
  rw [List.find?_append, find?_key_none fun ha => nodup_disjoint hnd ha (List.mem_cons_self ..),
    Option.none_or, List.find?_cons_of_pos (by simp)]

theorem find?_key_perm (hp : l'.Perm l) (hnd : (l.map (·.1)).Nodup) (k : κ) :
    l'.find? (·.1 == k) = l.find? (·.1 == k) := by
  have hnd' : (l'.map (·.1)).Nodup := (hp.map (·.1)).nodup_iff.mpr hnd
  apply Option.ext
  intro e
  rw [find?_key_iff hnd', find?_key_iff hnd, hp.mem_iff]

omit [LawfulBEq κ] in
theorem find?_key_map (f : κ × ν → ν') (l : List (κ × ν)) (k : κ) :
    (l.map fun p => (p.1, f p)).find? (·.1 == k) =
      (l.find? (·.1 == k)).map fun p => (p.1, f p) := by
  rw [List.find?_map]; rfl

theorem find?_key_append_comm (A B : List (κ × ν)) (h : (A.map (·.1) ++ B.map (·.1)).Nodup)
    (k : κ) : (A ++ B).find? (·.1 == k) = (B ++ A).find? (·.1 == k) := by
  rw [List.find?_append, List.find?_append]
  by_cases hs : k ∈ A.map (·.1)
  · rw [find?_key_none (l := B) (nodup_disjoint h hs)]
    cases A.find? (·.1 == k) <;> rfl
  · rw [find?_key_none hs]
    cases B.find? (·.1 == k) <;> rfl

end Gmars
