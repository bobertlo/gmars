/-
  C09, assembler half: the assembler reads every layout variation of a printed load file back
  exactly.  The text of a `LoadLayout.Layout` (case masks, gaps of blanks / tabs / VT / FF / CR,
  trailing comments, LF or CR-LF, blank and comment lines anywhere, final newline or not) is lexed
  line by line into abstract lines (`tokens_render`); the parser is walked over them
  (`parseCompile_lines`); what the compiler reads of the parsed lines is the rendering of the label
  program `progR` of the layout, whose reference meaning is the printed warrior (`meaningFlat_progR`).
-/
import Gmars.Proofs.AsmLayoutText
import Gmars.Proofs.AsmLayoutWalk
import Gmars.Proofs.AsmLayoutMeaning

namespace Gmars
namespace AsmLayout
open Gmars.Render Gmars.AsmCompose Gmars.AsmLine Gmars.AsmPrint
open Gmars.LoadLayout (Layout InstrLay DirLay Filler)
open Gmars.AsmCompose (XItem)

/-- the filler line is neither a metadata comment (`;name`, `;author`, `;strategy`; for the
    assembler also when indented) nor an assertion (`;assert`) -/
def fillerPlain : Filler → Prop
  | .blank _ => True
  | .comment _ text => plainCmt (String.ofList (';' :: text)) = true

/-- no filler line the assembler reads is a metadata or assertion comment (what follows `END`
    under '88 is not read) -/
structure AsmPlain (L : Layout) (legacy : Bool) : Prop where
  dirPre : ∀ f ∈ L.dir.pre, fillerPlain f
  lines : ∀ p ∈ L.lines, ∀ f ∈ p.pre, fillerPlain f
  post : legacy = false → ∀ f ∈ L.post, fillerPlain f

theorem fillerLines_ok (fs : List Filler) (h : ∀ f ∈ fs, fillerPlain f) :
    ∀ l ∈ fillerLines fs, l.OK false := by
  intro l hl
  obtain ⟨f, hf, rfl⟩ := List.mem_map.1 hl
  cases f <;> exact h _ hf

theorem instrLine_ok (legacy : Bool) (p : InstrLay) : (instrLine legacy p).OK false := by
  show IsOpName (opString (opR p.mask p.instr) (mdR legacy p.mask p.instr))
  rw [← opWordR_eq]
  exact isOpName_opWordR legacy p.mask p.instr

theorem instrLines_ok (legacy : Bool) (ps : List InstrLay) (h : ∀ p ∈ ps, ∀ f ∈ p.pre, fillerPlain f) :
    ∀ l ∈ ps.flatMap (instrLines legacy), l.OK false := by
  intro l hl
  simp only [List.mem_flatMap, instrLines, List.mem_append, List.mem_singleton] at hl
  obtain ⟨p, hp, hl | rfl⟩ := hl
  · exact fillerLines_ok p.pre (h p hp) l hl
  · exact instrLine_ok legacy p

theorem flItems_fillerLines (fs : List Filler) : flItems (fillerLines fs) = [] := by
  rw [flItems, fillerLines, List.flatMap_map, List.flatMap_eq_nil_iff]
  exact fun f _ => by cases f <;> rfl

theorem flItems_instrLines (legacy : Bool) (ps : List InstrLay) :
    flItems (ps.flatMap (instrLines legacy)) = ps.map (LIR legacy) := by
  induction ps with
  | nil => rfl
  | cons p r ih =>
    simp only [List.flatMap_cons, instrLines, flItems_append, flItems_fillerLines, List.nil_append, ih,
      List.map_cons]
    rfl

theorem flItems_concat (a : List FLine) (l : FLine) : flItems (a ++ [l]) = flItems a ++ l.litems := by
  rw [flItems_append, flItems_cons, flItems_nil, List.append_nil]

def FLine.TextOK : FLine → Prop
  | .instr op md _ _ => IsOpName (opString op md)
  | .dir kw _ _ => lowerStr kw = "org" ∨ lowerStr kw = "end"
  | _ => True

theorem textIn_single {P : String → Prop} {t : Token} (ht : t.typ ≠ .text) : TextIn P [t] := by
  intro x hx hh
  cases List.mem_singleton.1 hx
  exact absurd hh ht

theorem textIn_cmtToks (c : Option String) : TextIn notForEqu (cmtToks c) := by
  cases c with
  | none => exact TextIn.nil
  | some v => exact textIn_single nofun

theorem FLine.textIn0 {l : FLine} (h : l.TextOK) : TextIn notForEqu l.tokens0 := by
  cases l with
  | blank => exact TextIn.nil
  | cmt v => exact textIn_single nofun
  | instr op md i c =>
    refine TextIn.append ?_ (textIn_cmtToks c)
    intro t ht hh
    simp only [instrToks, List.mem_cons, List.not_mem_nil, or_false] at ht
    rcases ht with rfl | rfl | rfl | rfl | rfl | rfl
    · exact notForEqu_op h
    all_goals cases hh
  | dir kw n c =>
    refine TextIn.append ?_ (textIn_cmtToks c)
    intro t ht hh
    simp only [List.mem_cons, List.not_mem_nil, or_false] at ht
    rcases ht with rfl | rfl
    · exact notForEqu_kw h
    · cases hh

theorem FLine.textIn {l : FLine} (h : l.TextOK) : TextIn notForEqu l.tokens :=
  TextIn.append (FLine.textIn0 h) (textIn_single nofun)

theorem textIn_flTokens (ls : List FLine) (h : ∀ l ∈ ls, l.TextOK) : TextIn notForEqu (flTokens ls) := by
  induction ls with
  | nil => exact TextIn.nil
  | cons l r ih =>
    exact TextIn.append (FLine.textIn (h l (by simp))) (ih (fun x hx => h x (by simp [hx])))

theorem FLine.OK.textOK {e : Bool} {l : FLine} (h : l.OK e) : l.TextOK := by
  cases l with
  | instr op md i c => exact h
  | dir kw n c => exact h.imp_right (·.2)
  | _ => trivial

theorem blank_ok (nl : Bool) : ∀ l ∈ (if nl = true then [FLine.blank] else []), l.OK false := by
  cases nl <;> simp [FLine.OK]

theorem flines_textOK (L : Layout) (legacy : Bool) (start : Nat) (hp : AsmPlain L legacy) :
    ∀ l ∈ textLines L legacy start, l.TextOK := by
  have hf : ∀ fs : List Filler, ∀ l ∈ fillerLines fs, l.TextOK := fun fs l hl => by
    obtain ⟨f, _, rfl⟩ := List.mem_map.1 hl
    cases f <;> trivial
  have hi : ∀ l ∈ L.lines.flatMap (instrLines legacy), l.TextOK := fun l hl =>
    (instrLines_ok legacy _ hp.lines l hl).textOK
  have hv : ∀ l ∈ (if L.finalNewline = true then [FLine.blank] else []), l.TextOK := fun l hl =>
    (blank_ok _ l hl).textOK
  cases legacy
  · simp only [textLines, flinesOf, flines94, Bool.false_eq_true, if_false, List.forall_mem_append,
      List.forall_mem_cons]
    exact ⟨⟨hf _, .inl (lowerStr_orgR _), hi, hf _⟩, hv⟩
  · simp only [textLines, flinesOf, flines88, fbody88, if_true, List.forall_mem_append,
      List.forall_mem_cons]
    exact ⟨⟨⟨hi, hf _⟩, .inr (lowerStr_endR _), hf _⟩, hv⟩

theorem parseCompile94 (cfg : Config) (L : Layout) (start : Nat) (hplain : AsmPlain L false)
    (r : Option WarriorData)
    (hc : Compile.compileX lexString cfg (lrender 0 (progR false L start)) {} = Compile.optM r)
    {a : List FLine} {l : FLine} (h : textLines L false start = a ++ [l]) :
    parseCompile cfg (flTokens a ++ (l.tokens0 ++ [Lex.eofTok])) = resOf r := by
  have hall : ∀ x ∈ a ++ [l], x.OK false := by
    rw [← h]
    simp only [textLines, flinesOf, flines94, Bool.false_eq_true, if_false, List.forall_mem_append,
      List.forall_mem_cons]
    exact ⟨⟨fillerLines_ok _ hplain.dirPre, .inl (lowerStr_orgR _), instrLines_ok false _ hplain.lines,
      fillerLines_ok _ (hplain.post rfl)⟩, blank_ok _⟩
  refine parseCompile_lines cfg a (fun x hx => hall x (by simp [hx])) _ _
    (final_last l (hall l (by simp)).last) r ?_
  rw [← flItems_concat, ← h]
  simpa [textLines, flinesOf, flines94, flItems_append, flItems_fillerLines, flItems_cons, flItems_nil,
    dirLine, FLine.litems, flItems_instrLines, progR, dirItems, apply_ite flItems, lowerStr_orgR] using hc

theorem parseCompile88 (cfg : Config) (L : Layout) (start : Nat) (hplain : AsmPlain L true)
    (r : Option WarriorData)
    (hc : Compile.compileX lexString cfg (lrender 0 (progR true L start)) {} = Compile.optM r)
    {a : List FLine} {l : FLine} (h : textLines L true start = a ++ [l]) :
    parseCompile cfg (flTokens a ++ (l.tokens0 ++ [Lex.eofTok])) = resOf r := by
  have hB : ∀ x ∈ fbody88 L, x.OK false :=
    List.forall_mem_append.2 ⟨instrLines_ok true _ hplain.lines, fillerLines_ok _ hplain.dirPre⟩
  have hi : flItems (fbody88 L) ++ (dirLine L.dir "END" start).litems = progR true L start := by
    simp [fbody88, flItems_append, flItems_fillerLines, flItems_instrLines, dirLine, FLine.litems, progR,
      dirItems, lowerStr_endR]
  rw [← hi] at hc
  simp only [textLines, flinesOf, flines88, if_true, List.append_assoc, List.cons_append] at h
  -- the lines after the END line are not read
  rcases List.eq_nil_or_concat (fillerLines L.post ++ if L.finalNewline = true then [.blank] else [])
    with hR | ⟨R, l', hR⟩
  · rw [hR] at h
    obtain ⟨rfl, hl⟩ := List.append_inj' h rfl
    cases hl
    exact parseCompile_lines cfg _ hB _ _ (final_last (dirLine L.dir "END" start)
      (.inr ⟨rfl, lowerStr_endR _⟩)) r hc
  · rw [hR, List.concat_eq_append, ← List.cons_append, ← List.append_assoc] at h
    obtain ⟨rfl, hl⟩ := List.append_inj' h rfl
    cases hl
    rw [flTokens_append, flTokens, List.append_assoc, List.append_assoc]
    exact parseCompile_lines cfg _ hB _ _ (final_end_line _ (lowerStr_endR _) _ _ _ (by simp)) r hc

/-- the assembler on every layout text of every instruction list: it answers with the reference
    meaning of the program of the layout (`meaningFlat_progR`: `code` / `start` for a well-formed
    warrior with fields below 2^31; `AsmPrint.meaningFlat_loadItems_big`: none when a field is
    2^31 or more) -/
theorem asm_layout_meaning (cfg : Config) (L : Layout) (start : Nat)
    (hok : AsmOK L) (hplain : AsmPlain L (cfg.mode == .icws88))
    (hv : cfg.validate = true) (hM : cfg.coreSize.toNat < 2 ^ 63)
    (hs64 : start < 2 ^ 64) (hlen : L.lines.length < 2 ^ 63)
    (src : List UInt8) (hsrc : decodeRunes src = L.render (cfg.mode == .icws88) start) :
    assemble cfg src =
      resOf ((Spec.meaningFlat (specCfg cfg)
        ((progR (cfg.mode == .icws88) L start).map LItem.toItem)).map (toWD {})) := by
  obtain ⟨a, l, h⟩ : ∃ a l, textLines L (cfg.mode == .icws88) start = a ++ [l] := by
    rcases List.eq_nil_or_concat (textLines L (cfg.mode == .icws88) start) with h | ⟨a, l, h⟩
    · cases hm : cfg.mode == .icws88 <;> simp [hm, textLines, flinesOf, flines94, flines88] at h
    · exact ⟨a, l, List.concat_eq_append ▸ h⟩
  have htok : lexBytes src = flTokens a ++ (l.tokens0 ++ [Lex.eofTok]) := by
    unfold lexBytes; rw [hsrc, tokens_render L _ start hok h]
  have hti : TextIn notForEqu (lexBytes src) := by
    rw [htok]
    have := flines_textOK L _ start hplain
    rw [h] at this
    exact TextIn.append (textIn_flTokens a fun x hx => this x (by simp [hx]))
      (TextIn.append (FLine.textIn0 (this l (by simp))) (textIn_single nofun))
  rw [assemble_stages_noEqu cfg src (noForTok_of_textIn hti) (noEquTok_of_textIn hti), htok]
  have hc := compileX_meaning_labels lexString cfg (specCfg cfg) (progR (cfg.mode == .icws88) L start) {}
    hv hM (specCfg_rel cfg) (by rw [progR_labelsFrom]; decide) (by rw [progR_count]; exact hlen)
    (progR_progWF _ _ L start hs64)
  generalize hleg : (cfg.mode == .icws88) = legacy at *
  cases legacy
  · exact parseCompile94 cfg L start hplain _ hc h
  · exact parseCompile88 cfg L start hplain _ hc h

/-- C09, assembler half, every layout.

    For every warrior (fields below the core size and below 2^31, entry point below its length and
    below 2^31, `Legal88` under '88, no longer than the maximum length, valid configuration, core
    size below 2^63) and EVERY layout perturbation `L` of its canonical printing
    (`LoadLayout.render_canonical`: the trivial layout is `Spec.printLoad`) —

      * each mnemonic(.modifier) / `ORG` / `END` word in any mixture of upper and lower case,
      * arbitrary runs of blanks, tabs, VT, FF and CR before, between and after the fields (only
        the gap between `ORG` / `END` and the number must not be empty; `MOV.I$1,$2` is fine),
      * an optional trailing `;comment` (any characters but LF) on every line, LF or CR-LF,
      * any number of blank, white-space-only, comment and indented comment lines before, between
        and after the lines (none of them starting with `;name`, `;author`, `;strategy`,
        `;assert`; after `END` anything goes),
      * with or without a newline after the last line —

    `CompileWarrior` returns exactly the instructions and the entry point, with empty metadata.
    `src` is any byte string the Go reader decodes to the text. -/
theorem asm_print_any_layout (cfg : Config) (L : Layout) (start : Nat)
    (hok : AsmOK L) (hplain : AsmPlain L (cfg.mode == .icws88))
    (hv : cfg.validate = true) (hM : cfg.coreSize.toNat < 2 ^ 63)
    (hf : ∀ p ∈ L.lines, p.instr.a.toNat < cfg.coreSize.toNat ∧ p.instr.b.toNat < cfg.coreSize.toNat)
    (h31 : ∀ p ∈ L.lines, p.instr.a.toNat < 2 ^ 31 ∧ p.instr.b.toNat < 2 ^ 31) (hs31 : start < 2 ^ 31)
    (hstart : start < L.lines.length) (hlen : L.lines.length ≤ cfg.length.toNat)
    (hl : (cfg.mode == .icws88) = true → ∀ p ∈ L.lines, Spec.Legal88 p.instr = true)
    (src : List UInt8) (hsrc : decodeRunes src = L.render (cfg.mode == .icws88) start) :
    assemble cfg src =
      .ok { name := "", author := "", strategy := "", code := (L.lines.map (·.instr)).toArray,
            start := (start : Int) } := by
  have hmf : Spec.meaningFlat (specCfg cfg) ((progR (cfg.mode == .icws88) L start).map LItem.toItem) =
      some { code := L.lines.map (·.instr), start := start } :=
    meaningFlat_progR (specCfg cfg) L start hf h31 hs31 hstart hlen hl
  rw [asm_layout_meaning cfg L start hok hplain hv hM (Nat.lt_trans hs31 (by decide))
    (Nat.lt_of_le_of_lt (Nat.le_trans hlen (validate_length_le hv)) hM) src hsrc, hmf]
  rfl

/-- `asm_print_any_layout` on the UTF-8 encoding of the text (comments may contain any
    characters) -/
theorem asm_print_any_layout_utf8 (cfg : Config) (L : Layout) (start : Nat)
    (hok : AsmOK L) (hplain : AsmPlain L (cfg.mode == .icws88))
    (hv : cfg.validate = true) (hM : cfg.coreSize.toNat < 2 ^ 63)
    (hf : ∀ p ∈ L.lines, p.instr.a.toNat < cfg.coreSize.toNat ∧ p.instr.b.toNat < cfg.coreSize.toNat)
    (h31 : ∀ p ∈ L.lines, p.instr.a.toNat < 2 ^ 31 ∧ p.instr.b.toNat < 2 ^ 31) (hs31 : start < 2 ^ 31)
    (hstart : start < L.lines.length) (hlen : L.lines.length ≤ cfg.length.toNat)
    (hl : (cfg.mode == .icws88) = true → ∀ p ∈ L.lines, Spec.Legal88 p.instr = true) :
    assemble cfg (String.ofList (L.render (cfg.mode == .icws88) start)).toUTF8.data.toList =
      .ok { name := "", author := "", strategy := "", code := (L.lines.map (·.instr)).toArray,
            start := (start : Int) } :=
  asm_print_any_layout cfg L start hok hplain hv hM hf h31 hs31 hstart hlen hl _
    (decodeRunes_toUTF8 _)

/-- The two halves of C09 combined: on every layout text
    the load-file reader `parseLoadFile` and the assembler `CompileWarrior` return the same
    instructions and the same entry point (those of the printed warrior).

    The common family is the WHOLE family `LoadLayout.Layout` of `load_print_any_layout` (case
    masks, gaps of blanks / tabs / VT / FF / CR with the gaps mnemonic–mode and mode–number not
    empty, trailing comments, LF or CR-LF, blank / white-space-only / comment / indented comment
    filler lines anywhere, with or without the final newline) restricted by
      * `hplain`  no filler line in front of `END` starts, after optional white space, with
                  `;name`, `;author`, `;strategy` or `;assert` (the assembler takes the first
                  three for metadata even when indented, and evaluates the fourth),
      * `h31`, `hlen`  the assembler's own limits: fields below 2^31 (`AsmPrint.asm_print_big`),
                  at most `cfg.length` instructions; `hv` the configuration is valid.
    The loader's hypotheses `hok`, `hM`, `hstart`, `hs31` are those of `load_print_any_layout_meta`
    (no `Layout.plain`: the loader's metadata may differ, code and entry point do not). -/
theorem both_readers_agree_any_layout (cfg : Config) (L : Layout) (start : Nat)
    (hok : L.ok cfg.coreSize (cfg.mode == .icws88)) (hplain : AsmPlain L (cfg.mode == .icws88))
    (hv : cfg.validate = true) (hM : cfg.coreSize.toNat < 2 ^ 63)
    (h31 : ∀ p ∈ L.lines, p.instr.a.toNat < 2 ^ 31 ∧ p.instr.b.toNat < 2 ^ 31) (hs31 : start < 2 ^ 31)
    (hstart : start < L.lines.length) (hlen : L.lines.length ≤ cfg.length.toNat)
    (src : List UInt8) (hsrc : decodeRunes src = L.render (cfg.mode == .icws88) start) :
    ∃ (w : WarriorData) (a : WarriorData),
      parseLoadFile cfg (L.render (cfg.mode == .icws88) start) = .ok (some w) ∧
      assemble cfg src = .ok a ∧ w.code = a.code ∧ w.start = a.start ∧
      a.code = (L.lines.map (·.instr)).toArray ∧ a.start = (start : Int) := by
  have hf : ∀ p ∈ L.lines,
      p.instr.a.toNat < cfg.coreSize.toNat ∧ p.instr.b.toNat < cfg.coreSize.toNat := fun p hp =>
    ⟨UInt64.lt_iff_toNat_lt.mp (hok.lines p hp).2.2.a_lt, UInt64.lt_iff_toNat_lt.mp (hok.lines p hp).2.2.b_lt⟩
  exact ⟨_, _, LoadLayout.load_print_any_layout_meta cfg L start hok hM hstart hs31,
    asm_print_any_layout cfg L start (AsmOK.of_ok hok) hplain hv hM hf h31 hs31 hstart hlen
      (fun hleg p hp => (hok.lines p hp).2.2.legal hleg) src hsrc,
    rfl, rfl, rfl, rfl⟩

theorem canon_instrs (code : List Instr) : (Layout.canon code).lines.map (·.instr) = code := by
  simp [Layout.canon, List.map_map, Function.comp_def]

theorem canon_length (code : List Instr) : (Layout.canon code).lines.length = code.length := by
  simp [Layout.canon]

theorem asmOK_canon (code : List Instr) : AsmOK (Layout.canon code) := by
  refine ⟨fun f hf => (by cases hf), RoundTrip.canonDir_ok, fun c hc => (by cases hc), ?_,
    fun f hf => (by cases hf)⟩
  intro p hp
  obtain ⟨i, _, rfl⟩ := List.mem_map.1 hp
  exact ⟨fun f hf => (by cases hf), fun c hc => (by cases hc), GapsBlank.of_ok RoundTrip.canonGaps_ok⟩

theorem asmPlain_canon (code : List Instr) (legacy : Bool) : AsmPlain (Layout.canon code) legacy := by
  refine ⟨fun f hf => (by cases hf), ?_, fun _ f hf => (by cases hf)⟩
  intro p hp f hf
  obtain ⟨i, _, rfl⟩ := List.mem_map.1 hp
  cases hf

/-- `asm_print_any_layout` at the trivial layout, whose text is `Spec.printLoad`
    (`AsmPrint.asm_print` below is the same statement under its other name) -/
theorem asm_print_canon (cfg : Config) (code : List Instr) (start : Nat)
    (hv : cfg.validate = true) (hM : cfg.coreSize.toNat < 2 ^ 63)
    (hf : ∀ i ∈ code, i.a.toNat < cfg.coreSize.toNat ∧ i.b.toNat < cfg.coreSize.toNat)
    (h31 : ∀ i ∈ code, i.a.toNat < 2 ^ 31 ∧ i.b.toNat < 2 ^ 31) (hs31 : start < 2 ^ 31)
    (hstart : start < code.length) (hlen : code.length ≤ cfg.length.toNat)
    (hl : (cfg.mode == .icws88) = true → ∀ i ∈ code, Spec.Legal88 i = true)
    (src : List UInt8) (hsrc : decodeRunes src = Spec.printLoad (cfg.mode == .icws88) code start) :
    assemble cfg src =
      .ok { name := "", author := "", strategy := "", code := code.toArray, start := (start : Int) } := by
  have hmem : ∀ p ∈ (Layout.canon code).lines, p.instr ∈ code := by
    intro p hp
    obtain ⟨i, hi, rfl⟩ := List.mem_map.1 hp
    exact hi
  have := asm_print_any_layout cfg (Layout.canon code) start (asmOK_canon code) (asmPlain_canon code _) hv
    hM (fun p hp => hf _ (hmem p hp)) (fun p hp => h31 _ (hmem p hp)) hs31
    (by rw [canon_length]; exact hstart) (by rw [canon_length]; exact hlen)
    (fun h p hp => hl h _ (hmem p hp)) src (by rw [hsrc, LoadLayout.render_canonical])
  rw [canon_instrs] at this
  exact this

end AsmLayout

namespace AsmPrint
open Gmars.AsmLayout Gmars.AsmCompose
open Gmars.LoadLayout (Layout)

/-- C09, assembler half: for a warrior `code` / `start` the canonical load
    text `Spec.printLoad` (`ORG n` first under '94, `END n` last under '88, one fully explicit
    `OP[.MOD] m a, m b` per line) assembles to exactly `code` / `start`, with empty metadata.
    `src` is any byte string the Go reader decodes to that text (`asm_print_ascii`: its bytes).

    The fields and the entry point must be below 2^31
    (`h31`, `hs31`).  gmars evaluates every operand with `evaluateExpression`, which rejects
    values outside the int32 range, so e.g. `DAT.F $ 0, $ 2147483648` on a core of 2^32 is
    an assembly ERROR although the field is below the core size (`asm_print_big`). -/
theorem asm_print (cfg : Config) (code : List Instr) (start : Nat)
    (hv : cfg.validate = true) (hM : cfg.coreSize.toNat < 2 ^ 63)
    (hf : ∀ i ∈ code, i.a.toNat < cfg.coreSize.toNat ∧ i.b.toNat < cfg.coreSize.toNat)
    (h31 : ∀ i ∈ code, i.a.toNat < 2 ^ 31 ∧ i.b.toNat < 2 ^ 31) (hs31 : start < 2 ^ 31)
    (hstart : start < code.length) (hlen : code.length ≤ cfg.length.toNat)
    (hl : (cfg.mode == .icws88) = true → ∀ i ∈ code, Spec.Legal88 i = true)
    (src : List UInt8) (hsrc : decodeRunes src = Spec.printLoad (cfg.mode == .icws88) code start) :
    assemble cfg src =
      .ok { name := "", author := "", strategy := "", code := code.toArray, start := (start : Int) } :=
  AsmLayout.asm_print_canon cfg code start hv hM hf h31 hs31 hstart hlen hl src hsrc

/-- the 2^31 bound of `asm_print` is necessary: with a field of 2^31 or more (possible on cores
    larger than 2^31) the canonical load text is REJECTED by the assembler -/
theorem asm_print_big (cfg : Config) (code : List Instr) (start : Nat)
    (hv : cfg.validate = true) (hM : cfg.coreSize.toNat < 2 ^ 63)
    (hs64 : start < 2 ^ 64) (hlen : code.length < 2 ^ 63)
    (hbig : ∃ i ∈ code, 2 ^ 31 ≤ i.a.toNat ∨ 2 ^ 31 ≤ i.b.toNat)
    (src : List UInt8) (hsrc : decodeRunes src = Spec.printLoad (cfg.mode == .icws88) code start) :
    assemble cfg src = .err := by
  rw [asm_layout_meaning cfg (Layout.canon code) start (asmOK_canon code) (asmPlain_canon code _) hv hM hs64
    (by rw [canon_length]; exact hlen) src (by rw [hsrc, LoadLayout.render_canonical]),
    meaningFlat_progR_eq, canon_instrs, meaningFlat_loadItems_big (specCfg cfg) _ code start hbig]
  rfl

theorem asm_print_ascii (cfg : Config) (code : List Instr) (start : Nat)
    (hv : cfg.validate = true) (hM : cfg.coreSize.toNat < 2 ^ 63)
    (hf : ∀ i ∈ code, i.a.toNat < cfg.coreSize.toNat ∧ i.b.toNat < cfg.coreSize.toNat)
    (h31 : ∀ i ∈ code, i.a.toNat < 2 ^ 31 ∧ i.b.toNat < 2 ^ 31) (hs31 : start < 2 ^ 31)
    (hstart : start < code.length) (hlen : code.length ≤ cfg.length.toNat)
    (hl : (cfg.mode == .icws88) = true → ∀ i ∈ code, Spec.Legal88 i = true) :
    assemble cfg (asciiBytes (Spec.printLoad (cfg.mode == .icws88) code start)) =
      .ok { name := "", author := "", strategy := "", code := code.toArray, start := (start : Int) } :=
  asm_print cfg code start hv hM hf h31 hs31 hstart hlen hl _
    (decodeRunes_ascii _ (printLoad_ascii _ code start))


end AsmPrint
end Gmars
