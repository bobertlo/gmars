/-
  C08: the symbol scanner (`scanInput`, Gmars/Model/ForExpand.lean) up to the first FOR or END line:
  it never reports a `for` on input without one, does not loop on terminated input, and reads
  through the lines it skips and the EQU lines, whose definitions it records.
-/
import Gmars.Proofs.ForPassBasic
import Gmars.Proofs.AsmTermScan

namespace Gmars
namespace ForPass

open Scan

theorem scan_noForTok (ts : List Token) (h : NoForTok ts) :
    (∀ syms, scanInput ts ≠ .ok (some (syms, true))) ∧ (HasTerm ts → ∀ f, scanInput ts ≠ .error f) :=
  ⟨(scan_good ts).1 h, (scan_good ts).2.1⟩

/-- `consume(scanLine)`: the step to the first token of the next line; on exhausted input the
    model's `consume` hangs, which `runScan []` records.  The `[]` cases of the other three only
    make them total. -/
def runScan : List Token → SymTab → Scan.Res
  | [], _ => .error (.hang "scanConsumeLine")
  | t :: r, syms => if t.typ == .eof then stop syms else scanLine t r syms

def runSCL : List Token → SymTab → Scan.Res
  | [], syms => stop syms
  | t :: r, syms => scanConsumeLine t r syms

def runSLab : List Token → List String → SymTab → Scan.Res
  | [], _, syms => stop syms
  | t :: r, lb, syms => scanLabels t r lb syms

def runSEqu : List Token → List Token → List String → SymTab → Scan.Res
  | [], _, _, syms => stop syms
  | t :: r, vb, lb, syms => scanEquValue t r vb lb syms

theorem exists_cons_of {P : Token → Prop} {a : List Token} {x : Token} (r : List Token)
    (ha : ∀ y ∈ a, P y) (hx : P x) : ∃ y ys, a ++ x :: r = y :: ys ∧ P y := by
  obtain ⟨y, ys, h, hy⟩ := exists_cons' a x r
  exact ⟨y, ys, h, hy.elim (· ▸ hx) (ha y)⟩

theorem scl_inline {cur t : Token} {r : List Token} {syms : SymTab} (h : InLine cur)
    (ht : t.typ ≠ .eof) :
    scanConsumeLine cur (t :: r) syms = scanConsumeLine t r syms := by
  obtain ⟨h1, h2, h3⟩ := h
  rw [scanConsumeLine]
  split
  · exact absurd ‹_› h1
  · exact absurd ‹_› h3
  · exact absurd ‹_› h2
  · simp [ht]

theorem scl_nl (cur : Token) (rest : List Token) (syms : SymTab) (h : cur.typ = .newline) :
    scanConsumeLine cur rest syms = runScan rest syms := by
  rw [scanConsumeLine.eq_def]
  simp only [h]
  cases rest with
  | nil => rfl
  | cons t r => simp only [runScan, scanLine]

theorem runSCL_line (args : List Token) (nl : Token) (rest : List Token) (syms : SymTab)
    (ha : ∀ x ∈ args, InLine x) (hnl : nl.typ = .newline) :
    runSCL (args ++ nl :: rest) syms = runScan rest syms := by
  induction args with
  | nil => exact scl_nl nl rest syms hnl
  | cons a as ih =>
    have ha := List.forall_mem_cons.1 ha
    obtain ⟨x, xs, hx, hxe⟩ := exists_cons_of (P := (·.typ ≠ .eof)) rest
      (fun y hy => (ha.2 y hy).2.1) (by rw [hnl]; simp)
    rw [List.cons_append, hx, runSCL, scl_inline ha.1 hxe,
      ← runSCL, ← hx, ih ha.2]

theorem slab_label {cur t : Token} {r : List Token} {lb : List String} {syms : SymTab}
    (h : isLabelTok cur = true) (ht : t.typ ≠ .eof) :
    scanLabels cur (t :: r) lb syms = scanLabels t r (lb ++ [cur.val]) syms := by
  obtain ⟨h1, h2, h3⟩ := isLabelTok_iff.1 h
  rw [scanLabels]
  simp [h1, h2, h3, ht]

theorem slab_for {cur : Token} {rest : List Token} {lb : List String} {syms : SymTab}
    (h1 : cur.typ = .text) (h3 : lowerStr cur.val = "for") :
    scanLabels cur rest lb syms = stop syms true := by
  rw [scanLabels.eq_def]
  simp only [h1, isPseudoOp_of_lower_for h3, ↓reduceIte, h3]

theorem slab_end {cur : Token} {rest : List Token} {lb : List String} {syms : SymTab}
    (h1 : cur.typ = .text) (h3 : lowerStr cur.val = "end") :
    scanLabels cur rest lb syms = stop syms := by
  have hp : cur.isPseudoOp = true := by unfold Token.isPseudoOp; rw [h3]; rfl
  rw [scanLabels.eq_def]
  simp only [h1, hp, ↓reduceIte, h3]

theorem slab_equ {cur t : Token} {r : List Token} {lb : List String} {syms : SymTab}
    (h1 : cur.typ = .text) (h3 : lowerStr cur.val = "equ") (ht : t.typ ≠ .eof) :
    scanLabels cur (t :: r) lb syms = scanEquValue t r [] lb syms := by
  have hp : cur.isPseudoOp = true := by unfold Token.isPseudoOp; rw [h3]; rfl
  rw [scanLabels.eq_def]
  simp only [h1, hp, ↓reduceIte, h3]
  simp [ht]

theorem slab_pseudo {cur : Token} {rest : List Token} {lb : List String} {syms : SymTab}
    (h1 : cur.typ = .text) (h2 : cur.isPseudoOp = true) (h3 : lowerStr cur.val ≠ "for")
    (h4 : lowerStr cur.val ≠ "equ") (h5 : lowerStr cur.val ≠ "end") :
    scanLabels cur rest lb syms = scanConsumeLine cur rest syms := by
  rw [scanLabels.eq_def]
  simp only [h1, h2, ↓reduceIte]

def lineOp (l : List Token) : Option Token := (l.dropWhile isLabelTok).head?

theorem lineOp_label {a : Token} {as : List Token} (h : isLabelTok a = true) :
    lineOp (a :: as) = lineOp as := by
  simp [lineOp, h]

theorem lineOp_op {a : Token} {as : List Token} (h : a.isOp = true) :
    lineOp (a :: as) = some a := by
  simp [lineOp, not_label_of_isOp h]

/-- the lines the scanner skips without touching the symbol table: no text token in front,
    or (after the labels) an opcode, `rof` or `org` -/
def ScanSkip (l : List Token) : Prop :=
  (∀ x ∈ l.head?, x.typ ≠ .text) ∨ lineKind l = .op ∨ lineKind l = .rof ∨
  (lineKind l = .pseudo ∧ ∀ h ∈ lineOp l, lowerStr h.val ≠ "equ" ∧ lowerStr h.val ≠ "end")

theorem runScan_cons (t : Token) (r : List Token) (syms : SymTab) (h : t.typ ≠ .eof) :
    runScan (t :: r) syms = scanLine t r syms := by
  simp [runScan, h]

theorem runSLab_labels {lbls : List Token} {f : Token} {rest : List Token} {lb : List String}
    {syms : SymTab} (hl : ∀ x ∈ lbls, isLabelTok x = true) (hf : f.typ ≠ .eof) :
    runSLab (lbls ++ f :: rest) lb syms = runSLab (f :: rest) (lb ++ lbls.map (·.val)) syms := by
  induction lbls generalizing lb with
  | nil => simp
  | cons a as ih =>
    have hl := List.forall_mem_cons.1 hl
    obtain ⟨x, xs, hx, hxe⟩ := exists_cons_of (P := (·.typ ≠ .eof)) rest
      (fun y hy => by rw [(isLabelTok_iff.1 (hl.2 y hy)).1]; simp) hf
    rw [List.cons_append, hx, runSLab, slab_label hl.1 hxe,
      ← runSLab, ← hx, ih hl.2, List.map_cons,
      List.append_assoc]
    rfl

theorem runScan_labels {lbls : List Token} {f : Token} {rest : List Token} {syms : SymTab}
    (hl : ∀ x ∈ lbls, isLabelTok x = true) (h1 : f.typ = .text) :
    runScan (lbls ++ f :: rest) syms = runSLab (f :: rest) (lbls.map (·.val)) syms := by
  obtain ⟨x, xs, hx, hxt⟩ := exists_cons_of (P := (·.typ = .text)) rest
    (fun y hy => (isLabelTok_iff.1 (hl y hy)).1) h1
  rw [hx, runScan_cons _ _ _ (by rw [hxt]; simp), scanLine, if_pos (by simp [hxt]), ← runSLab, ← hx,
    runSLab_labels hl (by rw [h1]; simp)]
  rfl

theorem runScan_skipLine (l : Line) (rest : List Token) (syms : SymTab) (hwf : l.WF)
    (hs : ScanSkip l.toks) : runScan (l.flat ++ rest) syms = runScan rest syms := by
  obtain ⟨hnl, hl⟩ := hwf
  rw [Line.flat, List.append_assoc, List.singleton_append]
  rcases hs with hh | hk
  · have hscl : ∀ x xs, x.typ ≠ .eof → x.typ ≠ .text →
        runScan (x :: xs) syms = runSCL (x :: xs) syms := fun x xs h1 h2 => by
      rw [runScan_cons _ _ _ h1, scanLine, if_neg (by simpa using h2), runSCL]
    rw [← runSCL_line l.toks l.nl rest syms hl hnl]
    cases hlt : l.toks with
    | nil => exact hscl _ _ (by rw [hnl]; simp) (by rw [hnl]; simp)
    | cons a as =>
      rw [hlt] at hl hh
      exact hscl _ _ (hl a (List.mem_cons_self ..)).2.1 (hh a rfl)
  · obtain ⟨lbls, r, hlt, hlab, hdrop, hhead⟩ := exists_labels l.toks
    rw [lineOp, hdrop, hlt, lineKind_labels _ hlab] at hk
    rw [hlt] at hl ⊢
    cases r with
    | nil => simp [lineKind] at hk
    | cons a as =>
      have ha : a.typ = .text ∧
          scanLabels a (as ++ l.nl :: rest) (lbls.map (·.val)) syms =
            scanConsumeLine a (as ++ l.nl :: rest) syms := by
        rcases lineKind_cases a as with ⟨h, _⟩ | ⟨_, h⟩ | ⟨h1, h2, h3, _⟩ | ⟨_, _, _, h⟩ |
            ⟨h1, h2, h3, _⟩ | ⟨h1, h2, h3, h4, h5, h⟩
        · rw [hhead a rfl] at h; cases h
        · rw [h] at hk; simp at hk
        · exact ⟨h1, slab_op h1 h3 h2⟩
        · rw [h] at hk; simp at hk
        · exact ⟨h1, slab_pseudo h1 (isPseudoOp_of_lower_rof h3) (by rw [h3]; decide)
            (by rw [h3]; decide) (by rw [h3]; decide)⟩
        · rw [h] at hk
          simp only [reduceCtorEq, false_or, true_and] at hk
          exact ⟨h1, slab_pseudo h1 h3 h4 (hk a rfl).1 (hk a rfl).2⟩
      rw [List.append_assoc, List.cons_append, runScan_labels hlab ha.1, runSLab, ha.2,
        ← runSCL, ← List.cons_append]
      exact runSCL_line _ _ _ _ (fun x hx => hl x (by simp [hx])) hnl

theorem runScan_forLine (lbls : List Token) (f : Token) (rest : List Token) (syms : SymTab)
    (hl : ∀ x ∈ lbls, isLabelTok x = true) (h1 : f.typ = .text) (h3 : lowerStr f.val = "for") :
    runScan (lbls ++ f :: rest) syms = stop syms true := by
  rw [runScan_labels hl h1]
  exact slab_for h1 h3

theorem runScan_endLine (lbls : List Token) (f : Token) (rest : List Token) (syms : SymTab)
    (hl : ∀ x ∈ lbls, isLabelTok x = true) (h1 : f.typ = .text) (h3 : lowerStr f.val = "end") :
    runScan (lbls ++ f :: rest) syms = stop syms := by
  rw [runScan_labels hl h1]
  exact slab_end h1 h3

def afterDefine (vb : List Token) (lb : List String) (syms : SymTab) (rest : List Token) :
    Scan.Res :=
  match define vb lb syms with
  | none => .ok none
  | some syms' => runScan rest syms'

theorem sequ_step {cur t : Token} {r : List Token} {vb : List Token} {lb : List String}
    {syms : SymTab} (h : InLine cur) :
    scanEquValue cur (t :: r) vb lb syms =
      scanEquValue t r (if cur.typ == .comment then vb else vb ++ [cur]) lb syms := by
  obtain ⟨h1, h2, h3⟩ := h
  rw [scanEquValue]
  simp [h1, h2, h3]

theorem sequ_nl (cur : Token) (rest : List Token) (vb : List Token) (lb : List String)
    (syms : SymTab) (h : cur.typ = .newline) :
    scanEquValue cur rest vb lb syms = afterDefine vb lb syms rest := by
  rw [scanEquValue.eq_def]
  simp only [h, beq_self_eq_true, Bool.true_or, ↓reduceIte, afterDefine]
  cases define vb lb syms with
  | none => rfl
  | some s1 =>
    cases rest with
    | nil => rfl
    | cons t r => simp only [runScan, scanLine]

theorem runSEqu_line (v : List Token) (nl : Token) (rest : List Token) (vb : List Token)
    (lb : List String) (syms : SymTab) (hv : ∀ x ∈ v, InLine x) (hnl : nl.typ = .newline) :
    runSEqu (v ++ nl :: rest) vb lb syms =
      afterDefine (vb ++ v.filter (fun t => t.typ != .comment)) lb syms rest := by
  induction v generalizing vb with
  | nil => simpa [runSEqu] using sequ_nl nl rest vb lb syms hnl
  | cons a as ih =>
    have hv := List.forall_mem_cons.1 hv
    obtain ⟨x, xs, hx⟩ := exists_cons as nl rest
    rw [List.cons_append, hx, runSEqu, sequ_step hv.1,
      ← runSEqu, ← hx, ih _ hv.2]
    by_cases hc : a.typ = .comment <;> simp [hc]

theorem runScan_equLine (lbls : List Token) (q : Token) (v : List Token) (nl : Token)
    (rest : List Token) (syms : SymTab)
    (hl : ∀ x ∈ lbls, isLabelTok x = true) (h1 : q.typ = .text) (h3 : lowerStr q.val = "equ")
    (hv : ∀ x ∈ v, InLine x) (hnl : nl.typ = .newline) :
    runScan (lbls ++ q :: (v ++ nl :: rest)) syms =
      afterDefine (v.filter (fun t => t.typ != .comment)) (lbls.map (·.val)) syms rest := by
  obtain ⟨x, xs, hx, hxe⟩ := exists_cons_of (P := (·.typ ≠ .eof)) rest
    (fun y hy => (hv y hy).2.1) (by rw [hnl]; simp)
  rw [runScan_labels hl h1, hx, runSLab, slab_equ h1 h3 hxe, ← runSEqu, ← hx,
    runSEqu_line v nl rest [] _ syms hv hnl]
  rfl

/-- the lines in front of the first FOR block, as the scanner reads them: lines it skips and
    EQU lines `labels… equ value…`; `ScanPre ls s s'` = reading `ls` takes the symbol table
    from `s` to `s'` (no symbol is defined twice) -/
inductive ScanPre : List Line → SymTab → SymTab → Prop
  | nil (s : SymTab) : ScanPre [] s s
  | skip {l : Line} {ls : List Line} {s s' : SymTab} :
      ScanSkip l.toks → ScanPre ls s s' → ScanPre (l :: ls) s s'
  | equ {l : Line} {ls : List Line} {s s1 s' : SymTab} (lbls : List Token) (q : Token)
      (v : List Token) :
      l.toks = lbls ++ q :: v → (∀ x ∈ lbls, isLabelTok x = true) → q.typ = .text →
      lowerStr q.val = "equ" →
      define (v.filter (fun t => t.typ != .comment)) (lbls.map (·.val)) s = some s1 →
      ScanPre ls s1 s' → ScanPre (l :: ls) s s'

theorem runScan_pre {ls : List Line} {s s' : SymTab} (h : ScanPre ls s s')
    (hwf : ∀ l ∈ ls, l.WF) (rest : List Token) :
    runScan (flat ls ++ rest) s = runScan rest s' := by
  induction h with
  | nil s => rfl
  | @skip l ls s s' hs _ ih =>
    have hwf := List.forall_mem_cons.1 hwf
    rw [flat_cons, List.append_assoc, runScan_skipLine l _ s hwf.1 hs]
    exact ih hwf.2
  | @equ l ls s s1 s' lbls q v hlt hl h1 h3 hdef _ ih =>
    obtain ⟨⟨hnl, hin⟩, hwf⟩ := List.forall_mem_cons.1 hwf
    have hv : ∀ x ∈ v, InLine x := fun x hx => hin x (by rw [hlt]; simp [hx])
    have : l.flat ++ (flat ls ++ rest) = lbls ++ q :: (v ++ l.nl :: (flat ls ++ rest)) := by
      simp [Line.flat, hlt]
    rw [flat_cons, List.append_assoc, this, runScan_equLine lbls q v l.nl _ s hl h1 h3 hv hnl,
      afterDefine, hdef]
    exact ih hwf

theorem scanInput_eq_runScan (t : Token) (r : List Token) :
    scanInput (t :: r) = runScan (t :: r) [] := by
  rw [scanInput, runScan]
  split
  next h => exact scanLine_term _ _ _ ((isTerm_iff _).2 (Or.inl (eq_of_beq h)))
  next => rfl

theorem scanInput_ne_nil {l : List Token} (h : l ≠ []) : scanInput l = runScan l [] := by
  cases l with
  | nil => exact absurd rfl h
  | cons t r => exact scanInput_eq_runScan t r

theorem runScan_term (z : Token) (rest : List Token) (syms : SymTab) (hz : z.isTerm = true) :
    runScan (z :: rest) syms = stop syms := by
  rw [runScan, scanLine_term _ _ _ hz, ite_self]

theorem scanInput_pre (ls : List Line) (rest : List Token) (syms : SymTab)
    (hwf : ∀ l ∈ ls, l.WF) (hpre : ScanPre ls [] syms) (hr : rest ≠ []) :
    scanInput (flat ls ++ rest) = runScan rest syms := by
  rw [scanInput_ne_nil (List.append_ne_nil_of_right_ne_nil (flat ls) hr), runScan_pre hpre hwf]

theorem scan_forFree (ls : List Line) (z : Token) (rest : List Token) (syms : SymTab)
    (hwf : ∀ l ∈ ls, l.WF) (hpre : ScanPre ls [] syms) (hz : z.isTerm = true) :
    scanInput (flat ls ++ z :: rest) = .ok (some (syms, false)) := by
  rw [scanInput_pre ls _ syms hwf hpre (List.cons_ne_nil _ _), runScan_term z rest syms hz]
  rfl

theorem scan_for (ls : List Line) (lbls : List Token) (f : Token) (rest : List Token)
    (syms : SymTab) (hwf : ∀ l ∈ ls, l.WF) (hpre : ScanPre ls [] syms)
    (hl : ∀ x ∈ lbls, isLabelTok x = true) (h1 : f.typ = .text) (h3 : lowerStr f.val = "for") :
    scanInput (flat ls ++ (lbls ++ f :: rest)) = .ok (some (syms, true)) := by
  rw [scanInput_pre ls _ syms hwf hpre (by simp), runScan_forLine lbls f rest syms hl h1 h3]
  rfl

/-- FOR blocks behind `end` are never expanded -/
theorem scan_end (ls : List Line) (lbls : List Token) (f : Token) (rest : List Token)
    (syms : SymTab) (hwf : ∀ l ∈ ls, l.WF) (hpre : ScanPre ls [] syms)
    (hl : ∀ x ∈ lbls, isLabelTok x = true) (h1 : f.typ = .text) (h3 : lowerStr f.val = "end") :
    scanInput (flat ls ++ (lbls ++ f :: rest)) = .ok (some (syms, false)) := by
  rw [scanInput_pre ls _ syms hwf hpre (by simp), runScan_endLine lbls f rest syms hl h1 h3]
  rfl

end ForPass
end Gmars
