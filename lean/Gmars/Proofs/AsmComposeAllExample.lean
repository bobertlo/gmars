/-
  The hypotheses of `assemble_meaning_all` are satisfiable: a program with an EQU used as the count
  of a FOR block, a label (followed by a colon, in front of the block) that the body of the block
  refers to, the counter used in the body, a comment line, and END with a label — from bytes, with
  an odd spacing:

      "n  equ 2\n; two bombs\na:dat\tn\n  i for  n\n\tdat i ,a\n rof\n  end a\n"

  `CompileWarrior` returns the reference meaning `Spec.meaning` of the item program with its
  `Spec.Item.for_` node (DAT 0, 2 / DAT 1, -1 / DAT 2, -2, start 0).

  Second example (`Two`): labels in front of and behind the block, immediate operands that use
  the counter and the EQU,

      n equ 2 / start mov bomb, <ptr / i for n / dat #i, #i+n / rof / bomb dat #0 /
      ptr dat #0, #start / end start

  in its canonical one-blank rendering: every hypothesis of `assemble_meaning_all` is discharged.
-/
import Gmars.Proofs.AsmComposeAll
import Gmars.Proofs.EquExample
import Gmars.Proofs.AsmComposeEquCheck

namespace Gmars.AsmComposeAll.Example
open Gmars.Render Gmars.AsmLine Gmars.AsmCompose Gmars.AsmComposeEqu Gmars.AsmComposeFor
open Gmars.AsmLine.EquExample

def opnd (e : NT) : LOperand := { mode := none, expr := e }
def dat (a b : NT) : FInstr := { op := "dat", md := none, a := opnd a, b := some (opnd b) }

def body : FProg := .instr (dat (.name "i") (.name "a")) .nil

open Spec.ETok in
def progA : AProg :=
  { items := [
      .item (.equ "n" "equ" [num 2] 0),
      .item (.comment " two bombs".toList 0),
      .item (.instr [("a", true)] "dat" none ⟨none, [name "n"]⟩ none 0),
      .block "i" (.ctr "n") body ],
    fin := some ("end", some [name "a"]) }

open Spec.ETok in
/-- its manual unrolling: the line in front of the block has lost its colon -/
def progU : List EItem :=
  [ .equ "n" "equ" [num 2] 0,
    .comment " two bombs".toList 0,
    .instr [("a", false)] "dat" none ⟨none, [name "n"]⟩ none 0,
    toE (dat (.num 1) (.name "a")),
    toE (dat (.num 2) (.name "a")) ]

abbrev progP : EProg := progA.unrolled progU

example : progA.toItems =
    [.equ "n" [.num 2],
     .instr ["a"] "dat" none ⟨none, [.name "n"]⟩ none,
     .for_ [] "i" [.name "n"] [.instr [] "dat" none ⟨none, [.name "i"]⟩ (some ⟨none, [.name "a"]⟩)],
     .end_ (some [.name "a"])] := rfl

theorem unroll : AUnroll [] progA.items progU 1 := by
  refine AUnroll.item (AUnroll.item (AUnroll.item ?_))
  have h := AUnroll.block (eqs := [("n", [Spec.ETok.num 2])]) (c := "i") (cnt := .ctr "n")
    (body := body) (r := []) (U := []) (k := 0) 2
    (fun j => [dat (.num (j + 1)) (.name "a")]) (fun _ => 0) rfl (by decide)
    (by
      intro j _
      have e : body.subst "i" (j + 1) = .instr (dat (.num (j + 1)) (.name "a")) .nil := by
        simp [body, FProg.subst, FInstr.subst, LOperand.subst, dat, opnd, substCtr]
      rw [e]
      exact BUnroll.instr BUnroll.nil)
    (AUnroll.nil _)
  exact h

theorem progP_ok : ∃ d, progP.Hyps scE d :=
  EProg.okB_sound (aw := fun _ => emptySrcLine) (by decide +kernel)

def idw (s : String) : Word :=
  match s.toList with
  | c :: cs => .ident c cs
  | [] => .sym ' '

def numw (s : String) : Word :=
  match s.toList with
  | c :: cs => .num c cs
  | [] => .sym ' '

def lsA : List SrcLine := [
  { words := [(idw "n", "  ".toList), (idw "equ", " ".toList), (numw "2", [])] },
  { words := [], comment := some " two bombs".toList },
  { words := [(idw "a", []), (.sym ':', []), (idw "dat", "\t".toList), (idw "n", [])] },
  { lead := "  ".toList, words := [(idw "i", " ".toList), (idw "for", "  ".toList), (idw "n", [])] },
  { lead := "\t".toList,
    words := [(idw "dat", " ".toList), (idw "i", " ".toList), (.sym ',', []), (idw "a", [])] },
  { lead := " ".toList, words := [(idw "rof", [])] },
  { lead := "  ".toList, words := [(idw "end", " ".toList), (idw "a", [])] } ]

theorem lsA_text : String.ofList (renderLines lsA) =
    "n  equ 2\n; two bombs\na:dat\tn\n  i for  n\n\tdat i ,a\n rof\n  end a\n" := by rfl

theorem lsA_ok : (∀ l ∈ lsA, l.ok (some '\n') = true) ∧ SameLines lsA progA.srcLines ∧
    ∀ c ∈ renderLines lsA, c.toNat < 128 := by decide +kernel

theorem example_assemble :
    assemble cfgE (asciiBytes (renderLines lsA)) =
      match Spec.meaning scE progA.toItems with
      | some m => .ok (toWD progP.meta m)
      | none => .err := by
  obtain ⟨_, h⟩ := progP_ok
  have hb := blocksOK_of_all (items := progA.items) (by decide +kernel)
  rw [assemble_meaning_all cfgE scE progA progU 1 _ unroll (by decide) hb.1 hb.2
    (by decide) cfgE_valid cfgE_size cfgE_rel h.lex h.names h.plain h.nodup h.closed h.small h.ranked
    h.lt h.wf lsA lsA_ok.1 lsA_ok.2.1 _ (decodeRunes_ascii _ lsA_ok.2.2)]
  -- the two `match`es are different auxiliary definitions: compared as they stand, `Spec.meaning`
  -- would be evaluated
  cases Spec.meaning scE progA.toItems <;> rfl

namespace Two

def imm (e : NT) : LOperand := { mode := some .immediate, expr := e }
def datI (a b : NT) : FInstr := { op := "dat", md := none, a := imm a, b := some (imm b) }

def body : FProg := .instr (datI (.name "i") (.bin "+" (.name "i") (.name "n"))) .nil

open Spec.ETok in
def bombI : EItem := .instr [("bomb", false)] "dat" none ⟨some .immediate, [num 0]⟩ none 0

open Spec.ETok in
def ptrI : EItem :=
  .instr [("ptr", false)] "dat" none ⟨some .immediate, [num 0]⟩ (some ⟨some .immediate, [name "start"]⟩) 0

open Spec.ETok in
def progB : AProg :=
  { items := [
      .item (.equ "n" "equ" [num 2] 0),
      .item (.instr [("start", false)] "mov" none ⟨none, [name "bomb"]⟩
        (some ⟨some .bDec, [name "ptr"]⟩) 0),
      .block "i" (.ctr "n") body,
      .item bombI,
      .item ptrI ],
    fin := some ("end", some [name "start"]) }

open Spec.ETok in
def progU : List EItem :=
  [ .equ "n" "equ" [num 2] 0,
    .instr [("start", false)] "mov" none ⟨none, [name "bomb"]⟩ (some ⟨some .bDec, [name "ptr"]⟩) 0,
    toE (datI (.num 1) (.bin "+" (.num 1) (.name "n"))),
    toE (datI (.num 2) (.bin "+" (.num 2) (.name "n"))),
    bombI,
    ptrI ]

abbrev progP : EProg := progB.unrolled progU

example : progB.toItems =
    [.equ "n" [.num 2],
     .instr ["start"] "mov" none ⟨none, [.name "bomb"]⟩ (some ⟨some .bDec, [.name "ptr"]⟩),
     .for_ [] "i" [.name "n"]
       [.instr [] "dat" none ⟨some .immediate, [.name "i"]⟩
         (some ⟨some .immediate, [.name "i", .op "+", .name "n"]⟩)],
     .instr ["bomb"] "dat" none ⟨some .immediate, [.num 0]⟩ none,
     .instr ["ptr"] "dat" none ⟨some .immediate, [.num 0]⟩ (some ⟨some .immediate, [.name "start"]⟩),
     .end_ (some [.name "start"])] := rfl

theorem unroll : AUnroll [] progB.items progU 1 := by
  refine AUnroll.item (AUnroll.item ?_)
  have h := AUnroll.block (eqs := [("n", [Spec.ETok.num 2])]) (c := "i") (cnt := .ctr "n")
    (body := body) 2
    (fun j => [datI (.num (j + 1)) (.bin "+" (.num (j + 1)) (.name "n"))]) (fun _ => 0) rfl
    (by decide)
    (by
      intro j _
      have e : body.subst "i" (j + 1) =
          .instr (datI (.num (j + 1)) (.bin "+" (.num (j + 1)) (.name "n"))) .nil := by
        simp [body, FProg.subst, FInstr.subst, LOperand.subst, datI, imm, substCtr]
      rw [e]
      exact BUnroll.instr BUnroll.nil)
    (AUnroll.item (it := bombI) (AUnroll.item (it := ptrI) (AUnroll.nil _)))
  exact h

theorem progP_ok : ∃ d, progP.Hyps scE d :=
  EProg.okB_sound (aw := fun _ => emptySrcLine) (by decide +kernel)

/-- the canonical one-blank rendering of the program:
    "n equ 2\nstart mov bomb , < ptr\ni for n\ndat # i , # i + n\nrof\nbomb dat # 0\n
     ptr dat # 0 , # start\nend start\n" -/
theorem src_ok : (∀ l ∈ progB.srcLines, l.ok (some '\n') = true) ∧
    ∀ c ∈ renderLines progB.srcLines, c.toNat < 128 := by decide +kernel

theorem example_assemble :
    assemble cfgE (asciiBytes (renderLines progB.srcLines)) =
      match Spec.meaning scE progB.toItems with
      | some m => .ok (toWD progP.meta m)
      | none => .err := by
  obtain ⟨_, h⟩ := progP_ok
  have hb := blocksOK_of_all (items := progB.items) (by decide +kernel)
  rw [assemble_meaning_all cfgE scE progB progU 1 _ unroll (by decide) hb.1 hb.2
    (by decide) cfgE_valid cfgE_size cfgE_rel h.lex h.names h.plain h.nodup h.closed h.small h.ranked
    h.lt h.wf progB.srcLines src_ok.1 (SameLines.refl _) _ (decodeRunes_ascii _ src_ok.2)]
  cases Spec.meaning scE progB.toItems <;> rfl

end Two

end Gmars.AsmComposeAll.Example
