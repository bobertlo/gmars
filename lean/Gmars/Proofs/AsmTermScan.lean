/-
  The symbol scanner on EVERY token list, one walk: it reports a `for` only if the list has a `for`
  token, loops for ever only if the list has no terminating token, and answers "symbol redefined"
  only if the list has an `equ` token (`scan_good`).  C05 reads off `scan_no_fault` here; C08 reads
  off `ForPass.scan_noForTok` in ForPassScan, C03/C09 `AsmCompose.scan_noEquTok` in AsmComposeStages.
-/
import Gmars.Proofs.AsmTermBase

namespace Gmars

def AsmCompose.NoEquTok (l : List Token) : Prop := AsmCompose.TextIn (lowerStr · ≠ "equ") l

namespace ForPass

open Scan AsmCompose

def NoForTok (l : List Token) : Prop := TextIn (lowerStr · ≠ "for") l

def HasTerm (l : List Token) : Prop := ∃ t ∈ l, t.isTerm = true

/-- `res` is a possible answer of a scanner state on the input `l` (look-ahead and unread tokens).
    `E` is "`l` has no `equ` token" outside `scanEquValue`, which is entered behind an `equ`, and
    `False` inside. -/
def Good (E : Prop) (l : List Token) (res : Scan.Res) : Prop :=
  (NoForTok l → ∀ syms, res ≠ .ok (some (syms, true))) ∧ (HasTerm l → ∀ f, res ≠ .error f) ∧
  (E → res ≠ .ok none)

theorem good_stop {E : Prop} {l : List Token} {syms : SymTab} : Good E l (stop syms) :=
  ⟨fun _ _ h => by simp [stop] at h, fun _ _ h => by simp [stop] at h, fun _ h => by simp [stop] at h⟩

theorem good_hang {E : Prop} {t : Token} {f : Fault} (h : t.isTerm = false) :
    Good E [t] (.error f) :=
  ⟨fun _ _ h => by simp at h, fun hp => by simp [HasTerm, h] at hp, fun _ h => by simp at h⟩

theorem Good.cons {E E' : Prop} {t : Token} {l : List Token} {res : Scan.Res} (h : Good E' l res)
    (ht : t.isTerm = false) (hE : E → E') : Good E (t :: l) res :=
  ⟨fun hnf => h.1 fun x hx => hnf x (List.mem_cons_of_mem _ hx), fun ⟨x, hx, hxt⟩ => h.2.1 <| by
    rcases List.mem_cons.1 hx with rfl | hx
    · rw [ht] at hxt; cases hxt
    · exact ⟨x, hx, hxt⟩, fun he => h.2.2 (hE he)⟩

theorem noEquTok_tail {t : Token} {l l' : List Token} (e : l = l') (h : NoEquTok (t :: l)) :
    NoEquTok l' :=
  fun x hx => h x (List.mem_cons_of_mem _ (e ▸ hx))

def GoodAt (cur : Token) (rest : List Token) : Prop :=
  (∀ lb syms, Good (NoEquTok (cur :: rest)) (cur :: rest) (scanLabels cur rest lb syms)) ∧
  (∀ syms, Good (NoEquTok (cur :: rest)) (cur :: rest) (scanConsumeLine cur rest syms)) ∧
  (∀ vb lb syms, Good False (cur :: rest) (scanEquValue cur rest vb lb syms))

/-- `consume(f)`, the step every state takes from a look-ahead that does not end the stream:
    it hangs when the input is exhausted, stops at a tokEOF and goes on with `F` otherwise -/
theorem good_next {E : Prop} {E' : Token → List Token → Prop} {cur : Token} {rest : List Token}
    (hc : cur.isTerm = false) (st : String)
    (syms : SymTab) (F : Token → List Token → Scan.Res)
    (ih : ∀ t r, rest = t :: r → Good (E' t r) (t :: r) (F t r) ∧ (E → E' t r)) :
    Good E (cur :: rest)
      (match (generalizing := false) rest with
       | [] => .error (.hang st)
       | t :: r => if t.typ == .eof then stop syms else F t r) := by
  cases rest with
  | nil => exact good_hang hc
  | cons t r =>
    simp only
    split
    · exact good_stop
    · exact (ih t r rfl).1.cons hc (ih t r rfl).2

theorem GoodAt.line {t : Token} {r : List Token} (h : GoodAt t r) (syms : SymTab) :
    Good (NoEquTok (t :: r)) (t :: r) (scanLine t r syms) := by
  unfold scanLine
  split
  · exact h.1 _ _
  · exact h.2.1 _

theorem good_consume (cur : Token) (rest : List Token) (syms : SymTab)
    (ih : ∀ t r, rest = t :: r → GoodAt t r) :
    Good (NoEquTok (cur :: rest)) (cur :: rest) (scanConsumeLine cur rest syms) := by
  rw [scanConsumeLine.eq_def]
  split
  · have hc : cur.isTerm = false := (isTerm_false_iff _).2 (by simp_all)
    exact good_next hc _ _ (fun t r => scanLine t r syms)
      (fun t r h => ⟨(ih t r h).line syms, noEquTok_tail h⟩)
  · exact good_stop
  · exact good_stop
  · have hc : cur.isTerm = false := (isTerm_false_iff _).2 (by simp_all)
    exact good_next hc _ _ (fun t r => scanConsumeLine t r syms)
      (fun t r h => ⟨(ih t r h).2.1 _, noEquTok_tail h⟩)

theorem good_equ (cur : Token) (rest : List Token) (vb : List Token) (lb : List String)
    (syms : SymTab) (ih : ∀ t r, rest = t :: r → GoodAt t r) :
    Good False (cur :: rest) (scanEquValue cur rest vb lb syms) := by
  rw [scanEquValue.eq_def]
  by_cases h : (cur.typ == .newline || cur.typ == .eof || cur.typ == .error) = true
  · rw [if_pos h]
    cases define vb lb syms with
    | none => exact ⟨fun _ _ h => by simp at h, fun _ _ h => by simp at h, False.elim⟩
    | some s1 =>
      by_cases hn : cur.typ = .newline
      · have hc : cur.isTerm = false := (isTerm_false_iff _).2 (by rw [hn]; simp)
        simp only [hn, beq_self_eq_true, if_true]
        exact good_next hc _ _ (fun t r => scanLine t r _)
          (fun t r h => ⟨(ih t r h).line _, False.elim⟩)
      · simp only [beq_iff_eq, hn, if_false]
        exact good_stop
  · rw [if_neg h]
    have hc : cur.isTerm = false := (isTerm_false_iff _).2 (by simp_all)
    cases rest with
    | nil => exact good_hang hc
    | cons t r => exact ((ih t r rfl).2.2 _ _ _).cons hc id

theorem slab_op {cur : Token} {rest : List Token} {lb : List String} {syms : SymTab}
    (h1 : cur.typ = .text) (h2 : cur.isPseudoOp = false) (h3 : cur.isOp = true) :
    scanLabels cur rest lb syms = scanConsumeLine cur rest syms := by
  rw [scanLabels.eq_def]
  simp [h1, h2, h3]

theorem good_labels (cur : Token) (rest : List Token) (lb : List String) (syms : SymTab)
    (ih : ∀ t r, rest = t :: r → GoodAt t r) :
    Good (NoEquTok (cur :: rest)) (cur :: rest) (scanLabels cur rest lb syms) := by
  have hcl := fun syms => good_consume cur rest syms ih
  have hlab := fun (hc : cur.isTerm = false) lb' =>
    good_next (E := NoEquTok (cur :: rest)) hc "scanLabels" syms (fun t r => scanLabels t r lb' syms)
      (fun t r h => ⟨(ih t r h).1 _ _, noEquTok_tail h⟩)
  -- the text tokens first: one `split` over the whole of `scanLabels` is much dearer
  by_cases h1 : cur.typ = .text
  · have hc : cur.isTerm = false := (isTerm_false_iff _).2 (by rw [h1]; simp)
    cases hp : cur.isPseudoOp with
    | false =>
      cases ho : cur.isOp with
      | true => rw [slab_op h1 hp ho]; exact hcl _
      | false =>
        rw [scanLabels.eq_def]
        simp only [h1, hp, ho, Bool.false_eq_true, ↓reduceIte]
        exact hlab hc _
    | true =>
      rw [scanLabels.eq_def]
      simp only [h1, hp, ↓reduceIte]
      split
      · -- behind an `equ` the definition may fail: "symbol redefined"
        exact good_next hc _ _ (fun t r => scanEquValue t r [] lb syms)
          (fun t r h => ⟨(ih t r h).2.2 _ _ _,
            fun hne => hne cur (List.mem_cons_self ..) h1 ‹_›⟩)
      · exact ⟨fun hnf => absurd ‹_› (hnf cur (List.mem_cons_self ..) h1),
          fun _ _ h => by simp [stop] at h, fun _ h => by simp [stop] at h⟩
      · exact good_stop
      · exact hcl _
  · rw [scanLabels.eq_def]
    split
    · exact absurd ‹_› h1
    · exact hlab ((isTerm_false_iff _).2 (by simp [*])) lb
    · exact hlab ((isTerm_false_iff _).2 (by simp [*])) lb
    · exact hlab ((isTerm_false_iff _).2 (by simp [*])) lb
    · exact good_stop
    · exact hcl _

/-- the three mutually recursive state functions all consume one token per call, so the
    induction is on the remaining input, with the three facts bundled in `GoodAt` -/
theorem goodAt (rest : List Token) : ∀ cur, GoodAt cur rest := by
  have step : ∀ {cur : Token} {rest : List Token},
      (∀ t r, rest = t :: r → GoodAt t r) → GoodAt cur rest := fun ih =>
    ⟨fun lb syms => good_labels _ _ lb syms ih, fun syms => good_consume _ _ syms ih,
      fun vb lb syms => good_equ _ _ vb lb syms ih⟩
  induction rest with
  | nil => exact fun cur => step (fun _ _ h => by cases h)
  | cons t r ih => exact fun cur => step (fun t' r' h => by cases h; exact ih t)

theorem scanLine_term (z : Token) (rest : List Token) (syms : SymTab) (hz : z.isTerm = true) :
    scanLine z rest syms = stop syms := by
  rw [scanLine, scanConsumeLine.eq_def]
  rcases (isTerm_iff _).1 hz with h | h <;> simp [h]

theorem scan_good (ts : List Token) : Good (NoEquTok ts) ts (scanInput ts) := by
  cases ts with
  | nil => rw [scanInput, scanLine_term _ _ _ rfl]; exact good_stop
  | cons t r => exact (goodAt r t).line []

end ForPass

theorem hasTerm_of_terminated {ts : List Token} (h : Terminated ts) : ForPass.HasTerm ts := by
  obtain ⟨pre, t, rfl, ht, _⟩ := h
  exact ⟨t, by simp, ht⟩

theorem scan_no_fault {ts : List Token} (h : Terminated ts) : ∀ f, scanInput ts ≠ .error f :=
  (ForPass.scan_good ts).2.1 (hasTerm_of_terminated h)

/-- the `true` of the answer is the scanner's `forSeen`, set on a `for` text token only -/
theorem scanInput_forSeen {ts : List Token} {syms : SymTab}
    (h : scanInput ts = .ok (some (syms, true))) : ∃ t r, ts = t :: r ∧ t.isTerm = false := by
  cases ts with
  | nil => rw [scanInput, ForPass.scanLine_term _ _ _ rfl] at h; cases h
  | cons t r =>
    refine ⟨t, r, rfl, Bool.eq_false_iff.2 fun ht => ?_⟩
    rw [scanInput, ForPass.scanLine_term _ _ _ ht] at h
    cases h

end Gmars
