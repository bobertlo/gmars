/-
  queue.go: the ring buffer refines a bounded FIFO list (C02 `queue_push_refines`, `queue_pop_refines`, `queue_values_refines`).
-/
import Gmars.Proofs.Abs

namespace Gmars

private theorem mod_ne_of_lt {s i l n : Nat} (hil : i < l) (hln : l < n) :
    (s + i) % n ≠ (s + l) % n := by
  intro heq
  have h0 := Nat.sub_mod_eq_zero_of_mod_eq heq.symm
  have h1 : (s + l) - (s + i) = l - i := by omega
  rw [h1, Nat.mod_eq_of_lt (by omega)] at h0
  omega

theorem UInt64.toNat_pos_of_ne_zero {x : UInt64} (hz : x ≠ 0) : 0 < x.toNat :=
  Nat.pos_of_ne_zero fun h => hz (UInt64.toNat_inj.mp h)

private theorem toNat_add_one {x : UInt64} (h : x.toNat + 1 < 2 ^ 64) :
    (x + 1).toNat = x.toNat + 1 := by
  rw [UInt64.toNat_add, UInt64.toNat_one, Nat.mod_eq_of_lt h]

theorem PQ.toList_length (q : PQ) : q.toList.length = q.length.toNat := by
  simp [PQ.toList]

theorem PQ.length_eq_zero_iff (q : PQ) : q.length = 0 ↔ q.toList = [] := by
  rw [← List.length_eq_zero_iff, PQ.toList_length, ← UInt64.toNat_inj]
  rfl

private theorem PQ.head?_toList {q : PQ} (h : q.Inv) (hz : q.length ≠ 0) :
    q.toList.head? = some (q.queue.getD q.start.toNat 0) := by
  obtain ⟨n, hn⟩ : ∃ n, q.length.toNat = n + 1 :=
    ⟨q.length.toNat - 1, by have := UInt64.toNat_pos_of_ne_zero hz; omega⟩
  simp only [PQ.toList, hn, List.range_succ_eq_map, List.map_cons, List.head?_cons,
    Nat.add_zero, Nat.mod_eq_of_lt h.start]

theorem PQ.new_inv (size : UInt64) (h : 0 < size.toNat) :
    (PQ.new size).Inv ∧ (PQ.new size).toList = [] ∧ (PQ.new size).size = size := by
  refine ⟨⟨?_, h, ?_, ?_, ?_⟩, ?_, rfl⟩
  · simp only [PQ.new, Array.size_replicate]
  · simp only [PQ.new, UInt64.toNat_zero, Nat.zero_le]
  · simpa only [PQ.new, UInt64.toNat_zero] using h
  · simp only [PQ.new, UInt64.toNat_zero, Nat.add_zero, Nat.zero_mod]
  · simp only [PQ.toList, PQ.new, UInt64.toNat_zero, List.range_zero, List.map_nil]

theorem PQ.push_ok (q : PQ) (a : UInt64) (h : q.Inv) :
    ∃ q', q.push a = .ok q' ∧ q'.Inv ∧ q'.size = q.size ∧
      q'.toList = (if q.toList.length < q.size.toNat then q.toList ++ [a] else q.toList) := by
  have hI := h
  obtain ⟨hqs, hpos, hlen, hstart, hend⟩ := h
  unfold PQ.push
  by_cases hfull : q.length ≥ q.size
  · rw [if_pos hfull]
    have hle : q.size.toNat ≤ q.length.toNat := UInt64.le_iff_toNat_le.mp hfull
    refine ⟨q, rfl, hI, rfl, ?_⟩
    rw [PQ.toList_length, if_neg (by omega)]
  · rw [if_neg hfull]
    have hlt : q.length.toNat < q.size.toNat := by
      have : ¬ q.size.toNat ≤ q.length.toNat := fun h => hfull (UInt64.le_iff_toNat_le.mpr h)
      omega
    have he : q.end_.toNat < q.queue.size := by rw [hqs, hend]; exact Nat.mod_lt _ hpos
    have hsz : q.size.toNat < 2 ^ 64 := q.size.toNat_lt
    have he1 := toNat_add_one (x := q.end_) (by rw [hqs] at he; omega)
    have hl1 := toNat_add_one (x := q.length) (by omega)
    rw [dif_pos he]
    refine ⟨_, rfl, ⟨?_, hpos, ?_, hstart, ?_⟩, rfl, ?_⟩
    · simp only [Array.size_set]; exact hqs
    · simp only [hl1]; omega
    · simp only [UInt64.toNat_mod, he1, hl1, hend, Nat.mod_add_mod, Nat.add_assoc]
    · rw [PQ.toList_length, if_pos hlt]
      simp only [PQ.toList, hl1, List.range_succ, List.map_append, List.map_cons, List.map_nil]
      congr 1
      · apply List.map_congr_left
        intro i hi
        rw [List.mem_range] at hi
        simp only [Array.getD_eq_getD_getElem?, Array.getElem?_set, hend,
          if_neg (mod_ne_of_lt hi hlt).symm]
      · simp only [← hend, Array.getD_eq_getD_getElem?, Array.getElem?_set, if_true,
          Option.getD_some]

theorem PQ.pop_ok (q : PQ) (h : q.Inv) :
    ∃ q', q.pop = .ok (q.toList.head?, q') ∧ q'.Inv ∧ q'.size = q.size ∧ q'.toList = q.toList.tail := by
  have hI := h
  obtain ⟨hqs, hpos, hlen, hstart, hend⟩ := h
  unfold PQ.pop
  by_cases hz : q.length = 0
  · have hnil := (PQ.length_eq_zero_iff q).mp hz
    refine ⟨q, ?_, hI, rfl, ?_⟩
    · simp only [hz, beq_self_eq_true, if_true, hnil, List.head?_nil]
    · rw [hnil]; rfl
  · have hne : (q.length == 0) = false := by simpa using hz
    have hlpos : 0 < q.length.toNat := UInt64.toNat_pos_of_ne_zero hz
    have hs : q.start.toNat < q.queue.size := by rw [hqs]; exact hstart
    have hsz : q.size.toNat < 2 ^ 64 := q.size.toNat_lt
    have hs1 := toNat_add_one (x := q.start) (by omega)
    have hl1 : (q.length - 1).toNat = q.length.toNat - 1 := by
      rw [UInt64.toNat_sub_of_le, UInt64.toNat_one]
      rw [UInt64.le_iff_toNat_le, UInt64.toNat_one]; omega
    obtain ⟨n, hn⟩ : ∃ n, q.length.toNat = n + 1 := ⟨q.length.toNat - 1, by omega⟩
    rw [hne, if_neg (by simp), dif_pos hs]
    refine ⟨{ q with start := (q.start + 1) % q.size, length := q.length - 1 }, ?_,
      ⟨hqs, hpos, ?_, ?_, ?_⟩, rfl, ?_⟩
    · rw [PQ.head?_toList hI hz, Array.getD_eq_getD_getElem?, Array.getElem?_eq_getElem hs,
        Option.getD_some]
    · simp only [hl1]; omega
    · simp only [UInt64.toNat_mod, hs1]; exact Nat.mod_lt _ hpos
    · simp only [UInt64.toNat_mod, hs1, hl1, hend, Nat.mod_add_mod]
      congr 1; omega
    · simp only [PQ.toList, UInt64.toNat_mod, hs1, hl1, hn, Nat.add_sub_cancel,
        List.range_succ_eq_map, List.map_cons, List.tail_cons, List.map_map]
      apply List.map_congr_left
      intro i _
      simp only [Function.comp, Nat.mod_add_mod, Nat.succ_eq_add_one]
      congr 2; omega

theorem PQ.get_ok (q : PQ) (h : q.Inv) (i : Nat) (hi : q.start.toNat + i < 2 ^ 64) :
    q.get (UInt64.ofNat i) = .ok (q.queue.getD ((q.start.toNat + i) % q.size.toNat) 0) := by
  obtain ⟨hqs, hpos, hlen, hstart, hend⟩ := h
  have hsz : (q.size == 0) = false := by
    have : q.size ≠ 0 := by
      intro h0; rw [h0, UInt64.toNat_zero] at hpos; omega
    simpa using this
  have hi' : (UInt64.ofNat i).toNat = i := UInt64.toNat_ofNat_of_lt' (by
    show i < 2 ^ 64; omega)
  have hidx : ((q.start + UInt64.ofNat i) % q.size).toNat = (q.start.toNat + i) % q.size.toNat := by
    rw [UInt64.toNat_mod, UInt64.toNat_add, hi', Nat.mod_eq_of_lt hi]
  have hlt : (q.start.toNat + i) % q.size.toNat < q.queue.size := by
    rw [hqs]; exact Nat.mod_lt _ hpos
  unfold PQ.get
  rw [hsz, hidx, Array.getElem?_eq_getElem hlt]
  simp only [Bool.false_eq_true, if_false, Array.getD_eq_getD_getElem?,
    Array.getElem?_eq_getElem hlt, Option.getD_some]

private theorem mapM_ok {α β : Type} (f : α → Except Panic β) (g : α → β) :
    ∀ (l : List α), (∀ x ∈ l, f x = .ok (g x)) → l.mapM f = .ok (l.map g)
  | [], _ => rfl
  | x :: l, h => by
    rw [List.mapM_cons, h x (List.mem_cons_self), mapM_ok f g l (fun y hy => h y (List.mem_cons_of_mem _ hy))]
    rfl

/-- `Values()` returns the abstract list, provided `start + length` does not exceed 2^64
(always the case when `size ≤ 2^63`; see `PQ.values_wraps_above_2_63` for why it is needed). -/
theorem PQ.values_ok (q : PQ) (h : q.Inv) (hw : q.start.toNat + q.length.toNat ≤ 2 ^ 64) :
    q.values = .ok q.toList := by
  unfold PQ.values PQ.toList
  apply mapM_ok
  intro i hi
  rw [List.mem_range] at hi
  exact PQ.get_ok q h i (by omega)

theorem PQ.values_ok_of_size_le (q : PQ) (h : q.Inv) (hs : q.size.toNat ≤ 2 ^ 63) :
    q.values = .ok q.toList :=
  PQ.values_ok q h (by have := h.len; have := h.start; omega)

theorem PQ.next_ok (q : PQ) (h : q.Inv) : q.next = .ok q.toList.head? := by
  unfold PQ.next
  by_cases hz : q.length = 0
  · simp only [hz, beq_self_eq_true, if_true, (PQ.length_eq_zero_iff q).mp hz, List.head?_nil]
  · have hne : (q.length == 0) = false := by simpa using hz
    have hg : q.get 0 = _ := PQ.get_ok q h 0 (by have := q.start.toNat_lt; omega)
    rw [Nat.add_zero, Nat.mod_eq_of_lt h.start] at hg
    rw [hne, if_neg (by simp), hg, PQ.head?_toList h hz]
    rfl

theorem PQ.push_entries_lt (q : PQ) (a m : UInt64) (h : q.Inv) (hq : ∀ x ∈ q.toList, x < m)
    (ha : a < m) : ∀ q', q.push a = .ok q' → ∀ x ∈ q'.toList, x < m := by
  intro q' hq' x hx
  obtain ⟨q'', hp, _, _, hl⟩ := PQ.push_ok q a h
  rw [hp] at hq'
  cases hq'
  rw [hl] at hx
  split at hx
  · rcases List.mem_append.mp hx with hx | hx
    · exact hq x hx
    · rw [List.mem_singleton] at hx; rw [hx]; exact ha
  · exact hq x hx

/-- the queue used in `PQ.values_wraps_above_2_63`: size 2^64-1, start 2^64-2, three entries
occupying slots 2^64-2, 0, 1; slot 1 holds 1, all others 0. -/
def PQ.wrapExample : PQ :=
  { queue := (Array.replicate 18446744073709551615 (0 : UInt64)).setIfInBounds 1 1,
    size := 18446744073709551615, length := 3, start := 18446744073709551614, end_ := 2 }

/-- Counterexample to `values_ok` without the no-wrap hypothesis: for `size > 2^63`
`start + n` in `PQ.get` can wrap around 2^64, and `Values()` then reads the wrong slot. -/
theorem PQ.values_wraps_above_2_63 :
    PQ.wrapExample.Inv ∧ 2 ^ 63 < PQ.wrapExample.size.toNat ∧
    PQ.wrapExample.toList = [0, 0, 1] ∧ PQ.wrapExample.values = .ok [0, 0, 0] ∧
    PQ.wrapExample.values ≠ .ok PQ.wrapExample.toList := by
  have hr : List.range 3 = [0, 1, 2] := by decide
  have hl : PQ.wrapExample.toList = [0, 0, 1] := by
    simp [PQ.toList, PQ.wrapExample, hr, Array.getD_eq_getD_getElem?,
      Array.getElem?_setIfInBounds, Array.getElem?_replicate]
  have hv : PQ.wrapExample.values = .ok [0, 0, 0] := by
    simp [PQ.values, PQ.get, PQ.wrapExample, hr, Array.getElem?_setIfInBounds,
      Array.getElem?_replicate]
    rfl
  refine ⟨⟨?_, by decide, by decide, by decide, by decide⟩, by decide, hl, hv, ?_⟩
  · simp [PQ.wrapExample]
  · rw [hl, hv]; intro h; injection h with h; exact absurd h (by decide)

end Gmars
