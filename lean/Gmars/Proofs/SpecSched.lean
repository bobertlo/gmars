/-
  The reference scheduler `Spec.Api` on its own, no model state in sight: one `turn` by cases
  (`turn_cases`), what a battle leaves unchanged (`SameSig`), the counters along a battle (the last
  survivor stays, a run ends finished), and the reference side of `SpawnWarrior` and `Reset`
  (`spawn_eq`, `spawn_reject`, `reset_erase`).
-/
import Gmars.Spec.Api

namespace Gmars
open Spec

theorem Spec.Api.living_set (a : Api) (i : Nat) (aw aw' : SW) (haw : a.ws[i]? = some aw) (c : Core) :
    ({ a with core := c, ws := a.ws.set i aw' } : Api).living + (if aw.st == .alive then 1 else 0) =
      a.living + (if aw'.st == .alive then 1 else 0) := by
  obtain ⟨hlt, rfl⟩ := List.getElem?_eq_some_iff.mp haw
  unfold Api.living
  dsimp only
  rw [← List.countP_eq_length_filter, ← List.countP_eq_length_filter, List.countP_set hlt]
  have := List.boole_getElem_le_countP (p := fun w : SW => w.st == .alive) hlt
  omega

def Spec.Api.turned (a : Api) (i : Nat) (aw : SW) (pc : Nat) (rest : List Nat) : Api :=
  let r := step a.M a.R a.W a.core pc
  let q' := enqueue a.P rest r.succ
  { a with core := r.core,
           ws := a.ws.set i { aw with q := q', st := if q'.isEmpty then .dead else aw.st } }

def Spec.Api.turnEvs (a : Api) (i pc : Nat) (rest : List Nat) : List Ev :=
  let r := step a.M a.R a.W a.core pc
  [Ev.exec i pc ((List.range a.M).filter (fun x => a.core.getD x default != r.core.getD x default))
      (mayTouch a.M a.R a.W a.core pc)] ++
    (if r.succ.isEmpty then [Ev.taskDied i pc] else []) ++
    (if (enqueue a.P rest r.succ).isEmpty then [Ev.warriorDied i pc] else [])

theorem Spec.Api.turn_skip (a : Api) (i : Nat) (aw : SW) (haw : a.ws[i]? = some aw)
    (hst : aw.st ≠ .alive) : a.turn i = (a, []) := by
  unfold Api.turn
  simp only [haw]
  exact if_pos (bne_iff_ne.mpr hst)

theorem Spec.Api.turn_alive (a : Api) (i : Nat) (aw : SW) (haw : a.ws[i]? = some aw)
    (hst : aw.st = .alive) (pc : Nat) (rest : List Nat) (hq : aw.q = pc :: rest) :
    a.turn i = (a.turned i aw pc rest, a.turnEvs i pc rest) := by
  unfold Api.turn Api.turned Api.turnEvs
  simp only [haw, hst, hq, bne_self_eq_false, Bool.false_eq_true, if_false]
  split
  · rfl
  · simp only [List.append_nil]

/-- alive without tasks: the branch whose comment in `RunCycle` speaks of a zombie -/
theorem Spec.Api.turn_stuck (a : Api) (i : Nat) (aw : SW) (haw : a.ws[i]? = some aw)
    (hst : aw.st = .alive) (hq : aw.q = []) :
    a.turn i = ({ a with ws := a.ws.set i { aw with st := .dead } }, []) := by
  unfold Api.turn
  simp only [haw, hst, hq, bne_self_eq_false, Bool.false_eq_true, if_false]

theorem Spec.Api.turned_living (a : Api) (i : Nat) (w : SW) (pc : Nat) (rest : List Nat)
    (hw : a.ws[i]? = some w) (hst : w.st = .alive) :
    (a.turned i w pc rest).living +
      (if (enqueue a.P rest (step a.M a.R a.W a.core pc).succ).isEmpty then 1 else 0)
        = a.living := by
  unfold Api.turned
  dsimp only
  generalize enqueue a.P rest (step a.M a.R a.W a.core pc).succ = q'
  have h := Api.living_set a i w { w with q := q', st := if q'.isEmpty then .dead else w.st } hw
    (step a.M a.R a.W a.core pc).core
  cases he : q'.isEmpty <;> simpa [he, hst] using h

theorem Spec.Api.turn_cases (a : Api) (i : Nat) :
    a.turn i = (a, []) ∨ ∃ w, a.ws[i]? = some w ∧ w.st = .alive ∧
      ((w.q = [] ∧ a.turn i = ({ a with ws := a.ws.set i { w with st := .dead } }, [])) ∨
        ∃ pc rest, w.q = pc :: rest ∧ a.turn i = (a.turned i w pc rest, a.turnEvs i pc rest)) := by
  cases hw : a.ws[i]? with
  | none => left; unfold Api.turn; rw [hw]
  | some w =>
    by_cases hst : w.st = .alive
    · refine Or.inr ⟨w, rfl, hst, ?_⟩
      by_cases hq : w.q = []
      · exact Or.inl ⟨hq, a.turn_stuck i w hw hst hq⟩
      · obtain ⟨pc, rest, hq⟩ := List.exists_cons_of_ne_nil hq
        exact Or.inr ⟨pc, rest, hq, a.turn_alive i w hw hst pc rest hq⟩
    · exact Or.inl (a.turn_skip i w hw hst)

/-- the early-stop test inside `Spec.Api.turns`, under a name -/
def stopCond (a a' : Api) : Bool :=
  a'.living < a.living && a'.ws.length > 1 && a'.living == 1

theorem stopCond_iff {a a' : Api} :
    stopCond a a' = true ↔ a'.living < a.living ∧ a'.ws.length > 1 ∧ a'.living = 1 := by
  unfold stopCond
  simp only [Bool.and_eq_true, decide_eq_true_eq, beq_iff_eq, and_assoc]

theorem Spec.Api.turns_cons (a : Api) (i : Nat) (is : List Nat) :
    a.turns (i :: is) =
      if stopCond a (a.turn i).1 then ((a.turn i).1, (a.turn i).2, true)
      else (((a.turn i).1.turns is).1, (a.turn i).2 ++ ((a.turn i).1.turns is).2.1,
        ((a.turn i).1.turns is).2.2) := by
  rw [Api.turns]
  rfl

theorem Spec.Api.turns_cons_fst (a : Api) (i : Nat) (is : List Nat) :
    (a.turns (i :: is)).1 =
      if stopCond a (a.turn i).1 then (a.turn i).1 else ((a.turn i).1.turns is).1 := by
  rw [Api.turns_cons]
  split <;> rfl

theorem Spec.Api.turns_cons_stop (a : Api) (i : Nat) (is : List Nat) :
    (a.turns (i :: is)).2.2 =
      if stopCond a (a.turn i).1 then true else ((a.turn i).1.turns is).2.2 := by
  rw [Api.turns_cons]
  split <;> rfl

theorem Spec.Api.turns_stop (a : Api) (is : List Nat) (h : (a.turns is).2.2 = true) :
    (a.turns is).1.living = 1 ∧ (a.turns is).1.ws.length > 1 := by
  induction is generalizing a with
  | nil => simp [Api.turns] at h
  | cons i is ih =>
    rw [Api.turns_cons_stop] at h
    rw [Api.turns_cons_fst]
    by_cases hc : stopCond a (a.turn i).1 = true
    · rw [if_pos hc]
      obtain ⟨-, hlen, h1⟩ := stopCond_iff.mp hc
      exact ⟨h1, hlen⟩
    · rw [if_neg hc] at h ⊢
      exact ih _ h

theorem Spec.Api.cycle_fst (a : Api) :
    a.cycle.1 =
      if a.finished then a
      else if (a.turns (List.range a.ws.length)).2.2 then (a.turns (List.range a.ws.length)).1
      else { (a.turns (List.range a.ws.length)).1 with
               cycles := (a.turns (List.range a.ws.length)).1.cycles + 1 } := by
  unfold Api.cycle
  split
  · rfl
  · dsimp only
    split <;> rfl

theorem Spec.Api.run_of_finished (a : Api) (k : Nat) (h : a.finished = true) : a.run k = (a, []) := by
  cases k with
  | zero => rfl
  | succ k => rw [Api.run, if_pos h]

theorem Spec.Api.run_succ (a : Api) (k : Nat) (h : ¬ a.finished = true) :
    (a.run (k + 1)).1 = (a.cycle.1.run k).1 := by
  rw [Api.run, if_neg h]

theorem Spec.Api.not_finished (a : Api) (h : ¬ a.finished = true) :
    a.cycles < a.C ∧ a.living ≥ 1 ∧ ¬ (a.ws.length > 1 ∧ a.living = 1) := by
  unfold Api.finished at h
  simp only [Bool.or_eq_true, Bool.and_eq_true, decide_eq_true_eq, beq_iff_eq, not_or] at h
  omega

theorem Spec.Api.finished_of_living_zero (a : Api) (h : a.living = 0) : a.finished = true := by
  unfold Api.finished
  simp [h]

theorem Spec.Api.finished_of_single (a : Api) (h : a.living = 1) (hl : a.ws.length > 1) :
    a.finished = true := by
  unfold Api.finished
  simp [h, hl]

def Spec.SW.sig (w : SW) : List SInstr × Nat := (w.code, w.start)

def Spec.Api.sig (a : Api) : List (List SInstr × Nat) := a.ws.map SW.sig

structure Spec.Api.SameSig (a a' : Api) : Prop where
  M : a'.M = a.M
  R : a'.R = a.R
  W : a'.W = a.W
  P : a'.P = a.P
  C : a'.C = a.C
  sig : a'.sig = a.sig

theorem Spec.Api.SameSig.refl (a : Api) : SameSig a a := ⟨rfl, rfl, rfl, rfl, rfl, rfl⟩

theorem Spec.Api.SameSig.trans {a a' a'' : Api} (h : SameSig a a') (h' : SameSig a' a'') :
    SameSig a a'' :=
  ⟨h'.M.trans h.M, h'.R.trans h.R, h'.W.trans h.W, h'.P.trans h.P, h'.C.trans h.C,
   h'.sig.trans h.sig⟩

theorem Spec.Api.SameSig.len {a a' : Api} (h : SameSig a a') : a'.ws.length = a.ws.length := by
  have := congrArg List.length h.sig
  simpa only [Api.sig, List.length_map] using this

theorem Spec.Api.SameSig.set (a : Api) (i : Nat) (w : SW) {w' : SW} (c : Core) (hw : a.ws[i]? = some w)
    (hc : w'.code = w.code) (hs : w'.start = w.start) :
    SameSig a { a with core := c, ws := a.ws.set i w' } := by
  refine ⟨rfl, rfl, rfl, rfl, rfl, ?_⟩
  obtain ⟨hlt, rfl⟩ := List.getElem?_eq_some_iff.mp hw
  have hsig : w'.sig = a.ws[i].sig := Prod.ext hc hs
  show (a.ws.set i w').map SW.sig = a.ws.map SW.sig
  rw [List.map_set, hsig, ← List.getElem_map SW.sig, List.set_getElem_self]
  rwa [List.length_map]

theorem Spec.Api.spawn_some {a a' : Api} {wi : Int} {off : Nat} (h : a.spawn wi off = some a') :
    ∃ w, a.ws[wi.toNat]? = some w ∧ w.st ≠ .alive ∧
      a' = { a with
        core := loadAt a.M a.core off w.code,
        ws := a.ws.set wi.toNat { w with st := .alive, q := enqueue a.P [] [(off + w.start) % a.M],
                                         stale := false, spawned := true } } := by
  unfold Api.spawn at h
  cases hw : a.ws[wi.toNat]? with
  | none => simp [hw] at h
  | some w =>
    simp only [hw, Option.ite_none_left_eq_some, Option.some.injEq] at h
    exact ⟨w, rfl, by simpa using h.2.1, h.2.2.symm⟩

theorem Spec.loadAt_mod (M : Nat) (c : Core) (off : Nat) (code : List SInstr) :
    loadAt M c (off % M) code = loadAt M c off code := by
  unfold loadAt
  simp only [Nat.mod_add_mod]

/-- C12 `spawn_mod`, C13 `ref_spawn_mod` -/
theorem Spec.Api.spawn_mod (a : Api) (wi : Int) (off : Nat) :
    a.spawn wi (off % a.M) = a.spawn wi off := by
  unfold Api.spawn
  simp only [Spec.loadAt_mod, Nat.mod_add_mod]

theorem Spec.Api.spawn_sameSig {a a' : Api} {wi : Int} {off : Nat} (h : a.spawn wi off = some a') :
    SameSig a a' := by
  obtain ⟨w, hw, -, rfl⟩ := Api.spawn_some h
  exact SameSig.set a _ w _ hw rfl rfl

theorem Spec.Api.turn_sameSig (a : Api) (i : Nat) : SameSig a (a.turn i).1 := by
  rcases a.turn_cases i with h | ⟨w, hw, -, ⟨-, h⟩ | ⟨pc, rest, -, h⟩⟩ <;> rw [h]
  · exact SameSig.refl a
  · exact SameSig.set a i w a.core hw rfl rfl
  · exact SameSig.set a i w _ hw rfl rfl

theorem Spec.Api.turns_sameSig (a : Api) (is : List Nat) : SameSig a (a.turns is).1 := by
  induction is generalizing a with
  | nil => exact SameSig.refl a
  | cons i is ih =>
    rw [Api.turns_cons_fst]
    split
    · exact a.turn_sameSig i
    · exact (a.turn_sameSig i).trans (ih _)

theorem Spec.Api.cycle_sameSig (a : Api) : SameSig a a.cycle.1 := by
  have h := a.turns_sameSig (List.range a.ws.length)
  rw [Api.cycle_fst]
  split
  · exact SameSig.refl a
  · split
    · exact h
    · exact ⟨h.M, h.R, h.W, h.P, h.C, h.sig⟩

theorem Spec.Api.run_sameSig (a : Api) (k : Nat) : SameSig a (a.run k).1 := by
  induction k generalizing a with
  | zero => exact SameSig.refl a
  | succ k ih =>
    by_cases hf : a.finished = true
    · rw [Api.run_of_finished a _ hf]; exact SameSig.refl a
    · rw [Api.run_succ a k hf]
      exact a.cycle_sameSig.trans (ih _)

/-! The counters along a battle: a turn kills at most one warrior, so a battle of two or more never
    loses its last survivor, and a run ends finished. -/

theorem Spec.Api.turn_facts (a : Api) (i : Nat) :
    (a.turn i).1.cycles = a.cycles ∧
      (a.turn i).1.living ≤ a.living ∧ a.living ≤ (a.turn i).1.living + 1 := by
  rcases a.turn_cases i with h | ⟨w, hw, hst, ⟨-, h⟩ | ⟨pc, rest, -, h⟩⟩ <;> rw [h] <;> dsimp only
  · exact ⟨rfl, Nat.le_refl _, Nat.le_succ _⟩
  · have hl := Api.living_set a i w { w with st := .dead } hw a.core
    simp only [hst, beq_self_eq_true, if_true, show (WSt.dead == WSt.alive) = false from rfl,
      Bool.false_eq_true, if_false, Nat.add_zero] at hl
    exact ⟨rfl, by omega, by omega⟩
  · have hl := a.turned_living i w pc rest hw hst
    split at hl <;> exact ⟨rfl, by omega, by omega⟩

theorem Spec.Api.turns_cycles (a : Api) (is : List Nat) : (a.turns is).1.cycles = a.cycles := by
  induction is generalizing a with
  | nil => rfl
  | cons i is ih =>
    rw [Api.turns_cons_fst]
    split
    · exact (a.turn_facts i).1
    · exact (ih _).trans (a.turn_facts i).1

/-- each turn kills at most one warrior and the loop stops as soon as exactly one of several is
    left -/
theorem Spec.Api.turns_living_pos (a : Api) (is : List Nat) (h : a.living ≥ 2) :
    (a.turns is).1.living ≥ 1 := by
  induction is generalizing a with
  | nil => exact Nat.le_trans (by decide) h
  | cons i is ih =>
    obtain ⟨_, h4, h5⟩ := a.turn_facts i
    have h1 := (a.turn_sameSig i).len
    have hlen : a.living ≤ a.ws.length := List.length_filter_le _ _
    rw [Api.turns_cons_fst]
    simp only [stopCond_iff]
    split
    · omega
    · apply ih
      omega

theorem Spec.Api.cycle_living_pos (s : Api) (h2 : s.ws.length ≥ 2) (hl : s.living ≥ 1) :
    (s.cycle.1).living ≥ 1 := by
  rw [Api.cycle_fst]
  by_cases hf : s.finished = true
  · rw [if_pos hf]; exact hl
  · rw [if_neg hf]
    obtain ⟨_, _, hns⟩ := s.not_finished hf
    have h := s.turns_living_pos (List.range s.ws.length) (by omega)
    split <;> exact h

/-- A battle with at least two warriors never loses its last survivor; Survivor carries this to
    the model and the command-line tool (C17). -/
theorem Spec.Api.run_living_pos (s : Api) (fuel : Nat) (h2 : s.ws.length ≥ 2) (hl : s.living ≥ 1) :
    ((s.run fuel).1).living ≥ 1 := by
  induction fuel generalizing s with
  | zero => exact hl
  | succ k ih =>
    by_cases hf : s.finished = true
    · rw [Api.run_of_finished s _ hf]; exact hl
    · rw [Api.run_succ s k hf]
      exact ih _ (by rw [s.cycle_sameSig.len]; exact h2) (s.cycle_living_pos h2 hl)

theorem living_pos (s : Api) (h2 : s.ws.length ≥ 2) (hl : s.living ≥ 1) :
    (s.cycle.1).living ≥ 1 ∧ ∀ fuel, ((s.run fuel).1).living ≥ 1 :=
  ⟨s.cycle_living_pos h2 hl, fun fuel => s.run_living_pos fuel h2 hl⟩

theorem Spec.Api.cycle_progress (s : Api) (hf : ¬ s.finished = true) :
    s.cycle.1.cycles = s.cycles + 1 ∨ s.cycle.1.finished = true := by
  have h2 := s.turns_cycles (List.range s.ws.length)
  rw [Api.cycle_fst, if_neg hf]
  by_cases hstop : (s.turns (List.range s.ws.length)).2.2 = true
  · rw [if_pos hstop]
    obtain ⟨hl1, hlen1⟩ := Api.turns_stop s _ hstop
    exact Or.inr (Api.finished_of_single _ hl1 hlen1)
  · rw [if_neg hstop]
    exact Or.inl (by rw [← h2])

theorem Spec.Api.run_finished (s : Api) (fuel : Nat) (h : fuel ≥ s.C - s.cycles + 1) :
    (s.run fuel).1.finished = true := by
  induction fuel generalizing s with
  | zero => omega
  | succ k ih =>
    by_cases hf : s.finished = true
    · rw [Api.run_of_finished s _ hf]; exact hf
    · rw [Api.run_succ s k hf]
      obtain ⟨hlt, _, _⟩ := s.not_finished hf
      rcases s.cycle_progress hf with hc | hc
      · exact ih _ (by rw [s.cycle_sameSig.C, hc]; omega)
      · rw [Api.run_of_finished _ _ hc]; exact hc

theorem Spec.Api.any_alive_of_living (a : Api) (h : a.living ≥ 1) :
    (a.ws.map (fun w => w.st == .alive)).any id = true := by
  obtain ⟨w, hw⟩ := List.exists_mem_of_length_pos h
  rw [List.mem_filter] at hw
  exact List.any_eq_true.mpr ⟨true, List.mem_map.mpr ⟨w, hw.1, hw.2⟩, rfl⟩

theorem Spec.Api.spawn_living (a a' : Api) (wi : Int) (off : Nat) (h : a.spawn wi off = some a') :
    a'.living = a.living + 1 := by
  obtain ⟨w, hw, hst, rfl⟩ := Api.spawn_some h
  have hl := Api.living_set a wi.toNat w
    { w with st := .alive, q := enqueue a.P [] [(off + w.start) % a.M], stale := false,
             spawned := true } hw (loadAt a.M a.core off w.code)
  have h0 : (w.st == WSt.alive) = false := by simpa using hst
  simpa only [h0, Bool.false_eq_true, if_false, beq_self_eq_true, if_true, Nat.add_zero] using hl

theorem Spec.Api.add_spawn_isSome (a : Api) (code : List SInstr) (start : Nat) (wi : Int)
    (h0 : 0 ≤ wi) (hwi : wi.toNat = a.ws.length) (off : Nat) :
    ((a.add code start).spawn wi off).isSome = true := by
  have h1 : ¬ wi < 0 := by omega
  simp [Api.spawn, Api.add, h1, hwi]

theorem Spec.Api.reset_sig (a : Api) : a.reset.sig = a.sig := by
  simp only [Api.sig, Api.reset, List.map_map]
  rfl

theorem Spec.Api.spawn_eq (a : Api) (wi : Int) (off : Nat) (h0 : 0 ≤ wi) (w : SW)
    (hw : a.ws[wi.toNat]? = some w) (hst : w.st ≠ .alive) :
    a.spawn wi off = some { a with
      core := loadAt a.M a.core off w.code,
      ws := a.ws.set wi.toNat { w with st := .alive, q := enqueue a.P [] [(off + w.start) % a.M],
                                       stale := false, spawned := true } } := by
  unfold Api.spawn
  have h1 : ¬ wi < 0 := by omega
  have h2 : (w.st == WSt.alive) = false := by simpa using hst
  simp only [h1, if_false, hw, h2, Bool.false_eq_true]

theorem Spec.Api.spawn_reject (a : Api) (wi : Int) (off : Nat)
    (h : wi < 0 ∨ a.ws.length ≤ wi.toNat ∨
      ∃ hlt : wi.toNat < a.ws.length, a.ws[wi.toNat].st = .alive) :
    a.spawn wi off = none := by
  unfold Api.spawn
  rcases h with h | h | ⟨hlt, h⟩
  · simp only [h, if_true]
  · split
    · rfl
    · rw [List.getElem?_eq_none h]
  · split
    · rfl
    · rw [List.getElem?_eq_getElem hlt]
      simp only [h, beq_self_eq_true, if_true]

def Spec.Api.freshWith (M R W P C : Nat) (sigs : List (List SInstr × Nat)) : Api :=
  sigs.foldl (fun b w => b.add w.1 w.2) (Api.new M R W P C)

/-- forget the bookkeeping of a reference warrior that only matters once it has been spawned:
    the contents of its (stale) queue and the flags `stale`, `spawned` -/
def Spec.SW.erase (w : SW) : SW := { w with q := [], stale := false, spawned := false }

def Spec.Api.erase (a : Api) : Api := { a with ws := a.ws.map SW.erase }

theorem Spec.Api.foldl_add (sigs : List (List SInstr × Nat)) (b : Api) :
    sigs.foldl (fun b w => b.add w.1 w.2) b =
      { b with ws := b.ws ++ sigs.map (fun w => { code := w.1, start := w.2 }) } := by
  induction sigs generalizing b with
  | nil => simp
  | cons x xs ih =>
    rw [List.foldl_cons, ih]
    simp only [Api.add, List.map_cons, List.append_assoc, List.cons_append, List.nil_append]

theorem Spec.Api.freshWith_eq (M R W P C : Nat) (sigs : List (List SInstr × Nat)) :
    Api.freshWith M R W P C sigs =
      { M, R, W, P, C, core := List.replicate M default,
        ws := sigs.map (fun w => { code := w.1, start := w.2 }) } := by
  unfold Api.freshWith
  rw [Api.foldl_add]
  simp only [Api.new, List.nil_append]

/-- the reference half of `reset_fresh` (C13) -/
theorem Spec.Api.reset_erase (a : Api) :
    a.reset.erase = Api.freshWith a.M a.R a.W a.P a.C a.sig := by
  rw [Api.freshWith_eq]
  simp only [Api.erase, Api.reset, Api.sig, List.map_map]
  rfl

end Gmars
