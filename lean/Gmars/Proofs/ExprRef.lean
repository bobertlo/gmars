/-
  The reference evaluator `Spec.Expr.eval` computes the denotation of every precedence-well-formed
  concrete syntax tree.
-/
import Gmars.Proofs.ExprClimb

namespace Gmars.ExprProofs
open Gmars.Spec Gmars.Spec.Expr

theorem apply_int (op : String) (a b : Int) (h : isArith op) :
    apply op (.int a) (.int b) = (binVal op a b).map V.int := by
  rcases h with h | h | h | h | h <;> subst h
  · rfl
  · rfl
  · rfl
  · show (if b = 0 then none else _) = (if b = 0 then none else _).map V.int
    split <;> rfl
  · show (if b = 0 then none else _) = (if b = 0 then none else _).map V.int
    split <;> rfl

def refClimber : Climber where
  τ := ETok
  ν := V
  num := .num
  op := .op
  lp := .lp
  rp := .rp
  toks := CST.etoks
  vnum n := .int n
  sgn s v := match v with
    | .int i => some (.int (if s then -i else i))
    | _ => none
  app := apply
  prec := Spec.Expr.prec
  U := unary
  B := binary
  L := loop
  toks_eq c := by cases c <;> rfl
  prec_eq _ _ := rfl
  op_inj _ _ h := ETok.op.inj h
  op_ne_rp _ h := nomatch h
  U_num _ _ _ := by rw [unary]
  U_sgn f s r := by
    cases s
    · rw [show signStr false = "+" from rfl, unary]
      cases unary f r with
      | none => rfl
      | some x => obtain ⟨v, r'⟩ := x; cases v <;> rfl
    · rw [show signStr true = "-" from rfl, unary]
      cases unary f r with
      | none => rfl
      | some x => obtain ⟨v, r'⟩ := x; cases v <;> rfl
  U_lp f r d rest h := by
    rw [unary, h]
    cases d <;> rfl
  B_eq f ts p := by
    rw [binary]
    cases unary f ts <;> rfl
  L_stop F x rest p1 h := by
    unfold loop
    split
    · rename_i o r
      have hc : (Spec.Expr.prec o < p1 || Spec.Expr.prec o == 0) = true := by
        rcases h o r rfl with h | h <;> simp [h]
      simp only [hc, if_true]
    · rfl
  L_step F x o r p1 hp h0 := by
    rw [loop]
    have hc : (Spec.Expr.prec o < p1 || Spec.Expr.prec o == 0) = false := by
      simp [h0]; omega
    simp only [hc]
    cases binary F r (Spec.Expr.prec o + 1) <;> rfl

theorem refClimber_den (c : CST) (hw : WFprec c) : refClimber.den c = (denote c).map V.int := by
  induction c with
  | num n => rfl
  | signs ss e ih =>
    simp only [WFprec] at hw
    simp only [Climber.den, denote, ih hw.2]
    generalize denote e = d
    induction ss with
    | nil => cases d <;> rfl
    | cons s ss ih' =>
      show Option.bind (ss.foldr _ _) (refClimber.sgn s) = _
      rw [ih']
      cases d <;> rfl
  | paren e ih => simp only [WFprec] at hw; exact ih hw
  | bin op l r ihl ihr =>
    simp only [WFprec] at hw
    simp only [Climber.den, denote, ihl hw.2.1, ihr hw.2.2.1]
    cases denote l <;> cases denote r <;> first | rfl | exact apply_int op _ _ hw.1

theorem reference_eval_cst (c : CST) (hw : WFprec c) :
    Spec.Expr.eval c.etoks = (denote c).map Spec.Expr.V.int := by
  unfold Spec.Expr.eval
  rw [CST.etoks_length]
  have := refClimber.eval c hw
  rw [refClimber_den c hw] at this
  show (match binary (3 * c.ntoks + 3) c.etoks 1 with | some (v, []) => some v | _ => none) = _
  rw [show binary (3 * c.ntoks + 3) c.etoks 1 = _ from this]
  cases denote c <;> rfl

theorem reference_evalInt_cst (c : CST) (hw : WFprec c) :
    Spec.Expr.evalInt c.etoks =
      (denote c).bind (fun v => if -2147483648 ≤ v ∧ v ≤ 2147483647 then some v else none) := by
  unfold Spec.Expr.evalInt
  rw [reference_eval_cst c hw]
  cases denote c <;> rfl

theorem evalInt_num (n : Nat) :
    Spec.Expr.evalInt [.num n] = if n < 2 ^ 31 then some (n : Int) else none := by
  show (if -2147483648 ≤ (n : Int) ∧ (n : Int) ≤ 2147483647 then some (n : Int) else none) = _
  by_cases h : n < 2 ^ 31
  · rw [if_pos h, if_pos (by omega)]
  · rw [if_neg h, if_neg (by omega)]

end Gmars.ExprProofs
