/-
  C09 (loader half) and C16: the round-trip theorems. `load_printG` and `load_print` are the cases
  without filler lines, and with single blanks, of `load_print_any_layout`.

  `load_print` has the hypothesis `start < 2^31`: the loader reads the `ORG`/`END` argument with
  `ParseInt(_, 10, 32)`, so a load file with a larger entry point is rejected
  (`load_print_large_start`); without it the statement is false for a warrior with more than
  `2^31` instructions.
-/
import Gmars.Proofs.LoadLayout
import Gmars.Proofs.RoundTripB

namespace Gmars.RoundTrip
open Gmars.GoStr Gmars.LoadLayout

/-- rejected at its first line, the `ORG` line (`readAct_org`), whatever the code -/
theorem load_printG_large_start (cfg : Config) (d : DirGaps) (lines : List (Gaps × Instr))
    (start : Nat) (hd : d.ok) (hl : ∀ p ∈ lines, p.1.ok) (h94 : (cfg.mode == .icws88) = false)
    (hs : 2 ^ 31 ≤ start) :
    parseLoadFile cfg (printLoadG false d lines start) = .ok none := by
  have hfail : lineOf false cfg.coreSize {} (dirBody d "ORG".toList start ++ ['\n']) = .ok .fail := by
    have := dir_line false cfg.coreSize {} { gaps := d } kw_word.1 start hd (.inl allSpace_nl)
    rw [show dirBodyM [] d "ORG".toList start = dirBody d "ORG".toList start by
        rw [dirBodyM, recase_nil]; rfl,
      show toLower "ORG".toList = "org".toList by decide, readAct_org, if_neg (by omega)] at this
    exact this
  unfold parseLoadFile
  simp only [h94, Bool.false_eq_true, if_false, bind, Except.bind]
  rw [printLoadG_94, readLines_lines]
  · simp only [List.map_cons]
    rw [show line94 cfg.coreSize = lineOf false cfg.coreSize from rfl, loadLoop_fail hfail]
  · intro l hl'
    rcases List.mem_cons.1 hl' with rfl | hl'
    · exact fun c hc => (dtext_plain hd kw_word.1 (word_digits _) c hc).2
    · obtain ⟨p, hp, rfl⟩ := List.mem_map.1 hl'
      exact fun c hc => (itext_plain _ _ ⟨hl p hp, word_opWord false p.2, word_digits _, word_digits _⟩
        comma_one c hc).2

/-- C09 (loader half), with arbitrary blanks: any layout of the load-file text of a warrior
    with blanks/tabs between the fields is accepted and yields exactly the warrior. -/
theorem load_printG (cfg : Config) (d : DirGaps) (lines : List (Gaps × Instr)) (start : Nat)
    (hd : d.ok) (hM : cfg.coreSize.toNat < 2 ^ 63)
    (hl : ∀ p ∈ lines, LineOK cfg.coreSize (cfg.mode == .icws88) p)
    (hstart : start < lines.length) (hs : start < 2 ^ 31) :
    parseLoadFile cfg (printLoadG (cfg.mode == .icws88) d lines start) =
      .ok (some { name := "Unknown", author := "Anonymous", strategy := "",
                  code := (lines.map (·.2)).toArray, start := (start : Int) }) := by
  have hok := ofGaps_ok cfg.coreSize (cfg.mode == .icws88) d lines hd hl
  have h := load_print_any_layout cfg (Layout.ofGaps d lines) start hok.1 hok.2 hM
    (by simpa [Layout.ofGaps] using hstart) hs
  rw [render_ofGaps] at h
  simpa [Layout.ofGaps, List.map_map, Function.comp_def] using h

/-- C09, loader half: `parseLoadFile` accepts the canonical load-file text of a warrior and
    returns exactly the warrior. -/
theorem load_print (cfg : Config) (code : List Instr) (start : Nat)
    (hM0 : 0 < cfg.coreSize.toNat) (hM : cfg.coreSize.toNat < 2 ^ 63)
    (hf : ∀ i ∈ code, i.a.toNat < cfg.coreSize.toNat ∧ i.b.toNat < cfg.coreSize.toNat)
    (hstart : start < code.length)
    (hl : (cfg.mode == .icws88) = true → ∀ i ∈ code, Spec.Legal88 i = true)
    (hs31 : start < 2 ^ 31) :
    parseLoadFile cfg (Spec.printLoad (cfg.mode == .icws88) code start) =
      .ok (some { name := "Unknown", author := "Anonymous", strategy := "",
                  code := code.toArray, start := (start : Int) }) := by
  -- `hM0` is not needed: `hf` on the instruction at `start` already makes the core non-empty
  have _ := hM0
  rw [printLoad_eq]
  have h := load_printG cfg {} (code.map (fun i => ({}, i))) start
    canonDir_ok hM
    (by
      intro p hp
      obtain ⟨i, hi, rfl⟩ := List.mem_map.1 hp
      exact ⟨canonGaps_ok, UInt64.lt_iff_toNat_lt.2 (hf i hi).1, UInt64.lt_iff_toNat_lt.2 (hf i hi).2,
        fun h => hl h i hi⟩)
    (by simpa using hstart) hs31
  simpa [List.map_map, Function.comp_def] using h

theorem load_print_large_start (cfg : Config) (code : List Instr) (start : Nat)
    (h94 : (cfg.mode == .icws88) = false) (hs : 2 ^ 31 ≤ start) :
    parseLoadFile cfg (Spec.printLoad false code start) = .ok none := by
  rw [printLoad_eq]
  apply load_printG_large_start cfg {} _ start
    canonDir_ok _ h94 hs
  intro p hp
  obtain ⟨i, _, rfl⟩ := List.mem_map.1 hp
  exact canonGaps_ok

/-- C16. (The bounds on `m` and on the fields are not needed, see `listing_roundtrip_gen`.) -/
theorem listing_roundtrip (m : UInt64) (legacy : Bool) (w : WarriorData)
    (_hm0 : 0 < m.toNat) (_hm : m.toNat < 2 ^ 63)
    (hs : 0 ≤ w.start) (hlt : w.start < w.code.size)
    (_hf : ∀ i ∈ w.code.toList, i.a.toNat < m.toNat ∧ i.b.toNat < m.toNat)
    (hl : legacy = true → ∀ i ∈ w.code.toList, Spec.Legal88 i = true) :
    ∃ t, Spec.readText (loadCode m legacy w) = some t ∧
      Spec.denotes m.toNat t w.code.toList w.start = true :=
  listing_roundtrip_gen m legacy w hs hlt hl

end Gmars.RoundTrip

