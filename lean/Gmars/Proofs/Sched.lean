/-
  C02 / C04: `RunCycle` and `Run`.  Every level (one task, one warrior's turn, the warrior loop, a
  cycle, the run loop) has one lemma of the shape

      s.WF → Ok (s.f …) (fun r => W s r ∧ ∀ a, s.Bounds → Rel s a → R s a r)

  `W`: what holds for every core size and all limits ≥ 1 (no panic, invariant, progress);
  `R`: within the bounds of C01 the result is the reference scheduler's (`Spec.Api`).
-/
import Gmars.Proofs.SchedBasics
import Gmars.Proofs.ExecHom
import Gmars.Proofs.Refine
import Gmars.Proofs.ApiWF
import Gmars.Proofs.ReportsEff

namespace Gmars
open Spec

theorem Rel.update {s s' : Sim} {a : Api} (h : Rel s a) (hs : Same s s') (i : Nat)
    {c' : Core} (hc : s'.absCore = c')
    (hothers : ∀ j, j ≠ i → s'.warriors[j]? = s.warriors[j]?)
    (w' : Warrior) (hw' : s'.warriors[i]? = some w') {aw' : SW}
    (hst : aw'.st = w'.state.abs) (hq : aw'.q = w'.absQueue) :
    Rel s' { a with core := c', ws := a.ws.set i aw' } where
  M := by rw [hs.m]; exact h.M
  R := by rw [hs.readLimit]; exact h.R
  W := by rw [hs.writeLimit]; exact h.W
  P := by rw [hs.maxProcs]; exact h.P
  C := by rw [hs.maxCycles]; exact h.C
  core := hc.symm
  cycles := by rw [hs.cycle]; exact h.cycles
  len := by simp only [List.length_set]; rw [hs.wsize]; exact h.len
  ws := by
    intro j hj hj'
    simp only [List.length_set] at hj'
    simp only [List.getElem_set]
    by_cases hji : i = j
    · subst hji
      obtain ⟨_, rfl⟩ := Array.getElem?_eq_some_iff.mp hw'
      rw [if_pos rfl]
      exact ⟨hst, fun _ => hq⟩
    · have hj2 : j < s.warriors.size := by rw [← hs.wsize]; exact hj
      have h1 := hothers j (Ne.symm hji)
      rw [Array.getElem?_eq_getElem hj, Array.getElem?_eq_getElem hj2] at h1
      rw [if_neg hji, Option.some.inj h1]
      exact h.ws j hj2 hj'

def pops (l : List Report) : List (Int × Nat) :=
  (l.filter (fun r => r.typ == .taskPop)).map (fun r => (r.wi, r.addr.toNat))

def execs (evs : List Ev) : List (Int × Nat) :=
  evs.filterMap (fun e => match e with
    | .exec wi pc _ _ => some (Int.ofNat wi, pc)
    | _ => none)

theorem pops_append (l l' : List Report) : pops (l ++ l') = pops l ++ pops l' := by
  simp [pops]

theorem execs_append (l l' : List Ev) : execs (l ++ l') = execs l ++ execs l' :=
  List.filterMap_append

theorem pops_eq_nil (l : List Report) (h : ∀ r ∈ l, r.typ ≠ .taskPop) : pops l = [] := by
  unfold pops
  rw [List.map_eq_nil_iff, List.filter_eq_nil_iff]
  intro r hr
  simpa using h r hr

def popReport (s : Sim) (i : Nat) (pc : UInt64) : Report :=
  { typ := .taskPop, cycle := s.cycleCount.toNat, wi := i, addr := pc }

def termReport (s : Sim) (i : Nat) (pc : UInt64) : Report :=
  { typ := .warriorTerminate, cycle := s.cycleCount.toNat, wi := i, addr := pc }

theorem pops_cons_of_ne {r : Report} (h : r.typ ≠ .taskPop) (l : List Report) :
    pops (r :: l) = pops l := by
  simp [pops, h]

theorem pops_popReport (s : Sim) (i : Nat) (pc : UInt64) (l : List Report) :
    pops (popReport s i pc :: l) = (Int.ofNat i, pc.toNat) :: pops l := by
  simp [pops, popReport]

def LogRel (s s' : Sim) (evs : List Ev) : Prop :=
  ∃ new : List Report, s'.log.toList = s.log.toList ++ new ∧ pops new = execs evs

theorem LogRel.refl (s : Sim) : LogRel s s [] := ⟨[], by simp, rfl⟩

theorem LogRel.trans {s s' s'' : Sim} {e e' : List Ev} (h : LogRel s s' e) (h' : LogRel s' s'' e') :
    LogRel s s'' (e ++ e') := by
  obtain ⟨n, hn, hp⟩ := h
  obtain ⟨n', hn', hp'⟩ := h'
  exact ⟨n ++ n', by rw [hn', hn, List.append_assoc], by rw [pops_append, execs_append, hp, hp']⟩

theorem execs_turnEvs (a : Api) (i pc : Nat) (rest : List Nat) :
    execs (a.turnEvs i pc rest) = [(Int.ofNat i, pc)] := by
  unfold Api.turnEvs
  simp only [execs_append]
  split <;> split <;> rfl

/-- facts about the state `s2` reached by `exec` from `s.popped …`, phrased relative to `s` -/
structure AfterExec (s s2 : Sim) (a : Api) (i : Nat) (pc : UInt64) (rest : List UInt64)
    (q2 : PQ) : Prop where
  same   : Same s s2
  core   : s2.absCore = (step a.M a.R a.W a.core pc.toNat).core
  size   : s2.mem.size = s.mem.size
  fields : s2.FieldsOK
  others : ∀ j, j ≠ i → s2.warriors[j]? = s.warriors[j]?
  lt     : i < s2.warriors.size
  pq     : ∀ h : i < s2.warriors.size, s2.warriors[i].pq = some q2
  idx    : ∀ h : i < s2.warriors.size, s2.warriors[i].index = i
  state  : ∀ h : i < s2.warriors.size, s2.warriors[i].state = .alive
  inv    : q2.Inv
  qsize  : q2.size = s.maxProcs
  ent    : ∀ x ∈ q2.toList, x < s.m
  list   : q2.toList.map (·.toNat) =
             enqueue a.P (rest.map (·.toNat)) (step a.M a.R a.W a.core pc.toNat).succ
  living : s2.living = s.living
  log    : ∃ new : List Report, s2.log.toList = s.log.toList ++ popReport s i pc :: new ∧
             pops new = []

theorem Sim.killed_same (s : Sim) (i : Nat) (h : i < s.warriors.size) (pc : UInt64) :
    Same s (s.killed i h pc) :=
  ⟨rfl, rfl, rfl, rfl, rfl, by simp [Sim.killed], rfl, rfl, rfl⟩

theorem AfterExec.isEmpty {s s2 : Sim} {a : Api} {i : Nat} {pc : UInt64} {rest : List UInt64}
    {q2 : PQ} (h : AfterExec s s2 a i pc rest q2) :
    (enqueue a.P (rest.map (·.toNat)) (step a.M a.R a.W a.core pc.toNat).succ).isEmpty
      = decide (q2.length = 0) := by
  rw [← h.list, List.isEmpty_map, Bool.eq_iff_iff, List.isEmpty_iff, decide_eq_true_iff]
  exact (PQ.length_eq_zero_iff q2).symm

/-- the early return of `RunCycle` after a death (`WarriorCount > 1 && living == 1`, on the
    model's `int` counters) is the reference's `stopCond` -/
theorem stop_after_death {a a' : Api} (h : a'.living + 1 = a.living) :
    (if Int.ofNat a'.ws.length > 1 ∧ Int.ofNat a'.living = 1 then some (Int.ofNat a'.living)
      else none) = if stopCond a a' then some 1 else none := by
  have hlt : a'.living < a.living := by omega
  simp only [stopCond_iff, hlt, true_and]
  by_cases hc : a'.ws.length > 1 ∧ a'.living = 1
  · rw [if_pos hc, if_pos ⟨Int.ofNat_lt.mpr hc.1, congrArg Int.ofNat hc.2⟩, hc.2]
    rfl
  · rw [if_neg hc, if_neg (fun hc' => hc ⟨Int.ofNat_lt.mp hc'.1, Int.ofNat.inj hc'.2⟩)]

theorem stopCond_of_living_eq {a a' : Api} (h : a'.living = a.living) : stopCond a a' = false :=
  Bool.eq_false_iff.mpr fun hc => Nat.lt_irrefl _ (h ▸ (stopCond_iff.mp hc).1)

theorem Rel.report {s : Sim} {a : Api} (h : Rel s a) (r : Report) : Rel (s.report r) a :=
  ⟨h.M, h.R, h.W, h.P, h.C, h.core, h.cycles, h.len, h.ws⟩

theorem Pre.report {s : Sim} (h : Pre s) (r : Report) : Pre (s.report r) :=
  ⟨h.wf.report r, h.m32, h.rl, h.wl⟩

theorem LogRel.report_left {s s' : Sim} {e : List Ev} {r : Report} (h : LogRel (s.report r) s' e)
    (hr : r.typ ≠ .taskPop) : LogRel s s' e := by
  obtain ⟨n, hn, hp⟩ := h
  exact ⟨r :: n, by simp [hn, Sim.report], (pops_cons_of_ne hr n).trans hp⟩

theorem LogRel.push_right {s s' s'' : Sim} {e : List Ev} {r : Report} (h : LogRel s s' e)
    (hr : r.typ ≠ .taskPop) (hl : s''.log = s'.log.push r) : LogRel s s'' e := by
  obtain ⟨n, hn, hp⟩ := h
  refine ⟨n ++ [r], by simp [hl, hn], ?_⟩
  rw [pops_append, pops_cons_of_ne hr, hp]
  exact List.append_nil _

/-- the test with which `Run()` leaves its loop right after a cycle that returned `n` -/
def Sim.earlyExit (s : Sim) (n : Int) : Prop :=
  (s.warriors.size = 1 ∧ n = 0) ∨ (s.warriors.size > 1 ∧ n = 1)

instance (s : Sim) (n : Int) : Decidable (s.earlyExit n) := by
  unfold Sim.earlyExit; exact inferInstance

theorem Sim.runLoop_succ (s : Sim) (k : Nat) (hf : s.finished = false) (s1 : Sim) (n : Int)
    (hrun : s.runCycle = .ok (s1, n)) :
    s.runLoop (k + 1) = if s.earlyExit n then .ok (s1, true) else s1.runLoop k := by
  rw [Sim.runLoop]
  simp only [hf, Bool.false_eq_true, if_false, bind, Except.bind, hrun, Bool.and_eq_true,
    beq_iff_eq, decide_eq_true_eq]
  by_cases he1 : s.warriors.size = 1 ∧ n = 0
  · rw [if_pos he1, if_pos (show s.earlyExit n from Or.inl he1)]
  · rw [if_neg he1]
    by_cases he2 : s.warriors.size > 1 ∧ n = 1
    · rw [if_pos he2, if_pos (show s.earlyExit n from Or.inr he2)]
    · rw [if_neg he2, if_neg (fun h : s.earlyExit n => h.elim he1 he2)]

def Sim.iterCycles (s : Sim) : Nat → Except Panic (Sim × Bool)
  | 0 => .ok (s, false)
  | fuel + 1 =>
    if s.finished then .ok (s, true)
    else do
      let (s', _) ← s.runCycle
      s'.iterCycles fuel

/-- One task, from the state in which `RunCycle` calls `exec`: no panic and what it can touch of
    the invariant from `Mid.exec`, within the bounds a `Spec.step` from `ExecPre.walk`. Both walks
    start from the same `ExecPre`. -/
theorem exec_task {s : Sim} {wi : Nat} {q : PQ} (hp : ExecPre s wi q) {pc : UInt64}
    (hpc : pc < s.m) :
    Ok (s.exec pc wi) (fun s' => ∃ q', Frame s s' wi ∧ s'.FieldsOK ∧
      (∃ hlt : wi < s.warriors.size,
        s'.warriors = s.warriors.set wi { s.warriors[wi] with pq := some q' } hlt) ∧
      q'.Inv ∧ q'.size = q.size ∧ (∀ a ∈ q'.toList, a < s.m) ∧
      (s.Bounds →
        s'.absCore =
          (step s.m.toNat s.readLimit.toNat s.writeLimit.toNat s.absCore pc.toNat).core ∧
        q'.toList.map (·.toNat) = enqueue q.size.toNat (q.toList.map (·.toNat))
          (step s.m.toNat s.readLimit.toNat s.writeLimit.toNat s.absCore pc.toNat).succ)) := by
  obtain ⟨s', hex, h⟩ := hp.mid.exec hp.rl hp.wl hpc
  obtain ⟨q', h1, hinv, hsz, hent, _⟩ := h.queue
  obtain ⟨hlt, _⟩ := pqOf_some hp.pq
  have hws := h.frame.warriors_eq hlt h1
  refine ⟨s', hex, q', h.frame, fun i hi => h.m_eq ▸ h.fields i hi, ⟨hlt, hws⟩, hinv, hsz, hent,
    fun hb => ?_⟩
  obtain ⟨s'', hex', h5, -⟩ := hp.walk hb hpc rfl rfl rfl rfl rfl
  cases hex.symm.trans hex'
  obtain ⟨q'', hq'', -, -, hl⟩ := h5.pq
  have : s'.pqOf wi = some q' := by
    simp only [Sim.pqOf, hws, Array.getElem?_set_self, Option.bind_some]
  cases this.symm.trans hq''
  exact ⟨h5.core, hl⟩

/-- the `W` of a turn and of the whole warrior loop -/
def TurnPost (s : Sim) (r : Sim × Option Int) : Prop :=
  r.1.WF ∧ Same s r.1 ∧ Keep s r.1 ∧
    (r.2 = none ∨ (r.2 = some r.1.living ∧ r.1.warriorCount > 1 ∧ r.1.living = 1))

/-- … and their `R`: the reference state `a'`, its stop flag and its events -/
def TurnSim (s : Sim) (a' : Api) (evs : List Ev) (stop : Bool) (r : Sim × Option Int) : Prop :=
  Rel r.1 a' ∧ r.2 = (if stop then some 1 else none) ∧ LogRel s r.1 evs

theorem Sim.popped_same (s : Sim) (i : Nat) (h : i < s.warriors.size) (q' : PQ) (pc : UInt64) :
    Same s (s.popped i h q' pc) :=
  ⟨rfl, rfl, rfl, rfl, rfl, by simp [Sim.popped, Sim.report], rfl, rfl, rfl⟩

theorem Frame.toSame {s s' : Sim} {wi : Nat} (h : Frame s s' wi) : Same s s' :=
  ⟨h.m, h.maxProcs, h.maxCycles, h.readLimit, h.writeLimit, h.wsize, h.count, h.widx, h.cycle⟩

/-- `s2` is `s` after the task `pc` of the alive warrior `i` has been popped, announced and
    executed; `q2` is the warrior's queue then. Its label is still `alive`: whether it survives
    is decided next, by `q2.length = 0`. -/
structure AfterTask (s s2 : Sim) (i : Nat) (hi : i < s.warriors.size) (pc : UInt64) (q2 : PQ) :
    Prop where
  same   : Same s s2
  size   : s2.mem.size = s.mem.size
  fields : s2.FieldsOK
  living : s2.living = s.living
  ws     : s2.warriors = s.warriors.set i { s.warriors[i] with pq := some q2 } hi
  inv    : q2.Inv
  qsize  : q2.size = s.maxProcs
  ent    : ∀ x ∈ q2.toList, x < s.m
  log    : ∃ new : List Report, s2.log.toList = s.log.toList ++ popReport s i pc :: new ∧
             pops new = []

theorem alive_task {s : Sim} (hwf : s.WF) {i : Nat} (hi : i < s.warriors.size)
    (hst : s.warriors[i].state = .alive) :
    ∃ q pc q' s2 q2, s.warriors[i].pq = some q ∧ q.toList = pc :: q'.toList ∧
      q.pop = .ok (some pc, q') ∧ (s.popped i hi q' pc).exec pc i = .ok s2 ∧
      AfterTask s s2 i hi pc q2 ∧
      ∀ a, s.Bounds → Rel s a → AfterExec s s2 a i pc q'.toList q2 := by
  obtain ⟨q, pc, q', hpq, hpop, hl, hpc, hinv', hsz', hent'⟩ := alive_pop hwf hi hst
  obtain ⟨s2, hex, q2, hfr, hf2, ⟨_, hws⟩, hinv2, hsz2, hent2, hsim⟩ :=
    exec_task (s := s.popped i hi q' pc) (wi := i) (q := q')
      ⟨hwf.size, hwf.m3, hwf.rl, hwf.wl, hwf.fields, by simp [Sim.pqOf, Sim.popped, Sim.report],
        hinv', hent'⟩ hpc
  simp only [Sim.popped, Sim.report, Array.set_set, Array.getElem_set_self] at hws
  obtain ⟨new, hnew, hnp⟩ := exec_log _ _ _ _ hex
  have ht : AfterTask s s2 i hi pc q2 :=
    ⟨(s.popped_same i hi q' pc).trans hfr.toSame, hfr.size, hf2, hfr.living, hws, hinv2,
      hsz2.trans hsz', hent2, new, by rw [hnew]; simp [Sim.popped, Sim.report, popReport],
      pops_eq_nil new hnp⟩
  have hw2 : ∀ h : i < s2.warriors.size,
      s2.warriors[i] = { s.warriors[i] with pq := some q2 } := fun _ => by
    simp only [hws, Array.getElem_set_self]
  refine ⟨q, pc, q', s2, q2, hpq, hl, hpop, hex, ht, fun a hb hr => ?_⟩
  obtain ⟨hcore, hlist⟩ := hsim ⟨hb.m32, hb.rl, hb.wl⟩
  exact
    { ht with
      core := by rw [hcore, hr.M, hr.R, hr.W, hr.core]; rfl
      others := fun j hj => by rw [hws]; exact Array.getElem?_set_ne hi (Ne.symm hj)
      lt := by rw [hws, Array.size_set]; exact hi
      pq := fun h => by rw [hw2 h]
      idx := fun h => by rw [hw2 h]; exact (hwf.warriors i hi).1
      state := fun h => by rw [hw2 h]; exact hst
      list := by rw [hlist, hsz', hr.P, hr.M, hr.R, hr.W, hr.core]; rfl }

/-- The end of the turn, both ways at once: `s3` is `s2`, or `s2.killed …` — the warrior's label
    `st` says whether its queue is empty, and the living count follows. The reference's `turned`
    labels the warrior in the same way. -/
theorem AfterTask.turn {s s2 s3 : Sim} {i : Nat} {hi : i < s.warriors.size} {pc : UInt64}
    {q q2 : PQ} {rest : List UInt64} (h : AfterTask s s2 i hi pc q2) (hwf : s.WF)
    (hst : s.warriors[i].state = .alive) (hpq : s.warriors[i].pq = some q)
    (hl : q.toList = pc :: rest)
    (hafter : ∀ a, s.Bounds → Rel s a → AfterExec s s2 a i pc rest q2)
    (hs : Same s2 s3) (hm : s3.mem = s2.mem) {st : WState}
    (hst3 : st = if q2.length = 0 then .dead else .alive)
    (hws : s3.warriors = s.warriors.set i { s.warriors[i] with pq := some q2, state := st } hi)
    (hliv : s3.living = s2.living - if q2.length = 0 then 1 else 0)
    {extra : List Report} (hlog : s3.log.toList = s2.log.toList ++ extra)
    (hx : pops extra = []) :
    (s3.WF ∧ Same s s3 ∧ Keep s s3) ∧ ∀ a, s.Bounds → Rel s a →
      Rel s3 (a.turn i).1 ∧ LogRel s s3 (a.turn i).2 ∧
        (a.turn i).1.living + (if q2.length = 0 then 1 else 0) = a.living := by
  have hs3 := h.same.trans hs
  refine ⟨⟨hwf.of_set i hi hs3.m hs3.maxProcs hs3.maxCycles hs3.readLimit hs3.writeLimit
    (by rw [hm]; exact h.size) (fun j hj => ?_) hws
    ⟨(hwf.warriors i hi).1, h.inv, h.qsize, h.ent, ?_, ?_⟩ hs3.count hs3.widx hs3.cycle ?_,
    hs3, hs3.m, hs3.maxCycles, by rw [hws]; exact map_data_set rfl⟩, fun a hb hr => ?_⟩
  · simp only [hm, hs.m] at hj ⊢
    exact h.fields j hj
  -- the label fits the queue (alive: a task left, dead: none) and the living count
  iterate 3
    subst hst3
    by_cases hz : q2.length = 0 <;> simp [hz, hliv, h.living, isAlive, hst]
  -- the reference: its `turn` is `turned`, which labels the warrior by `isEmpty` of the new queue
  have ha := hafter a hb hr
  have hia : i < a.ws.length := by rw [hr.len]; exact hi
  have hast : a.ws[i].st = .alive := (hr.alive_iff hi hia).mpr hst
  have hliv' := a.turned_living i _ pc.toNat (rest.map (·.toNat)) (List.getElem?_eq_getElem hia)
    hast
  rw [ha.isEmpty] at hliv'
  obtain ⟨new, hnew, hnp⟩ := ha.log
  rw [Api.turn_alive a i _ (List.getElem?_eq_getElem hia) hast pc.toNat (rest.map (·.toNat)) (by
    rw [(hr.ws i hi hia).2 (by rw [hst]; nofun), Warrior.absQueue, hpq]
    simp only [hl, List.map_cons])]
  refine ⟨?_, ⟨popReport s i pc :: (new ++ extra), by rw [hlog, hnew]; simp, by
    rw [pops_popReport, pops_append, hnp, hx, execs_turnEvs]; rfl⟩, by simpa using hliv'⟩
  unfold Api.turned
  refine hr.update hs3 i (by rw [← ha.core, Sim.absCore, hm]; rfl)
    (fun j hj => by rw [hws]; exact Array.getElem?_set_ne hi (Ne.symm hj))
    { s.warriors[i] with pq := some q2, state := st }
    (by rw [hws]; exact Array.getElem?_set_self hi) ?_ ha.list.symm
  show (if _ then WSt.dead else a.ws[i].st) = st.abs
  rw [ha.isEmpty, hst3, hast]
  by_cases hz : q2.length = 0 <;> simp [hz, WState.abs]

theorem runWarrior_sim (s : Sim) (i : Nat) (hwf : s.WF) (hi : i < s.warriors.size) :
    Ok (s.runWarrior i) (fun r => TurnPost s r ∧ ∀ a, s.Bounds → Rel s a →
      TurnSim s (a.turn i).1 (a.turn i).2 (stopCond a (a.turn i).1) r) := by
  by_cases hst : s.warriors[i].state = .alive
  · obtain ⟨q, pc, q', s2, q2, hpq, hl, hpop, hex, ht, hafter⟩ := alive_task hwf hi hst
    have h2 : i < s2.warriors.size := by rw [ht.ws, Array.size_set]; exact hi
    rw [runWarrior_alive s i hi q q' pc hst hpq hpop s2 hex h2 q2 (by
      simp only [ht.ws, Array.getElem_set_self])]
    refine Ok.intro ?_
    by_cases hz : q2.length = 0
    · rw [if_pos hz]
      obtain ⟨⟨hwf3, hsame3, hk3⟩, hsim⟩ := ht.turn hwf hst hpq hl hafter
        (s2.killed_same i h2 pc) rfl (if_pos hz).symm
        (by simp only [Sim.killed, ht.ws, Array.set_set, Array.getElem_set_self])
        (by rw [if_pos hz]; rfl) (extra := [termReport s2 i pc])
        (by simp [Sim.killed, termReport]) (by simp [pops, termReport])
      refine ⟨⟨hwf3, hsame3, hk3, ?_⟩, fun a hb hr => ?_⟩
      · split
        · exact Or.inr ⟨rfl, ‹_›⟩
        · exact Or.inl rfl
      · obtain ⟨hrel, hlog, hliv⟩ := hsim a hb hr
        rw [if_pos hz] at hliv
        refine ⟨hrel, ?_, hlog⟩
        show (if _ then _ else _) = _
        simp only [gt_iff_lt]
        rw [hrel.living hwf3, hwf3.count, ← hrel.len]
        exact stop_after_death hliv
    · rw [if_neg hz]
      obtain ⟨⟨hwf3, hsame3, hk3⟩, hsim⟩ := ht.turn hwf hst hpq hl hafter (Same.refl s2) rfl
        (hst.trans (if_neg hz).symm) ht.ws (by rw [if_neg hz]; exact (Int.sub_zero _).symm)
        (extra := []) (by simp) rfl
      refine ⟨⟨hwf3, hsame3, hk3, Or.inl rfl⟩, fun a hb hr => ?_⟩
      obtain ⟨hrel, hlog, hliv⟩ := hsim a hb hr
      rw [if_neg hz] at hliv
      exact ⟨hrel, by rw [stopCond_of_living_eq hliv]; rfl, hlog⟩
  · rw [runWarrior_skip s i hi hst]
    refine Ok.intro ⟨⟨hwf, Same.refl s, Keep.refl s, Or.inl rfl⟩, fun a _ hr => ?_⟩
    have hia : i < a.ws.length := by rw [hr.len]; exact hi
    have hast : a.ws[i].st ≠ .alive := mt (hr.alive_iff hi hia).mp hst
    rw [Api.turn_skip a i _ (List.getElem?_eq_getElem hia) hast]
    exact ⟨hr, by rw [stopCond_of_living_eq rfl]; rfl, LogRel.refl s⟩

theorem ite_some_none {c : Bool} {n : Int} :
    (some n = if c then some 1 else none) → c = true ∧ n = 1 := by
  cases c <;> simp

theorem ite_none {c : Bool} : ((none : Option Int) = if c then some 1 else none) → c = false := by
  cases c <;> simp

theorem runWarriors_sim : ∀ (l : List Nat) (s : Sim), s.WF → (∀ i ∈ l, i < s.warriors.size) →
    Ok (s.runWarriors l) (fun r => TurnPost s r ∧ ∀ a, s.Bounds → Rel s a →
      TurnSim s (a.turns l).1 (a.turns l).2.1 (a.turns l).2.2 r)
  | [], s, hwf, _ => Ok.intro ⟨⟨hwf, Same.refl s, Keep.refl s, Or.inl rfl⟩,
      fun _ _ hr => ⟨hr, rfl, LogRel.refl s⟩⟩
  | i :: l, s, hwf, hl => by
    unfold Sim.runWarriors
    refine Ok.bind (runWarrior_sim s i hwf (hl i List.mem_cons_self)) ?_
    rintro ⟨s1, r⟩ ⟨⟨hwf1, hs1, hk1, hr1⟩, hsim1⟩
    cases r with
    | some n =>
      refine Ok.intro ⟨⟨hwf1, hs1, hk1, hr1⟩, fun a hb hr => ?_⟩
      obtain ⟨hrel, hstop, hlog⟩ := hsim1 a hb hr
      rw [Api.turns_cons, if_pos (ite_some_none hstop).1]
      exact ⟨hrel, hstop.trans (by rw [(ite_some_none hstop).1]), hlog⟩
    | none =>
      refine (runWarriors_sim l s1 hwf1 fun j hj => ?_).mono
        fun r ⟨⟨hwf2, hs2, hk2, hr2⟩, hsim2⟩ =>
          ⟨⟨hwf2, hs1.trans hs2, hk1.trans hk2, hr2⟩, fun a hb hr => ?_⟩
      · rw [hs1.wsize]; exact hl j (List.mem_cons_of_mem _ hj)
      · obtain ⟨hrel, hstop, hlog⟩ := hsim1 a hb hr
        obtain ⟨hrel2, hstop2, hlog2⟩ := hsim2 _ (hb.of_cfg hs1.cfg) hrel
        rw [Api.turns_cons, ite_none hstop]
        exact ⟨hrel2, hstop2, hlog.trans hlog2⟩

/-- the `R` of a cycle -/
def CycleSim (s : Sim) (a : Api) (r : Sim × Int) : Prop :=
  Rel r.1 a.cycle.1 ∧ r.2 = Int.ofNat a.cycle.2.2 ∧ LogRel s r.1 a.cycle.2.1

/-- the `W` of a cycle; the disjunction is the termination measure of `Run` (a cycle is counted,
    or the battle is down to one survivor of several) -/
def CyclePost (s : Sim) (r : Sim × Int) : Prop :=
  r.1.WF ∧ SameCfg s r.1 ∧ Keep s r.1 ∧
    (s.finished = false → r.2 = r.1.living ∧
      (r.1.cycleCount.toNat = s.cycleCount.toNat + 1 ∨ (r.1.warriorCount > 1 ∧ r.1.living = 1)))

theorem count_cycle {s : Sim} (hwf : s.WF) (hlt : s.cycleCount < s.maxCycles) :
    let s' : Sim := { s.report { typ := .cycleEnd, cycle := s.cycleCount.toNat } with
      warriorIndex := 0, cycleCount := s.cycleCount + 1 }
    s'.WF ∧ s'.cycleCount.toNat = s.cycleCount.toNat + 1 ∧
      ∀ a, Rel s a → Rel s' { a with cycles := a.cycles + 1 } := by
  have hcc : (s.cycleCount + 1).toNat = s.cycleCount.toNat + 1 := by
    rw [UInt64.toNat_add, UInt64.toNat_one, Nat.mod_eq_of_lt]
    have := UInt64.lt_iff_toNat_lt.mp hlt
    have := s.maxCycles.toNat_lt
    omega
  exact ⟨{ hwf with
      widx := rfl
      cycle := by
        show s.cycleCount + 1 ≤ s.maxCycles
        rw [UInt64.le_iff_toNat_le, hcc]
        exact UInt64.lt_iff_toNat_lt.mp hlt }, hcc,
    fun a hr => { hr with cycles := by rw [hr.cycles]; exact hcc.symm }⟩

theorem runCycle_sim (s : Sim) (hwf : s.WF) :
    Ok s.runCycle (fun r => CyclePost s r ∧ ∀ a, s.Bounds → Rel s a → CycleSim s a r) := by
  unfold Sim.runCycle CycleSim Api.cycle
  by_cases hf : s.finished = true
  · rw [if_pos hf]
    refine Ok.intro ⟨⟨hwf, SameCfg.refl s, Keep.refl s, fun h => by rw [hf] at h; cases h⟩,
      fun a _ hr => ?_⟩
    rw [if_pos ((hr.finished hwf).symm.trans hf)]
    exact ⟨hr, rfl, LogRel.refl s⟩
  · have hf' : s.finished = false := by simpa using hf
    let s0 := s.report { typ := .cycleStart, cycle := s.cycleCount.toNat }
    have hsame0 : Same s s0 := ⟨rfl, rfl, rfl, rfl, rfl, rfl, rfl, rfl, rfl⟩
    have hw0 : (s.report { typ := .cycleStart, cycle := s.cycleCount.toNat }).warriorIndex = 0 :=
      hwf.widx
    have hn : (s.report { typ := .cycleStart, cycle := s.cycleCount.toNat }).warriorCount.toNat
        = s.warriors.size := by
      show s.warriorCount.toNat = _
      rw [hwf.count]; rfl
    simp only [hf, Bool.false_eq_true, if_false, hwf.widx, beq_self_eq_true, if_true, hw0, hn,
      List.drop_zero]
    refine Ok.bind (runWarriors_sim _ s0 (hwf.report _) fun i hi => List.mem_range.mp hi) ?_
    rintro ⟨s1, r⟩ ⟨⟨hwf1, hs1, hk1, hr1⟩, hsim1⟩
    dsimp only at hwf1 hs1 hk1 hr1 hsim1 ⊢
    have hsame := hsame0.trans hs1
    have hK : Keep s s1 := (Keep.report s _).trans hk1
    -- the reference side, once: the cycle's turns, related to `s1`
    have href : ∀ a, s.Bounds → Rel s a → ¬ a.finished = true ∧
        TurnSim s0 (a.turns (List.range a.ws.length)).1 (a.turns (List.range a.ws.length)).2.1
          (a.turns (List.range a.ws.length)).2.2 (s1, r) := fun a hb hr => by
      rw [hr.len]
      exact ⟨by rw [← hr.finished hwf]; exact hf, hsim1 a (hb.of_cfg hsame0.cfg) (hr.report _)⟩
    cases r with
    | some k =>
      rcases hr1 with hr1 | ⟨hk, h1, h2⟩
      · cases hr1
      cases hk
      refine Ok.intro ⟨⟨hwf1, hsame.cfg, hK, fun _ => ⟨rfl, Or.inr ⟨h1, h2⟩⟩⟩, fun a hb hr => ?_⟩
      obtain ⟨hfa, hrel, hstop, hlog⟩ := href a hb hr
      rw [if_neg hfa, (ite_some_none hstop).1]
      exact ⟨hrel, hrel.living hwf1, hlog.report_left nofun⟩
    | none =>
      obtain ⟨hwf', hcc, hrel'⟩ := count_cycle hwf1 (by
        rw [hsame.cycle, hsame.maxCycles]; exact (not_finished hf').1)
      refine Ok.intro ⟨⟨hwf', ⟨hsame.m, hsame.maxProcs, hsame.maxCycles, hsame.readLimit,
          hsame.writeLimit, hsame.wsize⟩, ⟨hK.m, hK.maxCycles, hK.data⟩,
        fun _ => ⟨rfl, Or.inl (hcc.trans (by rw [hsame.cycle]))⟩⟩, fun a hb hr => ?_⟩
      obtain ⟨hfa, hrel, hstop, hlog⟩ := href a hb hr
      rw [if_neg hfa, ite_none hstop]
      exact ⟨hrel' _ hrel, hrel.living hwf1, (hlog.report_left nofun).push_right
        (r := { typ := .cycleEnd, cycle := s1.cycleCount.toNat }) nofun rfl⟩

theorem CyclePost.step {s s1 : Sim} {n : Int} (h : CyclePost s (s1, n)) (hf : s.finished = false) :
    n = s1.living ∧ if s.earlyExit n then s1.finished = true
      else s1.cycleCount.toNat = s.cycleCount.toNat + 1 := by
  obtain ⟨hwf1, hc1, -, h⟩ := h
  obtain ⟨hn, hprog⟩ := h hf
  clear h
  dsimp only at hwf1 hc1 hn hprog
  subst hn
  have hcount : s1.warriorCount = Int.ofNat s.warriors.size := by rw [hwf1.count, hc1.wsize]
  refine ⟨rfl, ?_⟩
  split
  · rename_i he
    rcases he with ⟨-, h0⟩ | ⟨h1, h2⟩
    · exact finished_of (Or.inl (by rw [h0]; decide))
    · exact finished_of (Or.inr ⟨by rw [hcount]; exact Int.ofNat_lt.mpr h1, h2⟩)
  · rename_i he
    rcases hprog with h | ⟨h1, h2⟩
    · exact h
    · rw [hcount] at h1
      exact absurd (Or.inr ⟨Int.ofNat_lt.mp h1, h2⟩) he

theorem runLoop_sim : ∀ (fuel : Nat) (s : Sim), s.WF →
    s.maxCycles.toNat - s.cycleCount.toNat + 1 ≤ fuel →
    Ok (s.runLoop fuel) (fun r => r.2 = true ∧ r.1.WF ∧ SameCfg s r.1 ∧ Keep s r.1 ∧
      r.1.finished = true ∧ s.iterCycles fuel = .ok r ∧
      ∀ a, s.Bounds → Rel s a → Rel r.1 (a.run fuel).1)
  | 0, _, _, hfuel => by omega
  | k + 1, s, hwf, hfuel => by
    by_cases hf : s.finished = true
    · rw [Sim.runLoop, Sim.iterCycles, if_pos hf, if_pos hf]
      exact Ok.intro ⟨rfl, hwf, SameCfg.refl s, Keep.refl s, hf, rfl, fun a _ hr => by
        rw [Api.run_of_finished a _ ((hr.finished hwf).symm.trans hf)]; exact hr⟩
    · have hf' : s.finished = false := by simpa using hf
      have hlt := UInt64.lt_iff_toNat_lt.mp (not_finished hf').1
      obtain ⟨⟨s1, n⟩, hrun, hpost, hsim1⟩ := runCycle_sim s hwf
      obtain ⟨hn, hstep⟩ := hpost.step hf'
      obtain ⟨hwf1, hc1, hk1, -⟩ := hpost
      dsimp only at hwf1 hc1 hk1 hsim1
      rw [Sim.runLoop_succ s k hf' s1 _ hrun, Sim.iterCycles, if_neg hf]
      simp only [bind, Except.bind, hrun]
      -- the reference takes the same cycle
      have href : ∀ a, s.Bounds → Rel s a →
          Rel s1 a.cycle.1 ∧ (a.run (k + 1)).1 = (a.cycle.1.run k).1 := fun a hb hr =>
        ⟨(hsim1 a hb hr).1, Api.run_succ a k (by rw [← hr.finished hwf]; exact hf)⟩
      by_cases he : s.earlyExit n
      · rw [if_pos he] at hstep ⊢
        refine Ok.intro ⟨rfl, hwf1, hc1, hk1, hstep, ?_, fun a hb hr => ?_⟩
        · cases k with
          | zero => omega
          | succ k' => rw [Sim.iterCycles, if_pos hstep]
        · obtain ⟨hrel, hrun'⟩ := href a hb hr
          rw [hrun', Api.run_of_finished _ _ ((hrel.finished hwf1).symm.trans hstep)]
          exact hrel
      · rw [if_neg he] at hstep ⊢
        refine (runLoop_sim k s1 hwf1 (by rw [hc1.maxCycles, hstep]; omega)).mono
          fun r ⟨hb2, hwf2, hc2, hk2, hfin2, hit2, hsim2⟩ =>
            ⟨hb2, hwf2, hc1.trans hc2, hk1.trans hk2, hfin2, hit2, fun a hb hr => ?_⟩
        obtain ⟨hrel, hrun'⟩ := href a hb hr
        rw [hrun']
        exact hsim2 _ (hb.of_cfg hc1) hrel

/-- **C02, one cycle.** `RunCycle` of the model is one cycle of the reference scheduler: the
    same state (core, queues, life-cycle states, cycle count), the same returned living count,
    no panic, and the invariant is preserved. -/
theorem runCycle_refines {s : Sim} {a : Api} (hwf : s.WF) (hm : s.m.toNat ≤ 2 ^ 32)
    (hrl : s.readLimit.toNat ≤ s.m.toNat) (hwl : s.writeLimit.toNat ≤ s.m.toNat) (hr : Rel s a) :
    ∃ s' n, s.runCycle = .ok (s', n) ∧ Rel s' a.cycle.1 ∧ n = Int.ofNat a.cycle.2.2 ∧ s'.WF := by
  obtain ⟨⟨s', n⟩, h, hw, hs⟩ := runCycle_sim s hwf
  exact ⟨s', n, h, (hs a ⟨hm, hrl, hwl⟩ hr).1, (hs a ⟨hm, hrl, hwl⟩ hr).2.1, hw.1⟩

/-- **C02, trace of a cycle.** The `taskPop` reports appended by `RunCycle` name the same
    (warrior, pc) pairs in the same order as the `exec` events of the reference cycle. -/
theorem runCycle_trace {s : Sim} {a : Api} (hwf : s.WF) (hm : s.m.toNat ≤ 2 ^ 32)
    (hrl : s.readLimit.toNat ≤ s.m.toNat) (hwl : s.writeLimit.toNat ≤ s.m.toNat) (hr : Rel s a) :
    ∃ s' n new, s.runCycle = .ok (s', n) ∧ s'.log.toList = s.log.toList ++ new ∧
      pops new = execs a.cycle.2.1 := by
  obtain ⟨⟨s', n⟩, h, -, hs⟩ := runCycle_sim s hwf
  obtain ⟨new, h2, h3⟩ := (hs a ⟨hm, hrl, hwl⟩ hr).2.2
  exact ⟨s', n, new, h, h2, h3⟩

/-- **C02, `Run`.** `Run()` ends (with a result slice) in the same final state as iterating
    cycles on the reference scheduler, and reports its survivors. -/
theorem run_refines {s : Sim} {a : Api} (hwf : s.WF) (hm : s.m.toNat ≤ 2 ^ 32)
    (hrl : s.readLimit.toNat ≤ s.m.toNat) (hwl : s.writeLimit.toNat ≤ s.m.toNat) (hr : Rel s a) :
    ∃ s', s.runLoop (s.maxCycles.toNat + 2) = .ok (s', true) ∧ Rel s' (a.run (a.C + 2)).1 ∧
      s'.results = (a.run (a.C + 2)).1.ws.map (fun w => w.st == .alive) := by
  obtain ⟨⟨s', b⟩, h, hb, -, -, -, -, -, hs⟩ := runLoop_sim (s.maxCycles.toNat + 2) s hwf (by omega)
  cases hb
  have hrel := hs a ⟨hm, hrl, hwl⟩ hr
  rw [← hr.C] at hrel
  exact ⟨s', h, hrel, results_eq hrel⟩

/-- `Run` is the iteration of `RunCycle` on every well-formed state: neither the bounds nor a
    reference state are needed -/
theorem run_eq_iterate_wf {s : Sim} (hwf : s.WF) (fuel : Nat)
    (hfuel : s.maxCycles.toNat - s.cycleCount.toNat + 1 ≤ fuel) :
    s.runLoop fuel = s.iterCycles fuel := by
  obtain ⟨r, h, -, -, -, -, -, hit, -⟩ := runLoop_sim fuel s hwf hfuel
  rw [h, hit]

/-- **C02, `Run` iterates `RunCycle`.** With the fuel `Run` is given, the loop of `Run()` - which
    inspects the count returned by `RunCycle` - computes exactly "repeat `RunCycle` until
    `finished`". -/
theorem run_eq_iterate {s : Sim} {a : Api} (hwf : s.WF) (hm : s.m.toNat ≤ 2 ^ 32)
    (hrl : s.readLimit.toNat ≤ s.m.toNat) (hwl : s.writeLimit.toNat ≤ s.m.toNat) (hr : Rel s a) :
    s.runLoop (s.maxCycles.toNat + 2) = s.iterCycles (s.maxCycles.toNat + 2) :=
  run_eq_iterate_wf hwf _ (by omega)

/-- **C02/C04, `Run` ends.** `Run()` does not panic, does not run out of fuel, ends in a
    `finished` state and preserves the invariant. -/
theorem run_finished {s : Sim} {a : Api} (hwf : s.WF) (hm : s.m.toNat ≤ 2 ^ 32)
    (hrl : s.readLimit.toNat ≤ s.m.toNat) (hwl : s.writeLimit.toNat ≤ s.m.toNat) (hr : Rel s a) :
    ∃ s', s.runLoop (s.maxCycles.toNat + 2) = .ok (s', true) ∧ s'.finished = true ∧ s'.WF := by
  obtain ⟨⟨s', b⟩, h, hb, hwf', -, -, hfin, -⟩ := runLoop_sim (s.maxCycles.toNat + 2) s hwf (by omega)
  cases hb
  exact ⟨s', h, hfin, hwf'⟩

theorem runCycle_wf {s : Sim} (hwf : s.WF) (hc : s.CodeOK) :
    ∃ s' n, s.runCycle = .ok (s', n) ∧ s'.WF ∧ s'.CodeOK := by
  obtain ⟨⟨s', n⟩, h, ⟨h1, -, h2, -⟩, -⟩ := runCycle_sim s hwf
  exact ⟨s', n, h, h1, h2.codeOK hc⟩

theorem run_terminates_wf {s : Sim} (hwf : s.WF) (hc : s.CodeOK) :
    ∃ s', s.runLoop (s.maxCycles.toNat + 2) = .ok (s', true) ∧ s'.WF ∧ s'.CodeOK ∧
      s'.finished = true := by
  obtain ⟨⟨s', b⟩, h, hb, h1, -, h2, h3, -⟩ := runLoop_sim (s.maxCycles.toNat + 2) s hwf (by omega)
  cases hb
  exact ⟨s', h, h1, h2.codeOK hc, h3⟩

end Gmars
