/-
  Token level facts about the renderings of trees that the two sign stages need.
-/
import Gmars.Proofs.ExprCST
import Gmars.Proofs.ExprSigns
import Gmars.Proofs.GoStrLemmas

namespace Gmars.ExprProofs

theorem toString_toList (n : Nat) : (toString n).toList = Nat.toDigits 10 n := by
  show (Nat.repr n).toList = _
  simp [Nat.repr]

theorem numTok_val_ne (n : Nat) (s : String) (c : Char) (hs : s.toList = [c]) (hc : GoStr.isDigit c = false) :
    (numTok n).val ≠ s := by
  intro h
  have h1 := congrArg String.toList h
  simp only [numTok] at h1
  rw [toString_toList, hs] at h1
  have := GoStr.toDigits_all_isDigit n c (by rw [h1]; simp)
  rw [hc] at this; cases this

theorem numTok_ne_minus (n : Nat) : (numTok n).val ≠ "-" := numTok_val_ne n "-" '-' rfl (by decide)
theorem numTok_ne_plus (n : Nat) : (numTok n).val ≠ "+" := numTok_val_ne n "+" '+' rfl (by decide)

theorem isSign_numTok (n : Nat) : isSign (numTok n) = false := by
  simp [isSign, numTok_ne_minus, numTok_ne_plus]

theorem isSign_lpTok : isSign lpTok = false := by decide
theorem isSign_rpTok : isSign rpTok = false := by decide
theorem isSign_signTok (s : Bool) : isSign (signTok s) = true := by cases s <;> decide

theorem signTok_val_minus (s : Bool) : ((signTok s).val == "-") = s := by cases s <;> decide

theorem signTok_true : signTok true = minusTok := rfl
theorem signTok_false : signTok false = plusTok := rfl

theorem atom_head (e : CST) (h : e.isAtom = true) :
    ∃ x r, e.tokens = x :: r ∧ isSign x = false ∧ x.val ≠ "-" ∧ (x.typ == TokType.symbol) = false := by
  cases e with
  | num n => exact ⟨numTok n, [], rfl, isSign_numTok n, numTok_ne_minus n, rfl⟩
  | paren e => exact ⟨lpTok, _, rfl, isSign_lpTok, by decide, rfl⟩
  | signs ss e => cases h
  | bin op l r => cases h

def parity : List Bool → Bool
  | [] => false
  | s :: ss => s ^^ parity ss

theorem signFold_signs (p : Bool) (ss : List Bool) (r : List Token) :
    signFold (some p) (ss.map signTok ++ r) = signFold (some (p ^^ parity ss)) r := by
  induction ss generalizing p with
  | nil => simp [parity]
  | cons s ss ih =>
    rw [List.map_cons, List.cons_append, signFold, if_pos (isSign_signTok s), ih, signTok_val_minus, parity]
    cases s <;> cases p <;> simp

theorem applySigns_cons (s : Bool) (ss : List Bool) (v : Int) :
    applySigns (s :: ss) v = if s then -(applySigns ss v) else applySigns ss v := rfl

theorem applySigns_eq (ss : List Bool) (v : Int) : applySigns ss v = if parity ss then -v else v := by
  induction ss with
  | nil => rfl
  | cons s ss ih =>
    rw [applySigns_cons, ih, parity]
    cases s <;> cases parity ss <;> simp

theorem signFold_cons_of_not_sign (b : Bool) (x : Token) (r : List Token) (hx : isSign x = false) :
    signFold (flagState b) (x :: r) = x :: signFold (afterTok x) r := by
  cases b with
  | false => rfl
  | true => simp [flagState, signFold, hx]

theorem tokens_head (c : CST) :
    ∃ x r, c.tokens = x :: r ∧ (x = lpTok ∨ (∃ s, x = signTok s) ∨ ∃ n, x = numTok n) := by
  induction c with
  | num n => exact ⟨_, [], rfl, .inr (.inr ⟨n, rfl⟩)⟩
  | paren e ih => exact ⟨lpTok, _, rfl, .inl rfl⟩
  | bin op l r ihl ihr =>
    obtain ⟨x, r', hx, h⟩ := ihl
    exact ⟨x, r' ++ opTok op :: r.tokens, by simp [CST.tokens, hx], h⟩
  | signs ss e ih =>
    cases ss with
    | nil => obtain ⟨x, r', hx, h⟩ := ih; exact ⟨x, r', by simp [CST.tokens, hx], h⟩
    | cons s ss => exact ⟨signTok s, _, rfl, .inr (.inl ⟨s, rfl⟩)⟩

end Gmars.ExprProofs
