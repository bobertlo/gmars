/-
  C05, the parser's state functions: the parser is linear, for EVERY token list (terminated or
  not), and on a terminated list it neither hangs nor runs out of fuel.

  `N p` = what the reader can still deliver, look-ahead included. Two potentials never grow along
  a run of the state machine, and both start at `toks.length`:

      M1 = (source lines emitted) + N + owe        owe ∈ {0,1}: a state entered with a look-ahead
                                                   it cannot have in a real run emits without reading
      M2 = (tokens stored in the a/b fields of the emitted lines and of the line under
            construction) + N

  `StepSpec` says of one state function call what it costs in `M1`, `M2` whatever the reader
  holds; that it lowers `φ` whenever it leaves the reader live, on a terminated stream or not
  (`step_live`: a run on a reader that stays live takes at most `φ` calls); and, when the reader
  is live on a terminated stream (`Inv`), that it does not hang and hands over with `Inv` kept.
  `LoopSpec` says the same of the two loops inside the state functions (`skipLoop`, `exprLoop`).
-/
import Gmars.Proofs.AsmTermParse

namespace Gmars
namespace Parser

def N (p : PState) : Nat := if p.atEOF then 0 else p.rest.length + 1

def tokCount (l : SourceLine) : Nat := (l.a.getD []).length + (l.b.getD []).length

def sumToks (ls : Array SourceLine) : Nat := (ls.toList.map tokCount).sum

/-- a state function that emits a line for the token in the look-ahead: entered with any other
    look-ahead (never the case in a run from `parseLine`) it emits without reading -/
def owe : Option St → Token → Nat
  | some .emptyLines, t => if t.typ = .newline then 0 else 1
  | some .comment, t => if t.typ = .comment then 0 else 1
  | some .pseudoOp, t => if t.typ = .text then 0 else 1
  | some .pseudoExpr, t => if t.isExpressionTerm then 0 else 1
  | some .exprA, t => if t.isExpressionTerm then 0 else 1
  | some .exprB, t => if t.isExpressionTerm then 0 else 1
  | _, _ => 0

/-- the line under construction counts until `parseLine` starts the next one -/
def curW : Option St → PState → Nat
  | none, _ => 0
  | some .line, _ => 0
  | some _, p => tokCount p.cur

def M1 (o : Option St) (p : PState) : Nat := p.lines.size + N p + owe o p.nextToken
def M2 (o : Option St) (p : PState) : Nat := sumToks p.lines + curW o p + N p

theorem owe_le (o : Option St) (t : Token) : owe o t ≤ 1 := by
  unfold owe; split <;> first | omega | (split <;> omega)

theorem curW_le (o : Option St) (p : PState) : curW o p ≤ tokCount p.cur := by
  unfold curW; split <;> omega

theorem curW_line (p : PState) : curW (some .line) p = 0 := rfl
theorem curW_none (p : PState) : curW none p = 0 := rfl
theorem curW_some {s : St} (hs : s ≠ .line) (p : PState) : curW (some s) p = tokCount p.cur := by
  cases s <;> first | rfl | exact absurd rfl hs

structure Sim (p q : PState) : Prop where
  rest : q.rest = p.rest
  atEOF : q.atEOF = p.atEOF
  tok : q.nextToken = p.nextToken
  lines : q.lines = p.lines

theorem Sim.N {p q : PState} (h : Sim p q) : N q = N p := by
  unfold Parser.N; rw [h.rest, h.atEOF]

theorem Sim.inv {p q : PState} (h : Sim p q) (hp : Inv p) : Inv q := hp.congr h.atEOF h.tok h.rest

theorem Sim.adv_next {p q : PState} (hs : Sim p q) (hp : Inv p)
    (hn : (advance q).nextToken.isTerm = false) :
    Inv (advance q) ∧ (advance q).rest.length + 1 = p.rest.length := by
  have := (hs.inv hp).adv_next hn
  rwa [hs.rest] at this

theorem Sim.refl (p : PState) : Sim p p := ⟨rfl, rfl, rfl, rfl⟩

theorem Sim.trans {p q r : PState} (h1 : Sim p q) (h2 : Sim q r) : Sim p r :=
  ⟨h2.rest.trans h1.rest, h2.atEOF.trans h1.atEOF, h2.tok.trans h1.tok, h2.lines.trans h1.lines⟩

theorem sim_incNewlines (p : PState) : Sim p (incNewlines p) := ⟨rfl, rfl, rfl, rfl⟩
theorem sim_noteReference (p : PState) : Sim p (noteReference p) := by
  unfold noteReference; split
  · exact ⟨rfl, rfl, rfl, rfl⟩
  · exact Sim.refl p

theorem cur_noteReference (p : PState) : (noteReference p).cur = p.cur := by
  unfold noteReference; split <;> rfl
theorem tokCount_incNewlines (p : PState) : tokCount (incNewlines p).cur = tokCount p.cur := rfl

theorem atEOF_emit (p : PState) : (emit p).atEOF = p.atEOF := rfl
theorem atEOF_incNewlines (p : PState) : (incNewlines p).atEOF = p.atEOF := rfl
theorem N_emit (p : PState) : N (emit p) = N p := rfl
theorem tok_emit (p : PState) : (emit p).nextToken = p.nextToken := rfl
theorem cur_emit (p : PState) : (emit p).cur = p.cur := rfl
theorem size_emit (p : PState) : (emit p).lines.size = p.lines.size + 1 := by
  simp [emit]
theorem sumToks_emit (p : PState) : sumToks (emit p).lines = sumToks p.lines + tokCount p.cur := by
  simp [emit, sumToks]

theorem advance_spec (p : PState) :
    (advance p).lines = p.lines ∧ (advance p).cur = p.cur ∧
    (N (advance p) + 1 = N p ∨ (N p = 0 ∧ advance p = p)) := by
  unfold advance next
  cases h : p.atEOF
  · cases hr : p.rest with
    | nil => simp [N, h, hr]
    | cons t r => simp [N, h, hr]
  · simp [N, h]

theorem advance_lines (p : PState) : (advance p).lines = p.lines := (advance_spec p).1
theorem advance_cur (p : PState) : (advance p).cur = p.cur := (advance_spec p).2.1
theorem advance_N_le (p : PState) : N (advance p) ≤ N p := by
  rcases (advance_spec p).2.2 with h | h
  · omega
  · rw [h.2]; exact Nat.le_refl _

theorem advance_N_lt {p : PState} (h : (advance p).nextToken ≠ p.nextToken) :
    N (advance p) + 1 = N p := by
  rcases (advance_spec p).2.2 with h' | h'
  · exact h'
  · exact absurd (by rw [h'.2]) h

theorem N_live {p p' : PState} {k : Nat} (hl : p'.atEOF = false) (h : N p' + k ≤ N p) :
    p.atEOF = false ∧ p'.rest.length + k ≤ p.rest.length := by
  unfold N at h
  cases hp : p.atEOF <;> simp_all <;> omega

theorem next_snd (p : PState) : (next p).2 = advance p := rfl

theorem typ_of_isOp {t : Token} (h : t.isOp = true) : t.typ = .text := by
  unfold Token.isOp at h
  split at h
  · cases h
  · rename_i h'; simpa using h'

theorem owe_opState {t : Token} (h : t.isOp = true) : owe (some (opState t)) t = 0 := by
  unfold opState; split
  · simp [owe, typ_of_isOp h]
  · rfl

theorem exprTerm_of_symbol {t : Token} (h : t.typ = .symbol) : t.isExpressionTerm = true := by
  simp [Token.isExpressionTerm, h]

theorem ne_of_typ_ne {a b : Token} (h : a.typ ≠ b.typ) : a ≠ b := fun e => h (by rw [e])

theorem N_le (p : PState) : N p ≤ p.rest.length + 1 := by
  unfold N; split <;> omega

theorem advance_fuel {p : PState} {fuel : Nat} (h : N p ≤ fuel + 1) : N (advance p) ≤ fuel := by
  rcases (advance_spec p).2.2 with a | a
  · omega
  · rw [a.2]; omega

/-- a loop given fuel for all the reader holds (`N p ≤ fuel`): like a state function it hangs only
    when the reader is not live on a terminated stream; what it returns has `P`.  The bound is on
    `N`, not on `p.rest.length`: with the reader marked exhausted but tokens left (never the case in a
    run) `next()` changes nothing and the loop spins until the fuel is gone; there `N` is 0 and `Inv`
    fails. -/
def LoopSpec {α : Type} (p : PState) (P : α → Prop) : Except Fault α → Prop
  | .error _ => ¬Inv p
  | .ok r => P r

theorem LoopSpec.hang {α : Type} {p : PState} {P : α → Prop} {x : Except Fault α} {e : Fault}
    (h : LoopSpec p P x) (hx : x = .error e) : ¬Inv p := by subst hx; exact h

theorem LoopSpec.out {α : Type} {p : PState} {P : α → Prop} {x : Except Fault α} {r : α}
    (h : LoopSpec p P x) (hx : x = .ok r) : P r := by subst hx; exact h

theorem skipLoop_spec (site : String) (t : TokType) (bump : Bool) (h1 : t ≠ .eof) (h2 : t ≠ .error) :
    ∀ fuel p, N p ≤ fuel → LoopSpec p (fun p' =>
      p'.lines = p.lines ∧ tokCount p'.cur = tokCount p.cur ∧ N p' ≤ N p ∧
      (p.nextToken.typ = t → N p' + 1 ≤ N p) ∧ (Inv p → Inv p')) (skipLoop site t bump fuel p) := by
  intro fuel
  induction fuel with
  | zero => exact fun p hf hp => by simp [N, hp.live] at hf
  | succ fuel ih =>
    intro p hf
    unfold skipLoop
    by_cases ht : p.nextToken.typ = t
    · have hn : p.nextToken.isTerm = false := isTerm_of_typ ht h1 h2
      simp only [ht, beq_self_eq_true, if_true]
      split
      · rename_i hfr
        exact fun hp => by rw [hp.not_frozen hn] at hfr; cases hfr
      · generalize hq : (if bump = true then incNewlines p else p) = q
        have hs : Sim p q := by
          subst hq; split
          · exact sim_incNewlines p
          · exact Sim.refl p
        have hc : tokCount q.cur = tokCount p.cur := by
          subst hq; split <;> rfl
        have hN := hs.N
        obtain ⟨a1, a2, a3⟩ := advance_spec q
        have hi : Inv p → Inv (advance q) := fun hp => ((hs.inv hp).adv_live (hs.tok ▸ hn)).1
        have := ih (advance q) (advance_fuel (hN ▸ hf))
        revert this
        cases skipLoop site t bump fuel (advance q) with
        | error e => exact fun h hp => h (hi hp)
        | ok p' =>
          rintro ⟨b1, b2, b3, b4, b5⟩
          refine ⟨by rw [b1, a1, hs.lines], by rw [b2, a2, hc], ?_, fun _ => ?_, fun hp => b5 (hi hp)⟩
          · have := advance_N_le q; omega
          · rcases a3 with a3 | a3
            · omega
            · have := b4 (by rw [a3.2, hs.tok, ht]); rw [a3.2] at this; omega
    · have : (p.nextToken.typ == t) = false := by simpa using ht
      simp only [this, Bool.false_eq_true, if_false]
      exact ⟨rfl, rfl, Nat.le_refl _, fun h => absurd h ht, id⟩

theorem exprLoop_spec (site : String) :
    ∀ fuel p acc, N p ≤ fuel → LoopSpec p (fun (p', acc') =>
      p'.lines = p.lines ∧ p'.cur = p.cur ∧ acc'.length + N p' ≤ acc.length + N p ∧ N p' ≤ N p ∧
      (p.nextToken.isExpressionTerm = true → N p' + 1 ≤ N p) ∧ (Inv p → Inv p'))
      (exprLoop site fuel p acc) := by
  intro fuel
  induction fuel with
  | zero => exact fun p _ hf hp => by simp [N, hp.live] at hf
  | succ fuel ih =>
    intro p acc hf
    unfold exprLoop
    by_cases he : p.nextToken.isExpressionTerm = true
    · have hn : p.nextToken.isTerm = false := isTerm_of_exprTerm he
      rw [if_pos he]
      split
      · rename_i hfr
        exact fun hp => by rw [hp.not_frozen hn] at hfr; cases hfr
      · have hs := sim_noteReference p
        have hN := hs.N
        obtain ⟨a1, a2, a3⟩ := advance_spec (noteReference p)
        have hi : Inv p → Inv (advance (noteReference p)) :=
          fun hp => ((hs.inv hp).adv_live (hs.tok ▸ hn)).1
        have := ih (advance (noteReference p)) (p.nextToken :: acc) (advance_fuel (hN ▸ hf))
        revert this
        cases exprLoop site fuel (advance (noteReference p)) (p.nextToken :: acc) with
        | error e => exact fun h hp => h (hi hp)
        | ok r =>
          rintro ⟨b1, b2, b3, b4, b5, b6⟩
          have hlt : N r.1 + 1 ≤ N p := by
            rcases a3 with a3 | a3
            · omega
            · have := b5 (by rw [a3.2, hs.tok, he]); rw [a3.2] at this; omega
          refine ⟨by rw [b1, a1, hs.lines], by rw [b2, a2, cur_noteReference], ?_, by omega,
            fun _ => hlt, fun hp => b6 (hi hp)⟩
          have := advance_N_le (noteReference p)
          simp only [List.length_cons] at b3; omega
    · rw [if_neg he]
      exact ⟨rfl, rfl, Nat.le_refl _, Nat.le_refl _, fun h => absurd h he, id⟩

theorem collectExpr_spec (site : String) (p : PState) :
    LoopSpec p (fun (p', ts) =>
      p'.lines = p.lines ∧ p'.cur = p.cur ∧ ts.length + N p' ≤ N p ∧
      (p.nextToken.isExpressionTerm = true → N p' + 1 ≤ N p) ∧ (Inv p → Inv p'))
      (collectExpr site p) := by
  have := exprLoop_spec site _ p [] (N_le p)
  unfold collectExpr
  revert this
  cases exprLoop site (p.rest.length + 1) p [] with
  | error e => exact id
  | ok r =>
    rintro ⟨h1, h2, h3, _, h4, h5⟩
    refine ⟨h1, h2, ?_, h4, h5⟩
    simp only [List.length_reverse, List.length_nil] at h3 ⊢
    omega

def StepCost (s : St) (p : PState) (p' : PState) (o : Option St) : Prop :=
  M1 o p' ≤ M1 (some s) p ∧ M2 o p' ≤ M2 (some s) p

def Returns (s : St) (p : PState) (r : PState × Option St) : Prop :=
  StepCost s p r.1 r.2 ∧
    ∀ s', r.2 = some s' → (Inv p → Inv r.1) ∧ (r.1.atEOF = false → φ s' r.1 < φ s p)

def StepSpec (s : St) (p : PState) : Except Fault (PState × Option St) → Prop
  | .error _ => ¬Inv p
  | .ok r => Returns s p r

theorem Returns.stop {s : St} {p p' : PState} (hc : StepCost s p p' none) :
    Returns s p (p', none) :=
  ⟨hc, fun _ h => nomatch h⟩

theorem Returns.cont {s s' : St} {p p' : PState} (hc : StepCost s p p' (some s'))
    (hi : Inv p → Inv p') (hφ : p'.atEOF = false → φ s' p' < φ s p) :
    Returns s p (p', some s') :=
  ⟨hc, fun _ h => by cases h; exact ⟨hi, hφ⟩⟩

theorem Returns.ite {s : St} {p : PState} {c : Prop} [Decidable c] {a b : PState × Option St}
    (ha : c → Returns s p a) (hb : ¬c → Returns s p b) : Returns s p (if c then a else b) := by
  by_cases h : c
  · rw [if_pos h]; exact ha h
  · rw [if_neg h]; exact hb h

theorem StepSpec.ok {s : St} {p : PState} {r : PState × Option St} (h : Returns s p r) :
    StepSpec s p (.ok r) := h

theorem StepSpec.ite {s : St} {p : PState} {c : Prop} [Decidable c]
    {a b : Except Fault (PState × Option St)}
    (ha : c → StepSpec s p a) (hb : ¬c → StepSpec s p b) : StepSpec s p (if c then a else b) := by
  by_cases h : c
  · rw [if_pos h]; exact ha h
  · rw [if_neg h]; exact hb h

theorem StepCost.of_sum {s : St} {p p' : PState} {o : Option St}
    (hl : p'.lines = p.lines) (hc : tokCount p'.cur + N p' ≤ tokCount p.cur + N p) (hs : s ≠ .line)
    (hN : N p' + owe o p'.nextToken ≤ N p + owe (some s) p.nextToken) : StepCost s p p' o := by
  constructor
  · simp only [M1, hl]; omega
  · have h1 := curW_le o p'
    simp only [M2, hl, curW_some hs]; omega

theorem StepCost.of_le {s : St} {p p' : PState} {o : Option St}
    (hl : p'.lines = p.lines) (hc : tokCount p'.cur ≤ tokCount p.cur) (hs : s ≠ .line)
    (hN : N p' + owe o p'.nextToken ≤ N p + owe (some s) p.nextToken) (hN' : N p' ≤ N p) :
    StepCost s p p' o :=
  .of_sum hl (Nat.add_le_add hc hN') hs hN

theorem owe_none (t : Token) : owe none t = 0 := rfl

theorem StepCost.adv {s : St} {p q : PState} {o : Option St} (hs : Sim p q)
    (hc : tokCount q.cur = tokCount p.cur) (hne : s ≠ .line)
    (ho : owe o (advance q).nextToken = 0) : StepCost s p (advance q) o := by
  have := advance_N_le q
  have := hs.N
  exact .of_le (by rw [advance_lines, hs.lines]) (by rw [advance_cur, hc]; exact Nat.le_refl _) hne
    (by rw [ho]; omega) (by omega)

theorem StepCost.emit {s : St} {p q : PState} {o : Option St} (hs : s ≠ .line)
    (ho : o = none ∨ o = some .line)
    (hl : q.lines = p.lines) (hc : tokCount q.cur + N q ≤ tokCount p.cur + N p)
    (hN : N q + 1 ≤ N p + owe (some s) p.nextToken) :
    StepCost s p (Parser.emit q) o := by
  have ho1 : owe o (Parser.emit q).nextToken = 0 := by rcases ho with rfl | rfl <;> rfl
  have ho2 : curW o (Parser.emit q) = 0 := by rcases ho with rfl | rfl <;> rfl
  constructor
  · simp only [M1, size_emit, N_emit, hl, ho1]; omega
  · simp only [M2, sumToks_emit, N_emit, hl, ho2, curW_some hs]; omega

theorem StepCost.then_advance {s : St} {p x : PState} {o : Option St}
    (ho : o = none ∨ o = some .line) (h : StepCost s p x o) : StepCost s p (advance x) o := by
  have := advance_N_le x
  obtain ⟨h1, h2⟩ := h
  have ho1 : ∀ t, owe o t = 0 := by rcases ho with rfl | rfl <;> intro _ <;> rfl
  have ho2 : ∀ y, curW o y = 0 := by rcases ho with rfl | rfl <;> intro _ <;> rfl
  constructor
  · simp only [M1, ho1, advance_lines] at h1 ⊢; omega
  · simp only [M2, ho2, advance_lines] at h2 ⊢; omega

theorem Returns.adv {s s' : St} {p q : PState} (hs : Sim p q) (hc : tokCount q.cur = tokCount p.cur)
    (hne : s ≠ .line) (ho : owe (some s') (advance q).nextToken = 0)
    (hn : (advance q).nextToken.isTerm = false) : Returns s p (advance q, some s') :=
  .cont (.adv hs hc hne ho) (fun hp => (hs.adv_next hp hn).1) fun hl => by
    have := (advance_live hl).2
    have := w_le s' (advance q).nextToken
    simp only [φ, ← hs.rest]; omega

theorem isTerm_of_newline_or_comment {t : Token} (h : (t.typ == .newline || t.typ == .comment) = true) :
    t.isTerm = false := by
  rcases Bool.or_eq_true _ _ |>.mp h with h | h
  · exact isTerm_of_typ (eq_of_beq h) (by decide) (by decide)
  · exact isTerm_of_typ (eq_of_beq h) (by decide) (by decide)

theorem step_line (p : PState) : StepSpec .line p (step .line p) := by
  rw [step]
  refine .ite (fun _ => .ok (.stop ⟨Nat.le_refl _, Nat.le_refl _⟩)) fun _ => ?_
  dsimp only
  split
  · rename_i hty
    refine .ok (.cont ⟨?_, ?_⟩ (fun hp => hp.congr rfl rfl rfl) fun _ => ?_)
    · simp only [M1, owe, hty, if_true]; exact Nat.le_refl _
    · simp only [M2, curW, tokCount]; exact Nat.le_refl _
    · simp only [φ, w, hty, if_true]; omega
  · rename_i hty
    refine .ok (.cont ⟨?_, ?_⟩ (fun hp => hp.congr rfl rfl rfl) fun _ => ?_)
    · simp only [M1, owe, hty, if_true]; exact Nat.le_refl _
    · simp only [M2, curW, tokCount]; exact Nat.le_refl _
    · simp only [φ, w]; omega
  · refine .ok (.cont ⟨?_, ?_⟩ (fun hp => hp.congr rfl rfl rfl) fun _ => ?_)
    · simp only [M1, owe]; exact Nat.le_refl _
    · simp only [M2, curW, tokCount]; exact Nat.le_refl _
    · simp only [φ, w]; omega
  · exact .ok (.stop ⟨Nat.le_refl _, Nat.le_refl _⟩)
  · exact .ok (.stop ⟨Nat.le_refl _, Nat.le_refl _⟩)

theorem step_emptyLines (p : PState) : StepSpec .emptyLines p (step .emptyLines p) := by
  rw [step]
  have hsp := skipLoop_spec "parseEmptyLines" .newline true (by decide) (by decide) _ p (N_le p)
  cases hs : skipLoop "parseEmptyLines" .newline true (p.rest.length + 1) p with
  | error e => exact hsp.hang hs
  | ok p1 =>
    obtain ⟨h1, h2, h3, h4, hi⟩ := hsp.out hs
    refine .ok (.cont ⟨?_, ?_⟩ (fun hp => ?_) fun hl => ?_)
    · simp only [M1, size_emit, N_emit, h1, owe]
      split
      · rename_i hty; have := h4 hty; omega
      · omega
    · simp only [M2, sumToks_emit, N_emit, h1, h2, curW]; omega
    · exact (hi hp).emit
    · have hl : p1.atEOF = false := hl
      have := (N_live (k := 0) hl h3).2
      simp only [φ, w, Parser.emit]
      split
      · rename_i h; have := (N_live hl (h4 h)).2; omega
      · omega

/-- a state that emits a line for a look-ahead of type `ty`: `next()` leaves another look-ahead,
    so the token read pays for the line, or the line was owed -/
theorem advance_pays {s : St} {ty : TokType} {p q : PState} (hs : Sim p q)
    (ho : owe (some s) p.nextToken = if p.nextToken.typ = ty then 0 else 1)
    (h : (advance q).nextToken.typ ≠ ty) : N (advance q) + 1 ≤ N p + owe (some s) p.nextToken := by
  have hN := hs.N
  rw [ho]
  split
  · rename_i h2
    have := advance_N_lt (p := q) (ne_of_typ_ne (by rw [hs.tok, h2]; exact h))
    omega
  · have := advance_N_le q
    omega

/-- `consumeEmitLine(parseLine)` entered from a state that does not owe more than `.comment` -/
theorem consumeEmitLine_ok {p q : PState} (hs : Sim p q) (hcur : tokCount q.cur = tokCount p.cur) :
    Returns .comment p (consumeEmitLine .line q) := by
  unfold consumeEmitLine
  have hl : (advance q).lines = p.lines := by rw [advance_lines, hs.lines]
  have hN := advance_N_le q
  rw [hs.N] at hN
  have hc : tokCount (advance q).cur + N (advance q) ≤ tokCount p.cur + N p := by
    rw [advance_cur, hcur]; omega
  have key := advance_pays (s := .comment) hs rfl
  have hadv := hs.adv_next
  have hlive := @advance_live q
  rw [hs.rest] at hlive
  generalize advance q = q1 at *
  dsimp only
  refine .ite (fun hty => .stop (.emit (by decide) (.inl rfl) hl hc (key ?_))) fun _ => ?_
  · rw [eq_of_beq hty]; decide
  refine .ite (fun _ => .stop (.of_sum hl hc (by decide) ?_)) fun hnl => ?_
  · show N q1 + 0 ≤ _; omega
  have hnl : q1.nextToken.typ = .newline := by simpa using hnl
  have hem : ∀ o, (o = none ∨ o = some .line) →
      StepCost .comment p (advance (Parser.emit (incNewlines q1))) o := fun o ho =>
    .then_advance ho (.emit (q := incNewlines q1) (by decide) ho hl hc (key (by rw [hnl]; decide)))
  show Returns _ _ (if (next (Parser.emit (incNewlines q1))).1.typ == .eof
    then (advance (Parser.emit (incNewlines q1)), none)
    else (advance (Parser.emit (incNewlines q1)), some .line))
  have hn : q1.nextToken.isTerm = false := isTerm_of_typ hnl (by decide) (by decide)
  refine .ite (fun _ => .stop (hem _ (.inl rfl))) fun _ => .cont (hem _ (.inr rfl))
    (fun hq => ((hadv hq hn).1.incNewlines.emit.adv_live hn).1) fun hl => ?_
  obtain ⟨hl1, h1⟩ := advance_live hl
  have h1 : _ + 1 = q1.rest.length := h1
  have := (hlive hl1).2
  simp only [φ, w]; omega

theorem step_comment (p : PState) : StepSpec .comment p (step .comment p) := by
  rw [step]
  exact .ok (consumeEmitLine_ok (q := { p with cur := { p.cur with comment := p.nextToken.val } })
    ⟨rfl, rfl, rfl, rfl⟩ rfl)

theorem φ_opState (t : Token) (p : PState) : φ (opState t) p = 4 * p.rest.length := by
  unfold opState; split <;> simp [φ, w]

theorem step_labels (p : PState) : StepSpec .labels p (step .labels p) := by
  rw [step]
  dsimp only
  refine .ite (fun hty => .ite (fun hf hp => ?_) fun _ =>
    .ok (.cont ?_ (fun hp => (hp.adv_live (isTerm_of_newline_or_comment hty)).1) fun hl => ?_)) fun _ => ?_
  · rw [hp.not_frozen (isTerm_of_newline_or_comment hty)] at hf; cases hf
  · exact .adv (.refl p) rfl (by decide) rfl
  · have := (advance_live hl).2
    simp only [φ, w]; omega
  refine .ite (fun hop => .ok (.cont ?_ id fun _ => ?_)) fun _ => ?_
  · exact .of_le rfl (Nat.le_refl _) (by decide) (by rw [owe_opState hop]; simp [owe]) (Nat.le_refl _)
  · rw [φ_opState]; simp only [φ, w]; omega
  refine .ite (fun hcol => .ok (.cont ?_ id fun _ => ?_)) fun _ => ?_
  · exact .of_le rfl (Nat.le_refl _) (by decide) (by simp [owe]) (Nat.le_refl _)
  · simp only [φ, w, eq_of_beq hcol, if_true]; omega
  -- the bookkeeping updates get names, so that the goal keeps the `if` shape `StepSpec.ite` takes
  generalize hq0 : (if p.symbols.contains p.nextToken.val = true then setErr p else p) = q0
  have hs0 : Sim p q0 := by
    subst hq0; split
    · exact ⟨rfl, rfl, rfl, rfl⟩
    · exact Sim.refl p
  have hc0 : q0.cur = p.cur := by subst hq0; split <;> rfl
  generalize hq : ({ q0 with
      symbols := if q0.symbols.contains p.nextToken.val then q0.symbols
                 else p.nextToken.val :: q0.symbols,
      cur := { q0.cur with labels := q0.cur.labels ++ [p.nextToken.val] } } : PState) = q
  have hs : Sim p q := by subst hq; exact hs0.trans ⟨rfl, rfl, rfl, rfl⟩
  have hc : tokCount q.cur = tokCount p.cur := by subst hq; show tokCount q0.cur = _; rw [hc0]
  show StepSpec _ _ (if (next q).1.typ != .text then .ok (setErr (advance q), none)
    else .ok (advance q, some .labels))
  refine .ite (fun _ => .ok (.stop (.adv hs hc (by decide) rfl))) fun hty =>
    .ok (.cont (.adv hs hc (by decide) rfl) (fun hp => ?_) fun hl => ?_)
  · have hq := hs.inv hp
    rw [next_fst hq.live] at hty
    have ht : q.nextToken.typ = .text := by simpa using hty
    exact (hq.adv_live (isTerm_of_typ ht (by decide) (by decide))).1
  · have := (advance_live hl).2
    rw [hs.rest] at this
    simp only [φ, w]; omega

theorem step_colon (p : PState) : StepSpec .colon p (step .colon p) := by
  rw [step]
  have hsp := skipLoop_spec "parseColon" .colon false (by decide) (by decide) _ p (N_le p)
  cases hsk : skipLoop "parseColon" .colon false (p.rest.length + 1) p with
  | error e => exact hsp.hang hsk
  | ok p1 =>
    obtain ⟨h1, h2, h3, h4, hi⟩ := hsp.out hsk
    -- `φ` allows a hand-over without reading to rank ≤ 1
    have ht : p1.atEOF = false → 4 * p1.rest.length + 1 < φ .colon p := fun hl => by
      by_cases h : p.nextToken.typ = .colon
      · have := (N_live hl (h4 h)).2; simp only [φ]; omega
      · have := (N_live (k := 0) hl h3).2; simp only [φ, w, h, if_false]; omega
    show StepSpec _ _ (if _ then (if _ then _ else _) else if _ then _ else if _ then _ else _)
    refine .ite (fun hty => .ite (fun hf hp => ?_) fun _ =>
      .ok (.cont ?_ (fun hp => ((hi hp).adv_live (isTerm_of_newline_or_comment hty)).1) fun hl => ?_)) fun _ => ?_
    · rw [(hi hp).not_frozen (isTerm_of_newline_or_comment hty)] at hf; cases hf
    · have := advance_N_le p1
      exact .of_le (by rw [advance_lines, h1]) (by rw [advance_cur, h2]; exact Nat.le_refl _)
        (by decide) (by simp only [owe]; omega) (by omega)
    · obtain ⟨hl1, hr⟩ := advance_live hl
      have hφ := ht hl1
      have := w_le .colon (advance p1).nextToken
      simp only [φ] at hφ ⊢; omega
    refine .ite (fun hop => .ok (.cont ?_ hi fun hl => ?_)) fun _ => ?_
    · exact .of_le h1 (by rw [h2]; exact Nat.le_refl _) (by decide)
        (by rw [owe_opState hop]; simp only [owe]; omega) h3
    · have := ht hl; rw [φ_opState]; omega
    refine .ite (fun _ => .ok (.cont ?_ hi fun hl => ?_)) fun _ => .ok (.stop ?_)
    · exact .of_le h1 (by rw [h2]; exact Nat.le_refl _) (by decide) (by simp only [owe]; omega) h3
    · have := ht hl; simp only [φ, w] at this ⊢; omega
    · exact .of_le h1 (by show tokCount p1.cur ≤ _; rw [h2]; exact Nat.le_refl _) (by decide)
        (by simp only [owe]; show N p1 + 0 ≤ _; omega) h3

theorem step_pseudoOp (p : PState) : StepSpec .pseudoOp p (step .pseudoOp p) := by
  rw [step]
  dsimp only
  -- as a variable: elaboration reduces `StepSpec` on an `if` as far as it can, here into the
  -- string comparisons of `noOperandsOk`
  generalize p.nextToken.noOperandsOk = noOperands
  generalize hq : ({ p with
      cur := { p.cur with op := p.nextToken.val, typ := .pseudoOp },
      endSeen := p.endSeen || lowerStr p.nextToken.val == "end" } : PState) = q
  have hs : Sim p q := by subst hq; exact ⟨rfl, rfl, rfl, rfl⟩
  have hc : tokCount q.cur = tokCount p.cur := by subst hq; rfl
  have hstop : StepSpec .pseudoOp p (.ok (setErr (advance q), none)) :=
    .ok (.stop (.adv hs hc (by decide) rfl))
  have hcont : ∀ s', owe (some s') (advance q).nextToken = 0 →
      (advance q).nextToken.isTerm = false → StepSpec .pseudoOp p (.ok (advance q, some s')) :=
    fun s' ho hn => .ok (.adv hs hc (by decide) ho hn)
  -- `end` / `rof` without operands: the op token (or what the state owes) pays for the line
  have hemit : ∀ o, (o = none ∨ o = some .line) → (advance q).nextToken.typ ≠ .text →
      StepCost .pseudoOp p (Parser.emit (incNewlines (advance (advance q)))) o := by
    intro o ho hty
    have hN := hs.N
    have h1 := advance_N_le q
    have h2 := advance_N_le (advance q)
    refine .emit (by decide) ho
      (by show (advance (advance q)).lines = _; rw [advance_lines, advance_lines, hs.lines]) ?_ ?_
    · rw [tokCount_incNewlines, advance_cur, advance_cur, hc, (sim_incNewlines _).N]; omega
    · have := advance_pays (s := .pseudoOp) hs rfl hty
      rw [(sim_incNewlines _).N]; omega
  refine .ite (fun hex => hcont _ (by simp only [owe, hex, if_true]) (isTerm_of_exprTerm hex))
    fun _ => ?_
  refine .ite (fun hcm => hcont _ (by simp only [owe, eq_of_beq hcm, if_true])
    (isTerm_of_typ (eq_of_beq hcm) (by decide) (by decide))) fun _ => ?_
  refine .ite (fun heof => .ite (fun _ => .ok (.stop ?_)) fun _ => hstop) fun _ => ?_
  · exact hemit none (.inl rfl) (by rw [eq_of_beq heof]; decide)
  refine .ite (fun hnl => .ite (fun _ => .ok (.cont ?_ (fun hp => ?_) fun hl => ?_)) fun _ => hstop)
    fun _ => hstop
  · exact hemit (some .line) (.inr rfl) (by rw [eq_of_beq hnl]; decide)
  · have hn := isTerm_of_typ (eq_of_beq hnl) (by decide) (by decide)
    exact ((hs.adv_next hp hn).1.adv_live hn).1.incNewlines.emit
  · rw [atEOF_emit, atEOF_incNewlines] at hl
    obtain ⟨hl1, h1⟩ := advance_live hl
    have := (advance_live hl1).2
    rw [hs.rest] at this
    simp only [φ, w, Parser.emit, incNewlines]; omega

/-- the tail of `parseModeA` / `parseModeB` / `parseComma`, after `next()` -/
theorem step_mode {s s' : St} {p q : PState} (hs : Sim p q)
    (hc : tokCount q.cur = tokCount p.cur) (hne : s ≠ .line) (hs' : s' = .exprA ∨ s' = .exprB) :
    StepSpec s p (if (advance q).nextToken.isExpressionTerm = true then
        .ok (advance q, some s') else .ok (setErr (advance q), none)) := by
  refine .ite (fun hex => .ok (.adv hs hc hne ?_ (isTerm_of_exprTerm hex))) fun _ =>
    .ok (.stop (.adv hs hc hne rfl))
  rcases hs' with rfl | rfl <;> simp only [owe, hex, if_true]

theorem step_op (p : PState) : StepSpec .op p (step .op p) := by
  rw [step]
  dsimp only
  generalize hq : ({ p with
      cur := { p.cur with op := p.nextToken.val, typ := .instruction, codeLine := p.codeLine },
      codeLine := p.codeLine + 1 } : PState) = q
  have hs : Sim p q := by subst hq; exact ⟨rfl, rfl, rfl, rfl⟩
  have hc : tokCount q.cur = tokCount p.cur := by subst hq; rfl
  have key : ∀ s', owe (some s') (advance q).nextToken = 0 → (advance q).nextToken.isTerm = false →
      StepSpec .op p (.ok (advance q, some s')) := fun s' ho hn => .ok (.adv hs hc (by decide) ho hn)
  refine .ite (fun ham => key _ rfl (isTerm_of_addressMode ham)) fun _ => ?_
  refine .ite (fun hex => ?_) fun _ => ?_
  · have hex := (Bool.and_eq_true _ _ |>.mp hex).1
    exact key _ (by simp only [owe, hex, if_true]) (isTerm_of_exprTerm hex)
  refine .ite (fun hsym => ?_) fun _ => .ok (.stop (.adv hs hc (by decide) rfl))
  have hsym : (advance q).nextToken.typ = .symbol := eq_of_beq hsym
  have hn := isTerm_of_typ hsym (by decide) (by decide)
  exact .ite (fun _ => key _ rfl hn)
    fun _ => key _ (by simp only [owe, exprTerm_of_symbol hsym, if_true]) hn

theorem step_modeA (p : PState) : StepSpec .modeA p (step .modeA p) := by
  rw [step]
  exact step_mode (q := { p with cur := { p.cur with amode := p.nextToken.val } })
    ⟨rfl, rfl, rfl, rfl⟩ rfl (by decide) (Or.inl rfl)

theorem step_modeB (p : PState) : StepSpec .modeB p (step .modeB p) := by
  rw [step]
  exact step_mode (q := { p with cur := { p.cur with bmode := p.nextToken.val } })
    ⟨rfl, rfl, rfl, rfl⟩ rfl (by decide) (Or.inr rfl)

theorem step_comma (p : PState) : StepSpec .comma p (step .comma p) := by
  rw [step]
  exact .ite (fun ham => .ok (.adv (.refl p) rfl (by decide) rfl (isTerm_of_addressMode ham)))
    fun _ => step_mode (.refl p) rfl (by decide) (Or.inr rfl)

/-- an expression state `s` has run `collectExpr` from `p` and stored the tokens in the line of `q` -/
structure Collected (s : St) (p q : PState) : Prop where
  ne : s ≠ .line
  rank : φ s p = 4 * p.rest.length + 3
  lines : q.lines = p.lines
  sum : tokCount q.cur + N q ≤ tokCount p.cur + N p
  le : N q ≤ N p
  pay : N q + 1 ≤ N p + owe (some s) p.nextToken
  inv : Inv p → Inv q
  live : q.atEOF = false → q.rest.length ≤ p.rest.length

theorem collect_facts {site : String} {s : St} {p p1 q : PState} {ts : List Token}
    (hce : collectExpr site p = .ok (p1, ts)) (hs : Sim p1 q)
    (hc : tokCount q.cur = tokCount p1.cur + ts.length) (hne : s ≠ .line)
    (hr : φ s p = 4 * p.rest.length + 3)
    (hso : owe (some s) p.nextToken = if p.nextToken.isExpressionTerm then 0 else 1) :
    q.nextToken = p1.nextToken ∧ Collected s p q := by
  obtain ⟨h1, h2, h3, h4, h5⟩ := (collectExpr_spec site p).out hce
  have hN := hs.N
  refine ⟨hs.tok, hne, hr, by rw [hs.lines, h1], by rw [hc, h2]; omega, by omega, ?_, fun hp => ?_,
    fun hl => ?_⟩
  · rw [hso]; split
    · rename_i he; have := h4 he; omega
    · omega
  · exact hs.inv (h5 hp)
  · rw [hs.atEOF] at hl
    have := (N_live (p := p) (k := 0) hl (by omega)).2
    rw [hs.rest]; omega

theorem Collected.hand {s s' : St} {p q : PState} (h : Collected s p q)
    (ho : owe (some s') q.nextToken = 0) (hw : w s' q.nextToken = 0) : Returns s p (q, some s') :=
  .cont (.of_sum h.lines h.sum h.ne (by have := h.le; omega)) h.inv fun hl => by
    have := h.live hl; rw [h.rank]; simp only [φ, hw]; omega

theorem Collected.emit {s : St} {p q : PState} (h : Collected s p q) :
    Returns s p (Parser.emit q, some .line) :=
  .cont (StepCost.emit h.ne (.inr rfl) h.lines h.sum h.pay) (fun hp => (h.inv hp).emit) fun hl => by
    have := h.live hl; rw [h.rank]; simp only [φ, w, Parser.emit]; omega

theorem Collected.stop {s : St} {p q : PState} (h : Collected s p q) : Returns s p (setErr q, none) :=
  .stop (.of_sum h.lines h.sum h.ne (by have := h.le; show N q + 0 ≤ _; omega))

theorem step_pseudoExpr (p : PState) : StepSpec .pseudoExpr p (step .pseudoExpr p) := by
  rw [step]
  cases hce : collectExpr "parsePseudoExpr" p with
  | error e => exact (collectExpr_spec _ p).hang hce
  | ok r =>
    obtain ⟨p1, ts⟩ := r
    obtain ⟨htk, h⟩ := collect_facts (s := .pseudoExpr)
      (q := { p1 with cur := { p1.cur with a := some (p1.cur.a.getD [] ++ ts) } }) hce
      ⟨rfl, rfl, rfl, rfl⟩ (by simp only [tokCount, Option.getD_some, List.length_append]; omega)
      (by decide) rfl rfl
    simp only [bind, Except.bind, pure, Except.pure]
    generalize ({ p1 with cur := { p1.cur with a := some (p1.cur.a.getD [] ++ ts) } } : PState) = q at *
    rw [← htk]
    split
    · rename_i hcm
      exact .ok (h.hand (by simp only [owe, hcm, if_true]) rfl)
    · rename_i hnl
      refine .ok (.cont ?_ (fun hp =>
        ((h.inv hp).adv_live (isTerm_of_typ hnl (by decide) (by decide))).1.incNewlines.emit) fun hl => ?_)
      · have hb := advance_N_le q
        have := h.sum; have := h.pay
        refine StepCost.emit h.ne (Or.inr rfl)
          (by show (advance q).lines = _; rw [advance_lines, h.lines]) ?_ ?_
        · rw [tokCount_incNewlines, advance_cur, (sim_incNewlines _).N]; omega
        · rw [(sim_incNewlines _).N]; omega
      · rw [atEOF_emit, atEOF_incNewlines] at hl
        obtain ⟨hl1, h1⟩ := advance_live hl
        have := h.live hl1
        simp only [φ, w, Parser.emit, incNewlines]; omega
    · exact .ok h.emit
    · exact .ok h.stop

theorem step_exprA (p : PState) : StepSpec .exprA p (step .exprA p) := by
  rw [step]
  cases hce : collectExpr "parseExprA" p with
  | error e => exact (collectExpr_spec _ p).hang hce
  | ok r =>
    obtain ⟨p1, ts⟩ := r
    obtain ⟨htk, h⟩ := collect_facts (s := .exprA)
      (q := { p1 with cur := { p1.cur with a := some (p1.cur.a.getD [] ++ ts) } }) hce
      ⟨rfl, rfl, rfl, rfl⟩ (by simp only [tokCount, Option.getD_some, List.length_append]; omega)
      (by decide) rfl rfl
    simp only [bind, Except.bind, pure, Except.pure]
    generalize ({ p1 with cur := { p1.cur with a := some (p1.cur.a.getD [] ++ ts) } } : PState) = q at *
    rw [← htk]
    split
    · rename_i hcm
      exact .ok (h.hand (by simp only [owe, hcm, if_true]) rfl)
    · exact .ok (h.hand rfl rfl)
    · exact .ok h.emit
    · exact .ok h.emit
    · exact .ok h.stop

theorem step_exprB (p : PState) : StepSpec .exprB p (step .exprB p) := by
  rw [step]
  cases hce : collectExpr "parseExprB" p with
  | error e => exact (collectExpr_spec _ p).hang hce
  | ok r =>
    obtain ⟨p1, ts⟩ := r
    obtain ⟨htk, h⟩ := collect_facts (s := .exprB)
      (q := { p1 with cur := { p1.cur with b := some (p1.cur.b.getD [] ++ ts) } }) hce
      ⟨rfl, rfl, rfl, rfl⟩ (by simp only [tokCount, Option.getD_some, List.length_append]; omega)
      (by decide) rfl rfl
    simp only [bind, Except.bind, pure, Except.pure]
    generalize ({ p1 with cur := { p1.cur with b := some (p1.cur.b.getD [] ++ ts) } } : PState) = q at *
    rw [← htk]
    split
    · rename_i hcm
      exact .ok (h.hand (by simp only [owe, hcm, if_true]) rfl)
    · rename_i hnl
      refine .ok (.cont (.then_advance (.inr rfl)
        (.emit (q := incNewlines q) h.ne (.inr rfl) h.lines h.sum h.pay)) (fun hp =>
          ((h.inv hp).incNewlines.emit.adv_live (isTerm_of_typ hnl (by decide) (by decide))).1)
        fun hl => ?_)
      obtain ⟨hl1, h1⟩ := advance_live hl
      have h1 : _ + 1 = q.rest.length := h1
      have := h.live hl1
      rw [h.rank]; simp only [φ, w]; omega
    · exact .ok h.emit
    · exact .ok h.stop

theorem step_spec (s : St) (p : PState) : StepSpec s p (step s p) := by
  cases s
  · exact step_line p
  · exact step_emptyLines p
  · exact step_comment p
  · exact step_labels p
  · exact step_colon p
  · exact step_pseudoOp p
  · exact step_pseudoExpr p
  · exact step_op p
  · exact step_modeA p
  · exact step_exprA p
  · exact step_comma p
  · exact step_modeB p
  · exact step_exprB p

theorem run_cost : ∀ (fuel : Nat) (s : St) (p p' : PState), run fuel s p = .ok p' →
    M1 none p' ≤ M1 (some s) p ∧ M2 none p' ≤ M2 (some s) p := by
  intro fuel
  induction fuel with
  | zero => intro s p p' h; simp [run] at h
  | succ fuel ih =>
    intro s p p' h
    have hs := step_spec s p
    unfold run at h
    cases hst : step s p with
    | error e => rw [hst] at h; cases h
    | ok r =>
      obtain ⟨p1, o⟩ := r
      rw [hst] at h hs
      obtain ⟨c1, c2⟩ := hs.1
      cases o with
      | none =>
        simp only [bind, Except.bind, pure, Except.pure, Except.ok.injEq] at h
        subst h
        exact ⟨c1, c2⟩
      | some s' =>
        obtain ⟨d1, d2⟩ := ih s' p1 p' h
        exact ⟨Nat.le_trans d1 c1, Nat.le_trans d2 c2⟩

theorem run_noFault : ∀ (fuel : Nat) (s : St) (p : PState), Inv p → φ s p < fuel →
    ∀ f, run fuel s p ≠ .error f := by
  intro fuel
  induction fuel with
  | zero => intro s p _ h; omega
  | succ fuel ih =>
    intro s p hp hφ f
    have hs := step_spec s p
    unfold run
    cases h : step s p with
    | error e => rw [h] at hs; exact (hs hp).elim
    | ok r =>
      obtain ⟨p', o⟩ := r
      rw [h] at hs
      cases o with
      | none => simp [bind, Except.bind, pure, Except.pure]
      | some s' =>
        have hi : Inv p' := (hs.2 s' rfl).1 hp
        have hlt : φ s' p' < φ s p := (hs.2 s' rfl).2 hi.live
        exact ih s' p' hi (by omega) f

theorem step_live {s s' : St} {p p' : PState} (h : step s p = .ok (p', some s'))
    (hl : p'.atEOF = false) : φ s' p' < φ s p := by
  have := step_spec s p
  rw [h] at this
  exact (this.2 s' rfl).2 hl

theorem newParser_M (toks : List Token) :
    M1 (some .line) (newParser toks) = toks.length ∧ M2 (some .line) (newParser toks) = toks.length := by
  cases toks with
  | nil => constructor <;> simp [newParser, advance, next, M1, M2, N, owe, curW, sumToks]
  | cons t r => constructor <;> simp [newParser, advance, next, M1, M2, N, owe, curW, sumToks]

end Parser

open Parser in
/-- C05: for EVERY token list: the parser returns at most one source line per token,
    and the operand / value fields of all returned lines together hold at most as many tokens as
    were read -/
theorem parse_linear {toks : List Token} {lines : List SourceLine} {ameta : AsmMeta}
    (h : parse toks = .ok (some (lines, ameta))) :
    lines.length ≤ toks.length ∧ (lines.map Parser.tokCount).sum ≤ toks.length := by
  unfold parse at h
  cases hr : Parser.run (Parser.runFuel toks) .line (Parser.newParser toks) with
  | error e => rw [hr] at h; cases h
  | ok p =>
    rw [hr] at h
    simp only [bind, Except.bind, pure, Except.pure] at h
    obtain ⟨c1, c2⟩ := Parser.run_cost _ _ _ _ hr
    obtain ⟨n1, n2⟩ := Parser.newParser_M toks
    rw [n1] at c1
    rw [n2] at c2
    split at h
    · cases h
    · split at h
      · cases h
      · simp only [Except.ok.injEq, Option.some.injEq, Prod.mk.injEq] at h
        obtain ⟨rfl, _⟩ := h
        constructor
        · simp only [Parser.M1, Parser.owe] at c1
          simp only [Array.length_toList]; omega
        · simp only [Parser.M2, Parser.curW, Parser.sumToks] at c2
          omega

theorem parse_no_fault {ts : List Token} (h : Terminated ts) : ∀ f, parse ts ≠ .error f := by
  obtain ⟨t, r, rfl, htr⟩ := h.cases
  obtain ⟨hi, hr⟩ := Parser.newParser_inv htr
  intro f hf
  unfold parse at hf
  cases hrun : Parser.run (Parser.runFuel (t :: r)) .line (Parser.newParser (t :: r)) with
  | error e =>
    exact Parser.run_noFault _ _ _ hi (Parser.φ_newParser t r) e hrun
  | ok p =>
    rw [hrun] at hf
    simp only [bind, Except.bind, pure, Except.pure] at hf
    split at hf
    · cases hf
    · split at hf <;> cases hf

end Gmars
