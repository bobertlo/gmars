/-
  The hypotheses of `compile_meaning_equ` on a concrete program, as ONE test that the kernel
  evaluates (`xprogWFB … = true → XProgWF …`, `rankB`).  The only part with an idea: the syntax tree
  that `TreeOK` asks for is FOUND by a precedence parser about which nothing is proved, and then
  only VALIDATED (`WFprec`, `NoBigLit` and "its tokens are the expanded expression" are decidable).
  The test for `SizeOK` (`sizeB`) only asks the reference: where `Spec.expandEqus 64` succeeds with
  at most 20000 tokens, no round was longer (`expandEqus_size`, Equ).
-/
import Gmars.Proofs.AsmEqu

namespace Gmars.AsmLine
open Gmars.Compile Gmars.ExprProofs Gmars.Spec

def treeB : CST → Bool
  | .num n => decide ((n : Int) < GoEval.big)
  | .signs _ e => e.isAtom && treeB e
  | .paren e => treeB e
  | .bin op l r =>
    decide (isArith op) && treeB l && treeB r && decide (Expr.prec op ≤ l.prec) &&
      decide (Expr.prec op < r.prec) &&
      match denote (.bin op l r) with
      | some v => decide (-GoEval.big < v ∧ v < GoEval.big)
      | none => true

theorem treeB_sound (c : CST) (h : treeB c = true) : WFprec c ∧ NoBigLit c := by
  induction c with
  | num n => exact ⟨trivial, of_decide_eq_true (p := (n : Int) < GoEval.big) h⟩
  | signs _ e ih =>
    rw [treeB, Bool.and_eq_true] at h
    exact ⟨⟨h.1, (ih h.2).1⟩, (ih h.2).2⟩
  | paren e ih => exact ih h
  | bin op l r ihl ihr =>
    simp only [treeB, Bool.and_eq_true, decide_eq_true_eq] at h
    obtain ⟨⟨⟨⟨⟨ha, hl⟩, hr⟩, pl⟩, pr⟩, hv⟩ := h
    refine ⟨⟨ha, (ihl hl).1, (ihr hr).1, pl, pr⟩, (ihl hl).2, (ihr hr).2, fun v hd => ?_⟩
    rw [hd] at hv
    exact of_decide_eq_true hv

/-- a sign in front of a tree: sign runs are kept maximal -/
def addSign (s : Bool) : CST → CST
  | .signs ss e => .signs (s :: ss) e
  | e => .signs [s] e

mutual
  /-- Precedence climbing in the shape of `Spec.Expr.unary` / `binary` / `loop`, building the tree.
      NOTHING is proved about `parseU`, `parseB`, `parseL`: `toksB` validates what they return. -/
  def parseU : Nat → List ETok → Option (CST × List ETok)
    | 0, _ => none
    | f + 1, ts =>
      match ts with
      | .op o :: r => (parseU f r).map fun p => (addSign (o == "-") p.1, p.2)
      | .num n :: r => some (.num n, r)
      | .lp :: r =>
        match parseB f r 1 with
        | some (c, .rp :: r') => some (.paren c, r')
        | _ => none
      | _ => none
  def parseB : Nat → List ETok → Nat → Option (CST × List ETok)
    | 0, _, _ => none
    | f + 1, ts, p1 => (parseU f ts).bind fun p => parseL f p.1 p.2 p1
  def parseL : Nat → CST → List ETok → Nat → Option (CST × List ETok)
    | 0, _, _, _ => none
    | f + 1, x, ts, p1 =>
      match ts with
      | .op o :: r =>
        if Expr.prec o < p1 then some (x, ts)
        else (parseB f r (Expr.prec o + 1)).bind fun q => parseL f (.bin o x q.1) q.2 p1
      | _ => some (x, ts)
end

def toksB (out : List ETok) : Bool :=
  match parseB (3 * out.length + 3) out 1 with
  | some (c, []) => treeB c && c.etoks == out
  | _ => false

theorem toksB_sound {out : List ETok} (h : toksB out = true) :
    ∃ c : CST, WFprec c ∧ NoBigLit c ∧ c.etoks = out := by
  unfold toksB at h
  split at h
  · rename_i c _
    simp only [Bool.and_eq_true, beq_iff_eq] at h
    exact ⟨c, (treeB_sound c h.1).1, (treeB_sound c h.1).2, h.2⟩
  · cases h

def sizeB (tab : ETab) (e : List ETok) : Bool := (expandEqus 64 tab e).any (·.length ≤ 20000)

theorem sizeB_sound {tab : ETab} {e : List ETok} (h : sizeB tab e = true) : SizeOK tab e := by
  obtain ⟨x, hx, hl⟩ := (Option.any_eq_true _ _).1 h
  exact fun j _ => expandEqus_size 64 e x hx (of_decide_eq_true hl) j

def goodXB (sc : Cfg) (t : Tables) (k : Nat) (e : List ETok) : Bool :=
  sizeB t.equs e && ((expandEqus 64 t.equs e).bind (substLabels sc t k)).all toksB

theorem goodXB_sound {sc : Cfg} {t : Tables} {k : Nat} {e : List ETok}
    (h : goodXB sc t k e = true) : GoodX sc t k e := by
  rw [goodXB, Bool.and_eq_true] at h
  refine ⟨sizeB_sound h.1, fun x out h1 h2 => ?_⟩
  rw [h1, Option.bind_some, h2] at h
  exact toksB_sound h.2

theorem all_some {α : Type} {p : α → Bool} {P : α → Prop} (hp : ∀ a, p a = true → P a)
    {o : Option α} (h : o.all p = true) (a : α) (ha : o = some a) : P a :=
  hp a (by rwa [ha] at h)

/-- `la cm e` tests that the lexer reads `e` from the text of the assert line `cm` -/
def XItem.wfB (la : String → List ETok → Bool) (sc : Cfg) (t : Tables) (k : Nat) : XItem → Bool
  | .instr _ op md a b =>
    decide (Ascii op ∧ '.' ∉ op.toList) && md.all (fun s => decide (Ascii s)) &&
      goodXB sc t k a.expr && b.all (goodXB sc t k ·.expr)
  | .equ kw _ e => lowerStr kw == "equ" && sizeB t.equs e
  | .org kw e => lowerStr kw == "org" && goodXB sc t 0 e
  | .end_ kw e => lowerStr kw == "end" && e.all (goodXB sc t 0)
  | .assert cm e => assertPrefix.isPrefixOf cm.toList && la cm e && goodXB sc t 0 e

def xprogWFB (la : String → List ETok → Bool) (sc : Cfg) (t : Tables) : Nat → List XItem → Bool
  | _, [] => true
  | k, it :: r => it.wfB la sc t k && xprogWFB la sc t (if it.isInstr then k + 1 else k) r

variable {lexTokens : String → List Token} {la : String → List ETok → Bool}
  (hla : ∀ cm e, la cm e = true →
    ∃ last, lexTokens (String.ofList (cm.toList.drop 7)) = toksOf e ++ [last])
include hla

theorem XItem.wfB_sound {sc : Cfg} {t : Tables} {k : Nat} {it : XItem}
    (h : it.wfB la sc t k = true) : it.WF lexTokens sc t k := by
  cases it <;> simp only [XItem.wfB, Bool.and_eq_true, beq_iff_eq, decide_eq_true_eq] at h
  · exact ⟨h.1.1.1.1, h.1.1.1.2, all_some (fun _ => of_decide_eq_true) h.1.1.2, goodXB_sound h.1.2,
      all_some (fun _ => goodXB_sound) h.2⟩
  · exact ⟨h.1, sizeB_sound h.2⟩
  · exact ⟨h.1, goodXB_sound h.2⟩
  · exact ⟨h.1, all_some (fun _ => goodXB_sound) h.2⟩
  · exact ⟨h.1.1, hla _ _ h.1.2, goodXB_sound h.2⟩

theorem xprogWFB_sound {sc : Cfg} {t : Tables} : ∀ {k : Nat} {prog : List XItem},
    xprogWFB la sc t k prog = true → XProgWF lexTokens sc t k prog
  | _, [], _ => trivial
  | _, _ :: _, h => by
    rw [xprogWFB, Bool.and_eq_true] at h
    exact ⟨XItem.wfB_sound hla h.1, xprogWFB_sound h.2⟩

omit hla

/-- the reference's own test (every body expands) with one round to spare: the table is ranked by
    `rankOf`, below 63 -/
def rankB (tab : ETab) : Bool :=
  tab.all fun p => (expandEqus 64 tab p.2).isSome && decide (rounds tab 64 p.2 < 63)

theorem rankB_sound {tab : ETab} (h : rankB tab = true) :
    ERanked tab (rankOf tab) ∧ ∀ s, rankOf tab s < 63 := by
  have hp := fun p hp => Bool.and_eq_true_iff.1 (List.all_eq_true.1 h p hp)
  have hg : ∀ k v, tab.get? k = some v → ∃ p ∈ tab, p.2 = v := by
    intro k v hkv
    obtain ⟨p, hf, rfl⟩ := Option.map_eq_some_iff.1 hkv
    exact ⟨p, List.mem_of_find?_eq_some hf, rfl⟩
  refine ⟨ranked_of_expandEqus fun k v hkv => ?_, fun s => ?_⟩
  · obtain ⟨p, hm, rfl⟩ := hg k v hkv
    exact (hp p hm).1
  · unfold rankOf
    cases hs : tab.get? s with
    | none => exact Nat.zero_lt_succ _
    | some v =>
      obtain ⟨p, hm, rfl⟩ := hg s v hs
      exact of_decide_eq_true (hp p hm).2

end Gmars.AsmLine
