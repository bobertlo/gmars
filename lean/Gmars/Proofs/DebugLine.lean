/-
  C15: the debug trace (`debugLine`, model of debugReporter.Report) is faithful to the reports: a
  reader (`readBack`) gets the report's type, warrior index and address, and the text after them,
  back from the printed line (`readBack_line`), and nothing from a line that names no warrior; so
  equal lines come from equal reports, and an Exec line also determines the executed instruction.
-/
import Gmars.Model.DebugReporter
import Gmars.Proofs.InstrString

namespace Gmars.DebugLine
open Gmars.GoStr

def cls (c : Char) : Bool := isDigit c || c == '-'

theorem zeros_digits_isDigit (k n : Nat) :
    ∀ c ∈ List.replicate k '0' ++ natDigits n, isDigit c = true := by
  intro c hc
  rcases List.mem_append.1 hc with hc | hc
  · rw [(List.mem_replicate.1 hc).2]; decide
  · exact toDigits_all_isDigit n c hc

theorem padZero_cls (n : Nat) (i : Int) : ∀ c ∈ padZero n i, cls c = true := by
  intro c hc
  unfold padZero at hc
  unfold cls
  split at hc
  · rcases List.mem_cons.1 hc with rfl | hc
    · decide
    · rw [zeros_digits_isDigit _ _ c hc]; rfl
  · rw [zeros_digits_isDigit _ _ c hc]; rfl

def unpad (s : Str) : Int :=
  if s.head? = some '-' then -(digitsVal s.tail : Int) else digitsVal s

theorem unpad_padZero (n : Nat) (i : Int) : unpad (padZero n i) = i := by
  unfold padZero unpad
  split
  · rw [if_pos (List.head?_cons ..), List.tail_cons, digitsVal_zeros, natDigits, digitsVal_toDigits]
    omega
  · rw [if_neg fun (e : _ = some '-') =>
        absurd (zeros_digits_isDigit _ _ '-' (List.mem_of_mem_head? e)) (by decide),
      digitsVal_zeros, natDigits, digitsVal_toDigits]
    omega

theorem padZero_digit_or_sign (n : Nat) (i : Int) :
    ∀ c ∈ padZero n i, isDigit c = true ∨ c = '-' := by
  intro c hc
  simpa [cls] using padZero_cls n i c hc

theorem padZero_no_sep (n : Nat) (i : Int) : ∀ c ∈ padZero n i, c ≠ ' ' ∧ c ≠ ':' := by
  intro c hc
  have := padZero_cls n i c hc
  constructor <;> (intro e; subst e; revert this; decide)

/-- the report types whose line names a warrior -/
abbrev Named (t : RType) : Prop := t ≠ .simReset ∧ t ≠ .cycleStart ∧ t ≠ .cycleEnd

def hdc : RType → Char
  | .warriorSpawn => 'w'
  | _ => 'W'

-- The literals of `debugLine` are constants of their own: inside `word` they would be evaluated
-- by `whnf` whenever an equation of `word` is used.
def sSpawn : Str := ": Warrior Spawn\n".toList
def sExec : Str := ": Exec ".toList
def sTaskT : Str := ": Task Terminated\n".toList
def sWarT : Str := ": Warrior Terminated\n".toList
def sRead : Str := ": Read\n".toList
def sWrite : Str := ": Write\n".toList
def sInc : Str := ": Increment\n".toList
def sDec : Str := ": Decrement\n".toList
def sPush : Str := ": Task Push ".toList

def word (t : RType) (m : UInt64) (cell : Instr) : Str :=
  match t with
  | .warriorSpawn => sSpawn
  | .taskPop => sExec ++ (normString m cell ++ ['\n'])
  | .taskTerminate => sTaskT
  | .warriorTerminate => sWarT
  | .read => sRead
  | .write => sWrite
  | .increment => sInc
  | .decrement => sDec
  | .taskPush => ['\n']
  | _ => []

def tailOf (t : RType) (a : Str) (m : UInt64) (cell : Instr) : Str :=
  (if t = .taskPush then sPush else [' ']) ++ (a ++ word t m cell)

theorem debugLine_eq (r : Report) (c : Nat) (m : UInt64) (cell : Instr) (ht : Named r.typ) :
    debugLine r c m cell =
      hdc r.typ :: (padZero 2 r.wi ++ tailOf r.typ (padZero 4 (r.addr.toNat : Int)) m cell) := by
  obtain ⟨t, cy, wi, ad⟩ := r
  have e1 : "w".toList = ['w'] := by decide
  have e2 : "W".toList = ['W'] := by decide
  have e3 : " ".toList = [' '] := by decide
  have e4 : "\n".toList = ['\n'] := by decide
  cases t
  · exact absurd rfl ht.1
  · exact absurd rfl ht.2.1
  · exact absurd rfl ht.2.2
  -- what is left after `simp only` is to unfold the constants `sSpawn` … `sPush`
  all_goals
    simp only [debugLine, hdc, tailOf, word, e1, e2, e3, e4, List.append_assoc, List.cons_append,
      List.nil_append, reduceCtorEq, if_false, if_true]
    rfl

theorem colon_cls {x : Str} (h : x.head? = some ':') : ∀ c ∈ x.head?, cls c = false := by
  rw [h]
  intro c hc
  cases hc
  decide

theorem push_head : sPush.head? = some ':' := by decide +kernel

/-- reads the report type off the header letter and the first two letters after `": "` -/
def typOf (h : Char) (w : Str) : RType :=
  let k := (w.drop 2).take 2
  if k == ['W', 'a'] then (if h == 'w' then .warriorSpawn else .warriorTerminate)
  else if k == ['E', 'x'] then .taskPop
  else if k == ['T', 'a'] then .taskTerminate
  else if k == ['R', 'e'] then .read
  else if k == ['W', 'r'] then .write
  else if k == ['I', 'n'] then .increment
  else if k == ['D', 'e'] then .decrement
  else .taskPush

theorem word_spec (t : RType) (m : UInt64) (cell : Instr) (ht : Named t) (hp : t ≠ .taskPush) :
    (word t m cell).head? = some ':' ∧ typOf (hdc t) (word t m cell) = t := by
  cases t
  · exact absurd rfl ht.1
  · exact absurd rfl ht.2.1
  · exact absurd rfl ht.2.2
  case taskPush => exact absurd rfl hp
  case taskPop =>
    have e : sExec = [':', ' ', 'E', 'x', 'e', 'c', ' '] := by decide +kernel
    simp [typOf, word, e]
  all_goals
    simp only [hdc, word]
    decide +kernel

def readBack : Str → Option (RType × Int × Int × Str)
  | h :: s =>
    if h = 'w' ∨ h = 'W' then
      let r := s.dropWhile cls
      let push := r.head? == some ':'
      let r' := r.drop (if push then sPush.length else 1)
      some (if push then .taskPush else typOf h (r'.dropWhile cls), unpad (s.takeWhile cls),
        unpad (r'.takeWhile cls), r'.dropWhile cls)
    else none
  | [] => none

theorem readBack_named (t : RType) (ht : Named t) (wi a : Int) (m : UInt64) (cell : Instr) :
    readBack (hdc t :: (padZero 2 wi ++ tailOf t (padZero 4 a) m cell)) =
      some (t, wi, a, word t m cell) := by
  have hh : hdc t = 'w' ∨ hdc t = 'W' := by cases t <;> simp [hdc]
  unfold tailOf
  by_cases hp : t = .taskPush
  · subst hp
    have s1 := span_of cls (padZero 2 wi) (sPush ++ (padZero 4 a ++ ['\n'])) (padZero_cls _ _)
      (colon_cls (by rw [List.head?_append, push_head]; rfl))
    have s2 := span_of cls (padZero 4 a) ['\n'] (padZero_cls _ _) (by decide)
    simp only [readBack, if_pos hh, if_true, word, s1.1, s1.2, List.head?_append, push_head, Option.some_or,
      beq_self_eq_true, if_true, List.drop_left, s2.1, s2.2, unpad_padZero]
  · obtain ⟨hw, ht⟩ := word_spec t m cell ht hp
    have s1 := span_of cls (padZero 2 wi) (' ' :: (padZero 4 a ++ word t m cell)) (padZero_cls _ _)
      (by intro c hc; cases hc; decide)
    have s2 := span_of cls (padZero 4 a) (word t m cell) (padZero_cls _ _) (colon_cls hw)
    simp only [readBack, if_pos hh, if_neg hp, List.singleton_append, s1.1, s1.2, List.head?_cons, Option.some_beq_some,
      show (' ' == ':') = false by decide, Bool.false_eq_true, if_false, List.drop_one, List.tail_cons,
      s2.1, s2.2, unpad_padZero, ht]

theorem readBack_line (r : Report) (c : Nat) (m : UInt64) (cell : Instr) :
    readBack (debugLine r c m cell) =
      if Named r.typ then
        some (r.typ, r.wi, (r.addr.toNat : Int), word r.typ m cell)
      else none := by
  by_cases ht : Named r.typ
  · rw [if_pos ht, debugLine_eq r c m cell ht, readBack_named _ ht]
  · rw [if_neg ht]
    obtain ⟨t, cy, wi, ad⟩ := r
    dsimp only at ht
    cases t <;> first
      | exact absurd ⟨by decide, by decide, by decide⟩ ht
      | skip
    · have e : "Simulator reset\n".toList = 'S' :: "imulator reset\n".toList := by decide
      simp only [debugLine, e, readBack]
      exact if_neg (by decide)
    · simp only [debugLine]
      cases hd : natDigits c with
      | nil => exact absurd hd Nat.toDigits_ne_nil
      | cons d ds =>
        have := toDigits_all_isDigit c d (by show d ∈ natDigits c; rw [hd]; simp)
        rw [List.cons_append, readBack]
        exact if_neg (by rintro (rfl | rfl) <;> exact absurd this (by decide))
    · rfl

theorem debugLine_faithful (r r' : Report) (c c' : Nat) (m : UInt64) (cell cell' : Instr)
    (ht : r.typ ≠ .simReset ∧ r.typ ≠ .cycleStart ∧ r.typ ≠ .cycleEnd)
    (h : debugLine r c m cell = debugLine r' c' m cell') :
    r.typ = r'.typ ∧ r.wi = r'.wi ∧ r.addr = r'.addr := by
  have e := readBack_line r c m cell
  rw [h, readBack_line, if_pos ht] at e
  split at e
  · simp only [Option.some.injEq, Prod.mk.injEq] at e
    exact ⟨e.1.symm, e.2.1.symm, UInt64.toNat_inj.1 (Int.ofNat_inj.1 e.2.2.1.symm)⟩
  · cases e

theorem debugLine_exec_cell (r r' : Report) (c c' : Nat) (m : UInt64) (cell cell' : Instr)
    (hp : r.typ = .taskPop) (hi : cell.a < m ∧ cell.b < m) (hj : cell'.a < m ∧ cell'.b < m)
    (h : debugLine r c m cell = debugLine r' c' m cell') : cell = cell' := by
  have ht : Named r.typ := by rw [hp]; decide
  have e := readBack_line r c m cell
  rw [h, readBack_line, if_pos ht] at e
  split at e
  · simp only [Option.some.injEq, Prod.mk.injEq] at e
    obtain ⟨e1, _, _, e4⟩ := e
    rw [e1, hp] at e4
    simp only [word, List.append_cancel_left_eq] at e4
    exact (InstrString.normString_injective m cell' cell hj hi (List.append_cancel_right e4)).symm
  · cases e

end Gmars.DebugLine
