/-
  The hypotheses of `assemble_meaning_equ` are satisfiable: the five-line program of
  `Gmars/Proofs/EquExample.lean` (a forward EQU use, an EQU that uses another EQU and a label,
  textual substitution, an assert) with a layout (a colon, blank lines, a comment line) and an odd
  spacing, from bytes:

      "\nx  equ 1+2\t\n a:dat\t\tx* 3\n   \n; a plain comment\n\tdat y\ny EQU x-a\n  ;assert x\n"

  `CompileWarrior` returns the reference meaning (DAT 0, 7 / DAT 0, 4).
-/
import Gmars.Proofs.AsmComposeEquCheck
import Gmars.Proofs.EquExample
import Gmars.Proofs.AsmComposeEquCase

namespace Gmars.AsmComposeEqu.Example
open Gmars.Render Gmars.AsmLine Gmars.AsmCompose Gmars.AsmLine.EquExample

open Spec.ETok in
def progS : EProg :=
  { lead := 1,
    items := [
      .equ "x" "equ" [num 1, op "+", num 2] 0,
      .instr [("a", true)] "dat" none ⟨none, [name "x", op "*", num 3]⟩ none 1,
      .comment " a plain comment".toList 0,
      .instr [] "dat" none ⟨none, [name "y"]⟩ none 0,
      .equ "y" "EQU" [name "x", op "-", name "a"] 0,
      .assert "assert x".toList [name "x"] 0 ] }

def idw (s : String) : Word :=
  match s.toList with
  | c :: cs => .ident c cs
  | [] => .sym ' '

def numw (s : String) : Word :=
  match s.toList with
  | c :: cs => .num c cs
  | [] => .sym ' '

def lsS : List SrcLine := [
  { words := [] },
  { words := [(idw "x", "  ".toList), (idw "equ", " ".toList), (numw "1", []), (.sym '+', []),
              (numw "2", "\t".toList)] },
  { lead := " ".toList,
    words := [(idw "a", []), (.sym ':', []), (idw "dat", "\t\t".toList), (idw "x", []),
              (.sym '*', " ".toList), (numw "3", [])] },
  { lead := "   ".toList, words := [] },
  { words := [], comment := some " a plain comment".toList },
  { lead := "\t".toList, words := [(idw "dat", " ".toList), (idw "y", [])] },
  { words := [(idw "y", " ".toList), (idw "EQU", " ".toList), (idw "x", []), (.sym '-', []),
              (idw "a", [])] },
  { lead := "  ".toList, words := [], comment := some "assert x".toList } ]

theorem progS_ok : ∃ d, progS.Hyps scE d :=
  EProg.okB_sound (aw := fun _ => { lead := [' '], words := [(idw "x", [])] }) (by decide +kernel)

theorem lsS_ok : (∀ l ∈ lsS, l.ok (some '\n') = true) ∧ SameLines lsS progS.srcLines ∧
    ∀ c ∈ renderLines lsS, c.toNat < 128 := by decide +kernel

theorem example_assemble :
    assemble cfgE (asciiBytes (renderLines lsS)) =
      match Spec.meaningFlat scE (progS.xitems.map XItem.toItem) with
      | some m => .ok (toWD progS.meta m)
      | none => .err :=
  have ⟨_, h⟩ := progS_ok
  assemble_meaning_equ_ascii cfgE scE progS _ cfgE_valid cfgE_size cfgE_rel h.lex h.names h.plain
    h.nodup h.closed h.small h.ranked h.lt h.wf lsS lsS_ok.1 lsS_ok.2.1 lsS_ok.2.2

open Spec.ETok in
/-- `progS` with `EQU`, `DaT`, `dAT`, `eQu` -/
def progC : EProg :=
  { lead := 1,
    items := [
      .equ "x" "EQU" [num 1, op "+", num 2] 0,
      .instr [("a", true)] "DaT" none ⟨none, [name "x", op "*", num 3]⟩ none 1,
      .comment " a plain comment".toList 0,
      .instr [] "dAT" none ⟨none, [name "y"]⟩ none 0,
      .equ "y" "eQu" [name "x", op "-", name "a"] 0,
      .assert "assert x".toList [name "x"] 0 ] }

theorem progS_progC : progS.CaseVar progC where
  lead := rfl
  items :=
    ⟨⟨"EQU", rfl, by decide +kernel⟩, ⟨"DaT", none, rfl, by decide +kernel, trivial⟩, rfl,
     ⟨"dAT", none, rfl, by decide +kernel, trivial⟩, ⟨"eQu", rfl, by decide +kernel⟩, rfl, trivial⟩
  fin := rfl
  trail := rfl

/-- the canonical one-blank rendering of `progC`:
    "\nx EQU 1 + 2\na : DaT x * 3\n\n; a plain comment\ndAT y\ny eQu x - a\n;assert x\n" -/
theorem example_anycase :
    assemble cfgE (asciiBytes (renderLines progC.srcLines)) =
      match Spec.meaningFlat scE (progS.xitems.map XItem.toItem) with
      | some m => .ok (toWD progS.meta m)
      | none => .err :=
  have ⟨_, h⟩ := progS_ok
  assemble_meaning_anycase cfgE scE progS progC _ progS_progC cfgE_valid cfgE_size cfgE_rel h.lex
    h.names h.plain h.nodup h.closed h.small h.ranked h.lt h.wf progC.srcLines
    (progC.srcLines_ok (progS_progC.lexOK h.lex)) (SameLines.refl _) _
    (decodeRunes_ascii _ (by decide +kernel))

end Gmars.AsmComposeEqu.Example
