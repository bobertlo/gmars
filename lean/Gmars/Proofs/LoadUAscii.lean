/-
  `parseLoadFileU_ascii`: on an ASCII byte string the byte-level reader `parseLoadFileU` and the
  ASCII reader `parseLoadFile` (Gmars/Model/Load.lean) agree, the metadata being mapped through
  the embedding of bytes into characters.
-/
import Gmars.Proofs.LoadU

namespace Gmars
open GoStr GoStrU Unicode

def embC (b : UInt8) : Char := Char.ofNat b.toNat

theorem embB_eq (s : Bytes) : embB s = s.map embC := rfl

def AsciiB (s : Bytes) : Prop := ∀ b ∈ s, b < 0x80
def AsciiS (s : Str) : Prop := ∀ c ∈ s, c.toNat < 128

theorem embC_toNat (b : UInt8) : (embC b).toNat = b.toNat :=
  toNat_ofNat (by have := b.toNat_lt; omega)

theorem embC_inj {a b : UInt8} (h : embC a = embC b) : a = b := by
  have := congrArg Char.toNat h
  rw [embC_toNat, embC_toNat] at this
  exact UInt8.toNat_inj.mp this

theorem embC_beq (a b : UInt8) : (embC a == embC b) = (a == b) := by
  by_cases h : a = b
  · subst h; simp
  · have : embC a ≠ embC b := fun e => h (embC_inj e)
    rw [beq_eq_false_iff_ne.mpr h, beq_eq_false_iff_ne.mpr this]

theorem embC_semicolon : embC 0x3B = ';' := by decide
theorem embC_newline : embC 0x0A = '\n' := by decide

theorem asciiS_embB {s : Bytes} (h : AsciiB s) : AsciiS (embB s) := by
  intro c hc
  rw [embB_eq, List.mem_map] at hc
  obtain ⟨b, hb, rfl⟩ := hc
  rw [embC_toNat]
  exact UInt8.lt_iff_toNat_lt.mp (h b hb)

theorem isSpaceU_ascii {c : Char} (h : c.toNat < 128) : isSpaceU c = isAsciiSpace c := by
  have hv : c.val < 0x80 := UInt32.lt_iff_toNat_lt.mpr h
  simp [isSpaceU, isAsciiSpace, hv]

theorem runesW_ascii {s : Bytes} (h : AsciiB s) : runesW s = s.map (fun b => (embC b, [b])) := by
  induction s with
  | nil => rw [runesW]; rfl
  | cons b t ih =>
    have hb : b < 0x80 := h b (List.mem_cons_self ..)
    rw [runesW]
    simp only [Utf8.decodeRune, hb, if_true, Nat.sub_self, List.take_zero, List.drop_zero,
      List.map_cons]
    rw [ih (fun x hx => h x (List.mem_cons_of_mem _ hx))]
    rfl

theorem runes_ascii {s : Bytes} (h : AsciiB s) : runes s = embB s := by
  rw [← runesW_fst, runesW_ascii h, List.map_map]
  rfl

theorem dropWhile_congr_mem {α} {p q : α → Bool} {l : List α} (h : ∀ x ∈ l, p x = q x) :
    l.dropWhile p = l.dropWhile q := by
  induction l with
  | nil => rfl
  | cons a t ih =>
    simp only [List.dropWhile_cons, h a (List.mem_cons_self ..)]
    split
    · exact ih (fun x hx => h x (List.mem_cons_of_mem _ hx))
    · rfl

theorem trimSpaceU_ascii {s : Bytes} (h : AsciiB s) : embB (trimSpaceU s) = trimSpace (embB s) := by
  have hp : ∀ x ∈ s, (spW ∘ fun b => (embC b, [b])) x = (isAsciiSpace ∘ embC) x := by
    intro x hx
    simp only [Function.comp, spW]
    apply isSpaceU_ascii
    rw [embC_toNat]
    exact UInt8.lt_iff_toNat_lt.mp (h x hx)
  have hsub : ∀ x ∈ (s.dropWhile (isAsciiSpace ∘ embC)).reverse, x ∈ s := by
    intro x hx
    exact (List.dropWhile_sublist _).subset (List.mem_reverse.mp hx)
  unfold trimSpaceU trimSpace trimLeft
  rw [runesW_ascii h, embB_eq, embB_eq]
  simp only [List.dropWhile_map, ← List.map_reverse, List.map_map]
  rw [dropWhile_congr_mem hp, dropWhile_congr_mem (fun x hx => hp x (hsub x hx))]
  have : ∀ l : Bytes, (l.map ((fun x : Char × Bytes => x.2) ∘ fun b => (embC b, [b]))).flatten = l := by
    intro l
    induction l with
    | nil => rfl
    | cons a t ih => simp only [List.map_cons, List.flatten_cons, Function.comp, ih]; rfl
  rw [this]

theorem fieldsU_go_ascii (s cur : Str) (acc : List Str) (h : AsciiS s) :
    fieldsU.go s cur acc = fields.go s cur acc := by
  induction s generalizing cur acc with
  | nil => rfl
  | cons c t ih =>
    have ht : AsciiS t := fun x hx => h x (List.mem_cons_of_mem _ hx)
    simp only [fieldsU.go, fields.go, isSpaceU_ascii (h c (List.mem_cons_self ..))]
    split
    · exact ih _ _ ht
    · exact ih _ _ ht

theorem fieldsU_ascii {s : Str} (h : AsciiS s) : fieldsU s = fields s :=
  fieldsU_go_ascii s [] [] h

theorem asciiS_lowerOf {s : Str} (h : AsciiS s) : AsciiS (lowerOf s) := by
  intro c hc
  unfold lowerOf toLower at hc
  rw [List.mem_map] at hc
  obtain ⟨a, ha, rfl⟩ := hc
  exact lowerChar_toNat_lt (h a ((List.takeWhile_sublist _).subset ha))

theorem asciiS_replaceComma {s : Str} (h : AsciiS s) : AsciiS (replaceComma s) := by
  intro c hc
  unfold replaceComma at hc
  rw [List.mem_map] at hc
  obtain ⟨a, ha, rfl⟩ := hc
  split
  · decide
  · exact h a ha

theorem head_embB (raw : Bytes) : ((embB raw).head? == some ';') = (raw.head? == some 0x3B) := by
  cases raw with
  | nil => rfl
  | cons b t =>
    simp only [embB_eq, List.map_cons, List.head?_cons, ← embC_semicolon, Option.some_beq_some,
      embC_beq]

theorem metaLine_toL (st : LoadStateB) (raw : Bytes) (lower : Str) (h : AsciiB raw) :
    metaLine st.toL (embB raw) lower = (metaLineU st raw lower).toL := by
  have hd : ∀ n, (embB raw).drop n = embB (raw.drop n) := fun n => List.map_drop.symm
  have ht : ∀ n, trimSpace (embB (raw.drop n)) = embB (trimSpaceU (raw.drop n)) := fun n =>
    (trimSpaceU_ascii fun x hx => h x ((List.drop_sublist n raw).subset hx)).symm
  have hl : (embB raw).length = raw.length := List.length_map _
  have ha : ∀ a b, embB a ++ embB b = embB (a ++ b) := fun a b => List.map_append.symm
  unfold metaLine metaLineU
  simp only [apply_ite LoadStateB.toL]
  simp only [LoadStateB.toL, hd, ht, hl, ha]

theorem line_toL (legacy : Bool) (cs : UInt64) (st : LoadStateB) (raw : Bytes) (h : AsciiB raw) :
    lineOf legacy cs st.toL (embB raw) = (lineOfU legacy cs st raw).map LineOutcomeB.toL := by
  have hf : AsciiS (replaceComma (lowerOf (embB raw))) :=
    asciiS_replaceComma (asciiS_lowerOf (asciiS_embB h))
  rw [lineOf_eq, lineOfU_eq, head_embB]
  unfold fieldsOfU commaOfU toLowerRunes fieldsOf commaOf
  rw [runes_ascii h, fieldsU_ascii hf]
  split
  · rw [metaLine_toL _ _ _ h]; rfl
  -- both sides read the same `Act`; `toL` goes through `act`
  · rw [act_toL]
    show Except.map _ (readAct legacy cs st.code.size _ _) = _
    cases readAct legacy cs st.code.size _ _ <;> rfl

theorem readLines_go_embB (s cur : Bytes) (acc : List Bytes) :
    readLines.go (embB s) (embB cur) (acc.map embB) = (readLinesB.go s cur acc).map embB := by
  induction s generalizing cur acc with
  | nil =>
    simp only [embB_eq, List.map_nil, readLines.go, readLinesB.go, List.isEmpty_map]
    split
    · rw [List.map_reverse]
    · simp only [embB_eq, List.map_reverse, List.map_cons]
  | cons b t ih =>
    have e : (embC b == '\n') = (b == 0x0A) := by rw [← embC_newline]; exact embC_beq b 0x0A
    simp only [embB_eq, List.map_cons, readLines.go, readLinesB.go, e]
    split
    · have := ih [] ((b :: cur).reverse :: acc)
      simp only [embB_eq, List.map_cons, List.map_reverse, List.map_nil] at this
      exact this
    · have := ih (b :: cur) acc
      simp only [embB_eq, List.map_cons] at this
      exact this

theorem readLines_embB (s : Bytes) : readLines (embB s) = (readLinesB s).map embB :=
  readLines_go_embB s [] []

theorem readLinesB_go_flatten (s cur : Bytes) (acc : List Bytes) :
    (readLinesB.go s cur acc).flatten = acc.reverse.flatten ++ cur.reverse ++ s := by
  induction s generalizing cur acc with
  | nil =>
    simp only [readLinesB.go]
    split
    · rename_i h; simp [List.isEmpty_iff.mp h]
    · simp
  | cons b t ih =>
    simp only [readLinesB.go]
    split <;> rw [ih] <;> simp

theorem readLinesB_ascii {s : Bytes} (h : AsciiB s) : ∀ l ∈ readLinesB s, AsciiB l := by
  intro l hl x hx
  have e : (readLinesB s).flatten = s := readLinesB_go_flatten s [] []
  exact h x (e ▸ List.mem_flatten.mpr ⟨l, hl, hx⟩)

theorem loadLoop_toL {f : LoadState → Str → Except Panic LineOutcome}
    {g : LoadStateB → Bytes → Except Panic LineOutcomeB} (ls : List Bytes)
    (hfg : ∀ l ∈ ls, ∀ st, f st.toL (embB l) = (g st l).map LineOutcomeB.toL) (st : LoadStateB) :
    loadLoop f st.toL (ls.map embB) = (loadLoopU g st ls).map (Option.map LoadStateB.toL) := by
  induction ls generalizing st with
  | nil => rfl
  | cons l ls ih =>
    have ih' := ih (fun x hx => hfg x (List.mem_cons_of_mem _ hx))
    simp only [List.map_cons, loadLoop, loadLoopU, bind, Except.bind,
      hfg l (List.mem_cons_self ..) st]
    cases g st l with
    | error e => rfl
    | ok o =>
      cases o with
      | cont st' => exact ih' st'
      | stop st' => rfl
      | fail => rfl

theorem init_toL : ({} : LoadStateB).toL = ({} : LoadState) := by
  have h1 : embB (lit "Unknown") = "Unknown".toList := by decide
  have h2 : embB (lit "Anonymous") = "Anonymous".toList := by decide
  simp only [LoadStateB.toL, h1, h2]
  rfl

theorem parseLoadFileU_ascii (cfg : Config) (text : Bytes) (h : ∀ b ∈ text, b < 0x80) :
    parseLoadFile cfg (embB text) =
      (parseLoadFileU cfg text).map (Option.map WarriorDataB.toW) := by
  unfold parseLoadFile parseLoadFileU
  have hl := readLinesB_ascii h
  have hloop : loadLoop (lineOf (cfg.mode == .icws88) cfg.coreSize) {} (readLines (embB text)) =
      (loadLoopU (lineOfU (cfg.mode == .icws88) cfg.coreSize) {} (readLinesB text)).map
        (Option.map LoadStateB.toL) := by
    rw [readLines_embB, ← init_toL]
    exact loadLoop_toL _ (fun l hlm st => line_toL _ _ st l (hl l hlm)) _
  simp only [lineOf, lineOfU] at hloop
  simp only [bind, Except.bind, hloop]
  cases loadLoopU (if (cfg.mode == .icws88) = true then line88U cfg.coreSize
        else line94U cfg.coreSize) {} (readLinesB text) with
  | error e => rfl
  | ok r =>
    cases r with
    | none => rfl
    | some st =>
      simp only [Except.map, Option.map, finish_toL]

end Gmars
