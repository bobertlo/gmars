/-
  The two Hoare triples for the `Except` programs of the model, for any error type:
  `Ok x P` (`x` returns a value, and it satisfies `P`) and `Post x P` (if `x` returns a value, it
  satisfies `P`). A walk over a model function is a chain of `bind`s of the facts about its steps;
  `bind_eq_ok` is the inversion, for walks that start from an accepted result.
-/
namespace Gmars

@[simp] theorem except_pure {ε α : Type} (a : α) : (pure a : Except ε α) = .ok a := rfl
@[simp] theorem except_map_ok {ε α β : Type} (f : α → β) (a : α) :
    f <$> (.ok a : Except ε α) = .ok (f a) := rfl
@[simp] theorem except_bind_ok {ε α β : Type} (f : α → Except ε β) (a : α) :
    ((.ok a : Except ε α) >>= f) = f a := rfl

theorem bind_eq_ok {ε α β : Type} {x : Except ε α} {f : α → Except ε β} {b : β}
    (h : (x >>= f) = .ok b) : ∃ a, x = .ok a ∧ f a = .ok b := by
  cases x with
  | error e => cases h
  | ok a => exact ⟨a, rfl, h⟩

variable {ε α β : Type}

/-- the one form in which the walks over `exec` (refinement `St`, invariant `Mid`) and the levels
    above it state "never panics, and then" -/
def Ok (x : Except ε α) (P : α → Prop) : Prop := ∃ a, x = .ok a ∧ P a

structure Post (x : Except ε α) (P : α → Prop) : Prop where
  out : ∀ a, x = .ok a → P a

variable {x y : Except ε α} {f : α → Except ε β} {P : α → Prop} {Q : β → Prop} {a : α}
  {c : Prop} [Decidable c]

theorem Ok.intro (h : P a) : Ok (.ok a : Except ε α) P := ⟨a, rfl, h⟩

theorem Ok.bind (hx : Ok x P) (hf : ∀ a, P a → Ok (f a) Q) : Ok (x >>= f) Q := by
  obtain ⟨a, rfl, ha⟩ := hx
  exact hf a ha

theorem Ok.mono {Q : α → Prop} (hx : Ok x P) (h : ∀ a, P a → Q a) : Ok x Q := by
  obtain ⟨a, rfl, ha⟩ := hx
  exact ⟨a, rfl, h a ha⟩

theorem Ok.ite (hx : c → Ok x P) (hy : ¬ c → Ok y P) : Ok (if c then x else y) P := by
  split
  · exact hx ‹_›
  · exact hy ‹_›



theorem Ok.map {f : α → β} (hx : Ok x P) (hf : ∀ a, P a → Q (f a)) :
    Ok (do let a ← x; Pure.pure (f a)) Q :=
  hx.bind fun a ha => Ok.intro (hf a ha)

theorem Post.ok (h : P a) : Post (.ok a : Except ε α) P := ⟨fun b hb => by cases hb; exact h⟩

theorem Post.error {e : ε} : Post (.error e : Except ε α) P := ⟨fun b hb => by cases hb⟩

theorem Post.bind (hx : Post x P) (hf : ∀ a, P a → Post (f a) Q) : Post (x >>= f) Q := by
  refine ⟨fun b hb => ?_⟩
  cases x with
  | error e => cases hb
  | ok a => exact (hf a (hx.out a rfl)).out b hb

theorem Post.mono {Q : α → Prop} (hx : Post x P) (h : ∀ a, P a → Q a) : Post x Q :=
  ⟨fun a ha => h a (hx.out a ha)⟩

theorem Post.ite (hx : c → Post x P) (hy : ¬ c → Post y P) : Post (if c then x else y) P := by
  split
  · exact hx ‹_›
  · exact hy ‹_›

theorem Post.map {f : α → β} (hx : Post x P) (hf : ∀ a, P a → Q (f a)) :
    Post (do let a ← x; Pure.pure (f a)) Q :=
  hx.bind fun a ha => Post.ok (hf a ha)

theorem Post.triv (x : Except ε α) : Post x (fun _ => True) := ⟨fun _ _ => trivial⟩

end Gmars
