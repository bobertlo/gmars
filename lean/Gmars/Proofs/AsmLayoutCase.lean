/-
  C09, assembler half, layout perturbations: the case masks of `LoadLayout` as case
  variants (`AsmComposeEqu.CaseEq`) of the mnemonic, modifier and `ORG` / `END` words.
-/
import Gmars.Proofs.AsmPrint
import Gmars.Proofs.AsmComposeEquCase
import Gmars.Proofs.LoadLayout

namespace Gmars
namespace AsmLayout
open Gmars.Render Gmars.AsmLine Gmars.AsmCompose Gmars.AsmComposeEqu Gmars.GoStr Gmars.AsmPrint

def recaseS (mask : List Bool) (s : String) : String := String.ofList (LoadLayout.recase mask s.toList)

theorem caseEq_kwR (mask : List Bool) {kw : String} (h : Ascii kw) : CaseEq kw (recaseS mask kw) := by
  refine ⟨h, ?_, ?_⟩
  · intro c hc
    rw [recaseS, String.toList_ofList] at hc
    exact LoadLayout.recase_ascii mask kw.toList h c hc
  · apply lowerStr_of_lower
    rw [recaseS, String.toList_ofList, LoadLayout.toLower_recase]

def opR (mask : List Bool) (i : Instr) : String := recaseS (mask.take i.op.name.length) i.op.name

def mdR (legacy : Bool) (mask : List Bool) (i : Instr) : Option String :=
  if legacy then none else some (recaseS (mask.drop i.op.name.length).tail i.md.name)

def opWordR (legacy : Bool) (mask : List Bool) (i : Instr) : String :=
  String.ofList (LoadLayout.recase mask (RoundTrip.opWord legacy i))

theorem opWordR_eq (legacy : Bool) (mask : List Bool) (i : Instr) :
    opWordR legacy mask i = opString (opR mask i) (mdR legacy mask i) := by
  apply String.toList_injective
  cases legacy
  · simp only [opWordR, RoundTrip.opWord, Bool.false_eq_true, if_false, mdR, opString_some_toList, opR,
      recaseS, String.toList_ofList, LoadLayout.recase_append, LoadLayout.recase_dot, String.length_toList]
  · simp only [opWordR, RoundTrip.opWord, if_true, List.append_nil, mdR, opString_none, opR, recaseS,
      String.toList_ofList]
    rw [← String.length_toList, LoadLayout.recase_take]

theorem caseEq_opR (mask : List Bool) (i : Instr) : CaseEq i.op.name (opR mask i) :=
  caseEq_kwR _ (RoundTrip.ascii_opName i.op).1

theorem caseEqO_mdR (legacy : Bool) (mask : List Bool) (i : Instr) :
    CaseEqO (mdText legacy i) (mdR legacy mask i) := by
  cases legacy
  · exact caseEq_kwR _ (RoundTrip.ascii_mdName i.md)
  · trivial

theorem caseEq_opWordR (legacy : Bool) (mask : List Bool) (i : Instr) :
    CaseEq (opString i.op.name (mdText legacy i)) (opWordR legacy mask i) := by
  rw [opWordR_eq]
  exact opString_caseEq (caseEq_opR mask i) (caseEqO_mdR legacy mask i)

theorem identOK_opWordR (legacy : Bool) (mask : List Bool) (i : Instr) :
    identOK (opWordR legacy mask i) = true := by
  rw [← identOK_caseEq (caseEq_opWordR legacy mask i)]
  exact identOK_opText legacy i

theorem isOpName_opWordR (legacy : Bool) (mask : List Bool) (i : Instr) :
    IsOpName (opWordR legacy mask i) :=
  isOpName_lower (caseEq_opWordR legacy mask i).2.2 (isOpName_opText legacy i)

theorem dot_not_mem_opR (mask : List Bool) (i : Instr) : '.' ∉ (opR mask i).toList := by
  intro h
  have h1 : '.' ∈ toLower (opR mask i).toList := (mem_toLower_iff (by decide)).mpr h
  rw [← lower_of_lowerStr (caseEq_opR mask i).2.2, mem_toLower_iff (by decide)] at h1
  exact (RoundTrip.ascii_opName i.op).2 h1

theorem ascii_ORG : Ascii "ORG" := by unfold Ascii; decide
theorem ascii_END : Ascii "END" := by unfold Ascii; decide

theorem lowerStr_orgR (mask : List Bool) : lowerStr (recaseS mask "ORG") = "org" := by
  rw [← (caseEq_kwR mask ascii_ORG).2.2]; decide

theorem lowerStr_endR (mask : List Bool) : lowerStr (recaseS mask "END") = "end" := by
  rw [← (caseEq_kwR mask ascii_END).2.2]; decide

theorem identOK_orgR (mask : List Bool) : identOK (recaseS mask "ORG") = true := by
  rw [← identOK_caseEq (caseEq_kwR mask ascii_ORG)]; decide

theorem identOK_endR (mask : List Bool) : identOK (recaseS mask "END") = true := by
  rw [← identOK_caseEq (caseEq_kwR mask ascii_END)]; decide

end AsmLayout
end Gmars
