/-
  C09, assembler half, layout perturbations: the label program a layout denotes — the
  load program of `AsmPrint` with every mnemonic, modifier and `ORG` / `END` word in its own
  letter case — and its reference meaning.
-/
import Gmars.Proofs.AsmLayoutCase

namespace Gmars
namespace AsmLayout
open Gmars.AsmLine Gmars.AsmPrint Gmars.AsmComposeEqu
open Gmars.LoadLayout (Layout InstrLay DirLay)

def LIR (legacy : Bool) (p : InstrLay) : LItem :=
  LIof (opR p.mask p.instr) (mdR legacy p.mask p.instr) p.instr

def progR (legacy : Bool) (L : Layout) (start : Nat) : List LItem :=
  dirItems legacy (recaseS L.dir.mask "ORG") (recaseS L.dir.mask "END") start (L.lines.map (LIR legacy))

theorem progR_labelsFrom (legacy : Bool) (L : Layout) (start : Nat) :
    labelsFrom 0 (progR legacy L start) = [] :=
  dirItems_labelsFrom _ _ _ _ _ (labelsFrom_LIof _ _ _ L.lines)

theorem progR_count (legacy : Bool) (L : Layout) (start : Nat) :
    linstrCount (progR legacy L start) = L.lines.length :=
  (dirItems_count _ _ _ _ _).trans (linstrCount_LIof _ _ _ L.lines)

theorem LIR_wf (legacy : Bool) (M : Nat) (S : List (String × Nat)) (k : Nat) (p : InstrLay) :
    (LIR legacy p).WF M S k := by
  refine ⟨(caseEq_opR p.mask p.instr).2.1, dot_not_mem_opR p.mask p.instr, ?_,
    goodTmpl_num _ _ p.instr.a.toNat_lt, ?_⟩
  · intro s hs
    cases legacy
    · simp only [mdR, Bool.false_eq_true, if_false, Option.some.injEq] at hs
      subst hs
      exact (caseEq_kwR _ (RoundTrip.ascii_mdName p.instr.md)).2.1
    · simp [mdR] at hs
  · intro bo hbo
    cases hbo
    exact goodTmpl_num _ _ p.instr.b.toNat_lt

theorem progWF_LIR (legacy : Bool) (M : Nat) (S : List (String × Nat)) (ps : List InstrLay)
    (tl : List LItem) (htl : ∀ k, ProgWF M S k tl) :
    ∀ k, ProgWF M S k (ps.map (LIR legacy) ++ tl) := by
  induction ps with
  | nil => exact htl
  | cons p r ih =>
    intro k
    simp only [List.map_cons, List.cons_append, ProgWF]
    exact ⟨LIR_wf legacy M S k p, ih _⟩

theorem progR_progWF (legacy : Bool) (M : Nat) (L : Layout) (start : Nat) (hs : start < 2 ^ 64) :
    ProgWF M (labelsFrom 0 (progR legacy L start)) 0 (progR legacy L start) := by
  rw [progR_labelsFrom]
  unfold progR dirItems
  cases legacy
  · simp only [Bool.false_eq_true, if_false, ProgWF, LItem.isInstr]
    refine ⟨⟨lowerStr_orgR _, goodTmpl_num _ _ hs⟩, ?_⟩
    have := progWF_LIR false M [] L.lines [] (fun _ => trivial) 0
    simpa using this
  · simp only [if_true]
    refine progWF_LIR true M [] L.lines _ (fun k => ?_) 0
    refine ⟨⟨lowerStr_endR _, ?_⟩, trivial⟩
    intro x hx
    cases hx
    exact goodTmpl_num _ _ hs

theorem xcases_lines (legacy : Bool) (ps : List InstrLay) (tl tl' : List AsmLine.XItem)
    (h : XCases tl tl') :
    XCases ((ps.map fun p => (LIof p.instr.op.name (mdText legacy p.instr) p.instr).toX) ++ tl)
      ((ps.map fun p => (LIof (opR p.mask p.instr) (mdR legacy p.mask p.instr) p.instr).toX) ++ tl') := by
  induction ps with
  | nil => exact h
  | cons p r ih =>
    exact ⟨⟨_, _, rfl, caseEq_opR p.mask p.instr, caseEqO_mdR legacy p.mask p.instr⟩, ih⟩

/-- the reference does not see the letter case (`XCases.meaning_eq`) -/
theorem meaningFlat_progR_eq (sc : Spec.Cfg) (legacy : Bool) (L : Layout) (start : Nat) :
    Spec.meaningFlat sc ((progR legacy L start).map LItem.toItem) =
      Spec.meaningFlat sc ((loadItems legacy (L.lines.map (·.instr)) start).map LItem.toItem) := by
  unfold progR loadItems dirItems
  cases legacy
  · simp only [Bool.false_eq_true, if_false]
    have hx := xcases_lines false L.lines [] [] trivial
    have := (XCases.meaning_eq (XCases.append (P := [AsmLine.XItem.org "ORG" [.num start]])
      (Q := [AsmLine.XItem.org (recaseS L.dir.mask "ORG") [.num start]])
      ⟨⟨_, rfl, (caseEq_kwR L.dir.mask ascii_ORG).2.2⟩, trivial⟩ hx) sc)
    simp only [List.append_nil, List.cons_append, List.nil_append, List.map_cons, List.map_map] at this
    simp only [List.map_cons, List.map_map]
    exact this
  · simp only [if_true]
    have hx := xcases_lines true L.lines [AsmLine.XItem.end_ "END" (some [.num start])]
      [AsmLine.XItem.end_ (recaseS L.dir.mask "END") (some [.num start])]
      ⟨⟨_, rfl, (caseEq_kwR L.dir.mask ascii_END).2.2⟩, trivial⟩
    have := XCases.meaning_eq hx sc
    simp only [List.map_append, List.map_cons, List.map_map, List.map_nil] at this ⊢
    exact this

theorem meaningFlat_progR (sc : Spec.Cfg) (L : Layout) (start : Nat)
    (hf : ∀ p ∈ L.lines, p.instr.a.toNat < sc.M ∧ p.instr.b.toNat < sc.M)
    (h31 : ∀ p ∈ L.lines, p.instr.a.toNat < 2 ^ 31 ∧ p.instr.b.toNat < 2 ^ 31) (hs31 : start < 2 ^ 31)
    (hstart : start < L.lines.length) (hlen : L.lines.length ≤ sc.maxLen)
    (hl : sc.legacy = true → ∀ p ∈ L.lines, Spec.Legal88 p.instr = true) :
    Spec.meaningFlat sc ((progR sc.legacy L start).map LItem.toItem) =
      some { code := L.lines.map (·.instr), start := start } := by
  have hcanon := meaningFlat_loadItems sc (L.lines.map (·.instr)) start
    (by intro i hi; obtain ⟨p, hp, rfl⟩ := List.mem_map.1 hi; exact hf p hp)
    (by intro i hi; obtain ⟨p, hp, rfl⟩ := List.mem_map.1 hi; exact h31 p hp) hs31
    (by simpa using hstart) (by simpa using hlen)
    (by intro h i hi; obtain ⟨p, hp, rfl⟩ := List.mem_map.1 hi; exact hl h p hp)
  rw [meaningFlat_progR_eq, hcanon]

end AsmLayout
end Gmars
