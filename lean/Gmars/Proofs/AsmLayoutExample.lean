/-
  The hypotheses of `asm_print_any_layout` / `both_readers_agree_any_layout` are satisfiable by a
  layout that uses every kind of perturbation: the '94 text

      ";redcode\n\r\n oRg\t1; start\r\n  ; indented\nmOv.I $ 0,$\x0b1\x0c;c\nDAT.F # 3, # 4\r\n\n;end\n"

  (letter case, a tab, VT, FF, a missing gap after the comma, trailing comments, CR-LF, an empty
  CR-LF line, comment lines, an indented comment, a blank line) assembles to
  `MOV.I $0, $1 / DAT.F #3, #4`, start 1, and the load-file reader reads the same; likewise
  without the final newline.
-/
import Gmars.Proofs.AsmLayout

namespace Gmars.AsmLayout.Example
open Gmars.LoadLayout Gmars.AsmCompose

def cfg : Config := Config.quick .icws94 8000 8000 80000 100

def L : Layout :=
  { dir := { pre := [.comment [] "redcode".toList, .blank ['\r']],
             mask := [true, false, true],
             gaps := { d0 := [' '], d1 := ['\t'], d2 := [] },
             trail := { comment := some " start".toList, cr := true } },
    lines := [
      { pre := [.comment [' ', ' '] " indented".toList],
        mask := [true, false, true, false, false],
        gaps := { g0 := [], g1 := [' '], g2 := [' '], g3 := [], g4 := [], g5 := ['\x0b'], g6 := ['\x0c'] },
        trail := { comment := some "c".toList },
        instr := { op := .mov, md := .i, a := 0, am := .direct, b := 1, bm := .direct } },
      { trail := { cr := true },
        instr := { op := .dat, md := .f, a := 3, am := .immediate, b := 4, bm := .immediate } } ],
    post := [.blank [], .comment [] "end".toList] }

theorem L_render :
    L.render false 1 =
      ";redcode\n\r\n oRg\t1; start\r\n  ; indented\nmOv.I $ 0,$\x0b1\x0c;c\nDAT.F # 3, # 4\r\n\n;end\n".toList :=
  -- compared as strings: decoding the literal with `toList` is the dear part of evaluating this
  String.toList_ofList.symm.trans (congrArg String.toList (by decide +kernel))

theorem blanks_dec (g : List Char) (h : g.all (fun c => GoStr.isAsciiSpace c && c != '\n') = true) :
    RoundTrip.Blanks g := by
  intro c hc
  have := List.all_eq_true.mp h c hc
  simpa using this

theorem L_ok : L.ok cfg.coreSize (cfg.mode == .icws88) := by
  refine ⟨?_, ⟨blanks_dec _ (by decide), blanks_dec _ (by decide), blanks_dec _ (by decide), by decide⟩,
    ?_, ?_, ?_⟩
  · intro f hf
    simp only [L, List.mem_cons, List.not_mem_nil, or_false] at hf
    rcases hf with rfl | rfl
    · exact ⟨blanks_dec _ (by decide), by decide⟩
    · exact blanks_dec _ (by decide)
  · intro c hc
    simp only [L, Option.some.injEq] at hc
    subst hc; decide
  · intro p hp
    simp only [L, List.mem_cons, List.not_mem_nil, or_false] at hp
    rcases hp with rfl | rfl
    · refine ⟨?_, ?_, ⟨⟨blanks_dec _ (by decide), blanks_dec _ (by decide), blanks_dec _ (by decide),
        blanks_dec _ (by decide), blanks_dec _ (by decide), blanks_dec _ (by decide),
        blanks_dec _ (by decide), by decide, by decide, by decide⟩, by decide, by decide,
        fun h => by cases h⟩⟩
      · intro f hf
        simp only [List.mem_singleton] at hf
        subst hf
        exact ⟨blanks_dec _ (by decide), by decide⟩
      · intro c hc
        simp only [Option.some.injEq] at hc
        subst hc; decide
    · refine ⟨fun f hf => (by cases hf), ?_, ⟨RoundTrip.canonGaps_ok, by decide, by decide, fun h => by cases h⟩⟩
      intro c hc; cases hc
  · intro f hf
    simp only [L, List.mem_cons, List.not_mem_nil, or_false] at hf
    rcases hf with rfl | rfl
    · exact blanks_dec _ (by decide)
    · exact ⟨blanks_dec _ (by decide), by decide⟩

theorem L_plain : AsmPlain L (cfg.mode == .icws88) := by
  refine ⟨?_, ?_, ?_⟩
  · intro f hf
    simp only [L, List.mem_cons, List.not_mem_nil, or_false] at hf
    rcases hf with rfl | rfl
    · show plainCmt _ = true; decide
    · trivial
  · intro p hp f hf
    simp only [L, List.mem_cons, List.not_mem_nil, or_false] at hp
    rcases hp with rfl | rfl
    · simp only [List.mem_singleton] at hf
      subst hf
      show plainCmt _ = true; decide
    · cases hf
  · intro _ f hf
    simp only [L, List.mem_cons, List.not_mem_nil, or_false] at hf
    rcases hf with rfl | rfl
    · trivial
    · show plainCmt _ = true; decide

theorem example_agree :
    ∃ (w a : WarriorData),
      parseLoadFile cfg (L.render false 1) = .ok (some w) ∧
      assemble cfg (String.ofList (L.render false 1)).toUTF8.data.toList = .ok a ∧
      w.code = a.code ∧ w.start = a.start ∧ a.code = (L.lines.map (·.instr)).toArray ∧ a.start = 1 :=
  both_readers_agree_any_layout cfg L 1 L_ok L_plain (by decide) (by decide)
    (by
      intro p hp
      simp only [L, List.mem_cons, List.not_mem_nil, or_false] at hp
      rcases hp with rfl | rfl <;> decide)
    (by decide) (by decide) (by decide) _ (decodeRunes_toUTF8 _)

def L' : Layout := { L with finalNewline := false }

theorem L'_render :
    L'.render false 1 =
      ";redcode\n\r\n oRg\t1; start\r\n  ; indented\nmOv.I $ 0,$\x0b1\x0c;c\nDAT.F # 3, # 4\r\n\n;end".toList :=
  String.toList_ofList.symm.trans (congrArg String.toList (by decide +kernel))

theorem example_agree' :
    ∃ (w a : WarriorData),
      parseLoadFile cfg (L'.render false 1) = .ok (some w) ∧
      assemble cfg (String.ofList (L'.render false 1)).toUTF8.data.toList = .ok a ∧
      w.code = a.code ∧ w.start = a.start ∧ a.code = (L.lines.map (·.instr)).toArray ∧ a.start = 1 :=
  both_readers_agree_any_layout cfg L' 1 ⟨L_ok.dirPre, L_ok.dirGaps, L_ok.dirTrail, L_ok.lines, L_ok.post⟩
    ⟨L_plain.dirPre, L_plain.lines, L_plain.post⟩ (by decide) (by decide)
    (by
      intro p hp
      have hp' : p ∈ L.lines := hp
      simp only [L, List.mem_cons, List.not_mem_nil, or_false] at hp'
      rcases hp' with rfl | rfl <;> decide)
    (by decide) (by decide) (by decide) _ (decodeRunes_toUTF8 _)

end Gmars.AsmLayout.Example
