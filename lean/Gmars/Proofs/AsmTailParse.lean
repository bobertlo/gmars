/-
  C03 / C06: labels on the END line, parser and pre-scan.

  The last line read is `l1 l2 … kw [toks]` (labels WITHOUT colon in front of `end`).  The parser
  enters the labels into its symbol table like any label, records them in the `labels` field of
  the END source line (`endLineP`: `typ = pseudoOp`, `codeLine = 0`) and stops; the pre-scan of the
  FOR pass loop skips the labels and stops at `end`.
-/
import Gmars.Proofs.AsmComposeEquScan

namespace Gmars
namespace AsmTail
open Gmars.Render Gmars.AsmCompose Gmars.AsmComposeEqu Gmars.ForPass Gmars.Scan

def endLineP (ln : Int) (kw : String) (toks : List Token) (tail : List String) : SourceLine :=
  { endLine ln kw toks with labels := tail }

/-- `lead` blank lines, the items, the END line `tail… kw [toks]` followed, after its newline, by
    `trail` (not empty: at least the EOF token; never read) -/
structure TPProg where
  lead : Nat := 0
  items : List PItem
  tail : List String
  kw : String
  toks : List Token
  trail : List Token := [eofTok]

def TPProg.finTokens (p : TPProg) : List Token :=
  labelToks p.tail ++ (⟨.text, p.kw⟩ : Token) :: (p.toks ++ nlTok :: p.trail)

def TPProg.tokens (p : TPProg) : List Token :=
  List.replicate p.lead nlTok ++ (pitemsTokens p.items ++ p.finTokens)

/-- the names the parser enters into its symbol table: labels, EQU names, END-line labels -/
def TPProg.labels (p : TPProg) : List String := pitemsLabels p.items ++ p.tail

def TPProg.lines (p : TPProg) : List SourceLine :=
  blankLines 1 p.lead ++ (pitemsLines p.items (1 + p.lead) 0 ++
    [endLineP (pitemsEndLine p.items (1 + p.lead)) p.kw p.toks p.tail])

def TPProg.metadata (p : TPProg) : AsmMeta := pitemsMeta p.items {}

def TPProg.refs (p : TPProg) : List String := addRefs p.toks (pitemsRefs p.items [])

structure TPProg.OK (p : TPProg) : Prop where
  items : ∀ it ∈ p.items, it.OK
  tail : ∀ l ∈ p.tail, IsLabelName l
  nodup : p.labels.Nodup
  notPredefined : ∀ l ∈ p.labels, l ∉ predefined
  defined : ∀ x ∈ p.refs, x ∈ p.labels ∨ x ∈ predefined
  kw : lowerStr p.kw = "end"
  toks : ∀ t ∈ p.toks, t.isExpressionTerm = true
  trail : p.trail ≠ []

theorem labelTokens_plain (ls : List String) :
    labelTokens (ls.map (·, false)) = ls.map (fun l => (⟨.text, l⟩ : Token)) := by
  induction ls with
  | nil => rfl
  | cons l ls ih => simp [labelTokens, ih]

theorem parse_tpprog (p : TPProg) (hp : p.OK) :
    parse p.tokens = .ok (some (p.lines, p.metadata)) := by
  obtain ⟨lead, items, tail, kw, toks, trail⟩ := p
  obtain ⟨hfresh, hfreshT⟩ := (FreshLabels_append _ _ _).1
    ((FreshLabels_iff _ _).mpr ⟨hp.nodup, hp.notPredefined⟩)
  have h := lines_pitems items { line := 1 + lead, lines := blankLines 1 lead } hp.items hfresh
  -- the END-line labels as labels without colon
  have hm : (tail.map (·, false)).map (·.1) = tail := by rw [List.map_map]; exact List.map_id' tail
  have hT : FreshLabels ((tail.map (·, false)).map (·.1)) ((pitemsLabels items).reverse ++ predefined) :=
    hm.symm ▸ hfreshT
  have := parse_of_lines lead h (final_end ⟨tail.map (·, false), kw, toks, none⟩
    ⟨by rw [List.forall_mem_map]; exact hp.tail, isPseudoOp_of_lower hp.kw (.inr rfl), hp.toks⟩ hp.kw nofun
    trail hp.trail _ hT)
    fun x hx => by
      simp only [PLine.after, PLine.names, hm] at hx ⊢
      rcases hp.defined x hx with h | h
      · rcases List.mem_append.mp h with h | h
        · exact List.mem_append_right _ (List.mem_append_left _ (List.mem_reverse.mpr h))
        · exact List.mem_append_left _ (List.mem_reverse.mpr h)
      · exact List.mem_append_right _ (List.mem_append_right _ h)
  simp only [PLine.after, PLine.entry, PLine.names, PLine.tokens, AsmLayout.cmtToks, List.nil_append,
    Option.getD_none] at this
  rwa [hm, labelTokens_plain, List.append_assoc] at this

theorem isLabelTok_labelToks (tail : List String) (hl : ∀ l ∈ tail, IsLabelName l) :
    ∀ x ∈ labelToks tail, isLabelTok x = true := by
  intro x hx
  simp only [labelToks, List.mem_map] at hx
  obtain ⟨l, hlm, rfl⟩ := hx
  exact isLabelTok_of_name (hl l hlm)

theorem scan_tpprog (p : TPProg) (hp : p.OK) :
    scanInput p.tokens = .ok (some (pitemsEqus p.items, false)) := by
  have hnd : ((pitemsEqus p.items).map (·.1)).Nodup :=
    (pitemsEqus_sublist p.items).nodup (nodup_left hp.nodup)
  have hfinal : runScan p.finTokens (pitemsEqus p.items) = stop (pitemsEqus p.items) := by
    unfold TPProg.finTokens
    exact runScan_endLine (labelToks p.tail) (⟨.text, p.kw⟩ : Token) _ _
      (isLabelTok_labelToks p.tail hp.tail) rfl hp.kw
  have hrun : runScan p.tokens [] = stop (pitemsEqus p.items) := by
    unfold TPProg.tokens
    rw [runScan_nls, runScan_pitems _ p.items [] hp.items (by simpa using hnd), List.nil_append, hfinal]
  rw [scanInput_ne_nil (by simp [TPProg.tokens, TPProg.finTokens]), hrun]
  rfl

theorem assemble_stages_tpprog (cfg : Config) (src : List UInt8) (p : TPProg) (hp : p.OK)
    (hsrc : lexBytes src = p.tokens) :
    assemble cfg src = parseCompile cfg p.tokens :=
  assemble_of_forLoop cfg src <| hsrc ▸ forLoop_done 13 0 p.tokens _ (scan_tpprog p hp)

end AsmTail
end Gmars
