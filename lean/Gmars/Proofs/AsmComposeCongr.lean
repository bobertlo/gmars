/-
  What the compiler stage reads of the parser's source lines.

  `compile()` looks at instruction lines and pseudo-op lines (fields `typ, codeLine, labels, op,
  amode, a, bmode, b`) and at comment lines that start with ";assert" (field `comment`). It does
  not read `line` and `newlines`, and it skips empty-line entries and all other comment lines.
  Its three loops (`loadSymbols`, `evaluateAssertions`, `assembleLines`) are walked once, for any
  `g : SourceLine → Option SourceLine` that drops only lines the compiler skips and replaces a line
  only by one that reads the same (`SameCode`, `compileX_filterMap`). The instances: `norm` (the
  `core` of the `relevant` lines: equal `norm`s, equal results), `strip` (the trailing comment of
  an instruction or pseudo-op line) and, after `loadSymbols`, `unl` (the labels).
-/
import Gmars.Proofs.CompileWF

namespace Gmars
namespace AsmCompose
open Compile

def core (l : SourceLine) : SourceLine := { l with line := 0, newlines := 0 }

def relevant (l : SourceLine) : Bool :=
  l.typ == .instruction || l.typ == .pseudoOp ||
    (l.typ == .comment && assertPrefix.isPrefixOf l.comment.toList)

def norm (lines : List SourceLine) : List SourceLine := (lines.filter relevant).map core

theorem loadSymbolsLine_core (st : Compiler × Int) (l : SourceLine) :
    loadSymbolsLine st (core l) = loadSymbolsLine st l := rfl

def assertOf (l : SourceLine) : Option String :=
  if l.typ == .comment && assertPrefix.isPrefixOf l.comment.toList then
    some (String.ofList (l.comment.toList.drop 7))
  else none

theorem evaluateAssertions_step (lexTokens : String → List Token) (c : Compiler) (l : SourceLine)
    (r : List SourceLine) :
    evaluateAssertions lexTokens c (l :: r) =
      ((assertOf l).elim (.ok ()) (evaluateAssertion lexTokens c)) >>= fun _ =>
        evaluateAssertions lexTokens c r := by
  rw [evaluateAssertions_cons]; unfold assertOf; split <;> rfl

theorem assembleLines_cons (c : Compiler) (l : SourceLine) (r : List SourceLine)
    (acc : Array Instr) :
    assembleLines c (l :: r) acc =
      if l.typ != .instruction then assembleLines c r acc
      else assembleLine c l >>= fun i => assembleLines c r (acc.push i) := rfl

/-- `l'` can stand for `l` in the two loops that run after `loadSymbols` -/
structure SameCode (l l' : SourceLine) : Prop where
  typ : l'.typ = l.typ
  asm : ∀ c, assembleLine c l' = assembleLine c l
  cmt : assertOf l' = assertOf l

section
variable {g : SourceLine → Option SourceLine} (hn : ∀ l, g l = none → relevant l = false)
include hn

theorem foldl_loadSymbolsLine_filterMap
    (hs : ∀ l l', g l = some l' → ∀ st, loadSymbolsLine st l' = loadSymbolsLine st l)
    (lines : List SourceLine) (st : Compiler × Int) :
    (lines.filterMap g).foldl loadSymbolsLine st = lines.foldl loadSymbolsLine st := by
  induction lines generalizing st with
  | nil => rfl
  | cons l r ih =>
    rw [List.filterMap_cons, List.foldl_cons]
    cases h : g l with
    | some l' => rw [List.foldl_cons, hs l l' h, ih]
    | none =>
      have hr := hn l h
      simp only [relevant, Bool.or_eq_false_iff, beq_eq_false_iff_ne, ne_eq] at hr
      have : loadSymbolsLine st l = st := by
        unfold loadSymbolsLine; simp [hr.1.1, hr.1.2]
      rw [ih, this]

variable (hs : ∀ l l', g l = some l' → SameCode l l')
include hs

theorem evaluateAssertions_filterMap (lexTokens : String → List Token) (c : Compiler)
    (lines : List SourceLine) :
    evaluateAssertions lexTokens c (lines.filterMap g) = evaluateAssertions lexTokens c lines := by
  induction lines with
  | nil => rfl
  | cons l r ih =>
    rw [List.filterMap_cons, evaluateAssertions_step]
    cases h : g l with
    | some l' => rw [evaluateAssertions_step, ih, (hs l l' h).cmt]
    | none =>
      have hr := hn l h
      simp only [relevant, Bool.or_eq_false_iff] at hr
      rw [ih, assertOf, hr.2]
      rfl

theorem assembleLines_filterMap (c : Compiler) (lines : List SourceLine) (acc : Array Instr) :
    assembleLines c (lines.filterMap g) acc = assembleLines c lines acc := by
  induction lines generalizing acc with
  | nil => rfl
  | cons l r ih =>
    rw [List.filterMap_cons, assembleLines_cons]
    cases h : g l with
    | some l' =>
      obtain ⟨ht, ha, -⟩ := hs l l' h
      simp only [assembleLines_cons, ht, ha, ih]
    | none =>
      have hr := hn l h
      simp only [relevant, Bool.or_eq_false_iff, beq_eq_false_iff_ne, ne_eq] at hr
      rw [if_pos (by simpa using hr.1.1)]
      exact ih acc

theorem compileFrom_filterMap (lexTokens : String → List Token) (cfg : Config) (ameta : AsmMeta)
    (c : Compiler) (lines : List SourceLine) :
    compileFrom lexTokens cfg ameta c (lines.filterMap g) =
      compileFrom lexTokens cfg ameta c lines := by
  unfold compileFrom
  simp only [evaluateAssertions_filterMap hn hs, assembleLines_filterMap hn hs]

theorem compileX_filterMap
    (hsym : ∀ l l', g l = some l' → ∀ st, loadSymbolsLine st l' = loadSymbolsLine st l)
    (lexTokens : String → List Token) (cfg : Config) (lines : List SourceLine) (ameta : AsmMeta) :
    compileX lexTokens cfg (lines.filterMap g) ameta = compileX lexTokens cfg lines ameta := by
  have hsym : symC cfg (lines.filterMap g) = symC cfg lines := by
    unfold symC loadSymbols
    simp only [foldl_loadSymbolsLine_filterMap hn hsym]
  rw [compileX_eq, compileX_eq]
  simp only [resC, hsym, evaluateAssertions_filterMap hn hs, assembleLines_filterMap hn hs]

end

theorem compileX_norm (lexTokens : String → List Token) (cfg : Config) (lines : List SourceLine)
    (ameta : AsmMeta) :
    compileX lexTokens cfg (norm lines) ameta = compileX lexTokens cfg lines ameta := by
  have e : norm lines = lines.filterMap fun l => if relevant l then some (core l) else none := by
    unfold norm
    rw [← List.filterMap_eq_map, List.filterMap_filter]
    rfl
  rw [e]
  refine compileX_filterMap (fun l h => ?_) (fun l l' h => ?_) (fun l l' h => ?_) ..
  all_goals split at h <;> cases h
  · exact Bool.eq_false_iff.2 ‹_›
  · exact ⟨rfl, fun _ => rfl, rfl⟩
  · exact fun _ => rfl

theorem compileX_congr (lexTokens : String → List Token) (cfg : Config) (l₁ l₂ : List SourceLine)
    (ameta : AsmMeta) (h : norm l₁ = norm l₂) :
    compileX lexTokens cfg l₁ ameta = compileX lexTokens cfg l₂ ameta := by
  rw [← compileX_norm, h, compileX_norm]

theorem compile_congr (lexTokens : String → List Token) (cfg : Config) (l₁ l₂ : List SourceLine)
    (ameta : AsmMeta) (h : norm l₁ = norm l₂) :
    compile lexTokens cfg l₁ ameta = compile lexTokens cfg l₂ ameta := by
  unfold compile; rw [compileX_congr lexTokens cfg l₁ l₂ ameta h]

theorem compileUnmodelled_congr (lexTokens : String → List Token) (cfg : Config)
    (l₁ l₂ : List SourceLine) (ameta : AsmMeta) (h : norm l₁ = norm l₂) :
    compileUnmodelled lexTokens cfg l₁ ameta = compileUnmodelled lexTokens cfg l₂ ameta := by
  unfold compileUnmodelled; rw [compileX_congr lexTokens cfg l₁ l₂ ameta h]

theorem norm_append (a b : List SourceLine) : norm (a ++ b) = norm a ++ norm b := by
  simp [norm]

theorem norm_nil : norm [] = [] := rfl

theorem norm_cons_relevant (l : SourceLine) (r : List SourceLine) (h : relevant l = true) :
    norm (l :: r) = core l :: norm r := by
  simp [norm, h]

theorem norm_cons_irrelevant (l : SourceLine) (r : List SourceLine) (h : relevant l = false) :
    norm (l :: r) = norm r := by
  simp [norm, h]

end AsmCompose

namespace AsmLayout
open Compile AsmCompose

def strip (l : SourceLine) : SourceLine := if l.typ == .comment then l else { l with comment := "" }

theorem compileX_strip (lexTokens : String → List Token) (cfg : Config) (lines : List SourceLine)
    (ameta : AsmMeta) :
    compileX lexTokens cfg (lines.map strip) ameta = compileX lexTokens cfg lines ameta := by
  rw [← List.filterMap_eq_map]
  refine compileX_filterMap (g := some ∘ strip) (fun l h => nomatch h) (fun l l' h => ?_)
    (fun l l' h => ?_) ..
  all_goals cases h; unfold strip; split
  · exact ⟨rfl, fun _ => rfl, rfl⟩
  · exact ⟨rfl, fun _ => rfl, by simp [assertOf, *]⟩
  all_goals exact fun _ => rfl

theorem compileX_congr_strip (lexTokens : String → List Token) (cfg : Config)
    (l₁ l₂ : List SourceLine) (ameta : AsmMeta) (h : norm (l₁.map strip) = norm l₂) :
    compileX lexTokens cfg l₁ ameta = compileX lexTokens cfg l₂ ameta := by
  rw [← compileX_strip, compileX_congr lexTokens cfg _ l₂ ameta h]

end AsmLayout

namespace AsmLine
open Compile AsmCompose

def unl (l : SourceLine) : SourceLine := { l with labels := [] }

theorem compileFrom_unl (lexTokens : String → List Token) (cfg : Config) (ameta : AsmMeta)
    (c : Compiler) (l₁ l₂ : List SourceLine) (h : l₁.map unl = l₂.map unl) :
    compileFrom lexTokens cfg ameta c l₁ = compileFrom lexTokens cfg ameta c l₂ := by
  have key : ∀ l, compileFrom lexTokens cfg ameta c (l.map unl) =
      compileFrom lexTokens cfg ameta c l := fun l => by
    rw [← List.filterMap_eq_map]
    exact compileFrom_filterMap (g := some ∘ unl) (fun l h => nomatch h)
      (fun l l' h => by cases h; exact ⟨rfl, fun _ => rfl, rfl⟩) ..
  rw [← key l₁, h, key]

end AsmLine
end Gmars
