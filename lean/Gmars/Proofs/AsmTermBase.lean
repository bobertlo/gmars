/-
  C05, shared part: token streams that end with exactly one terminating token (tokEOF / tokError).

  `termB cur rest` says `Terminated (cur :: rest)` as a Bool that computes by recursion on `rest`: the
  shape in which the state machines of symbol scanner, FOR expander and parser hold their input
  (look-ahead + unread tokens). It is the lexer's `endsOnce` on the whole list (`endsOnce_cons`).
-/
import Gmars.Model.Lex
import Gmars.Model.ForExpand

namespace Gmars

def Terminated (ts : List Token) : Prop :=
  ∃ pre t, ts = pre ++ [t] ∧ t.isTerm = true ∧ ∀ x ∈ pre, x.isTerm = false

theorem isTerminator_eq_isTerm (t : Token) : Lex.isTerminator t = t.isTerm := rfl

def termB : Token → List Token → Bool
  | t, [] => t.isTerm
  | t, u :: r => !t.isTerm && termB u r

@[simp] theorem termB_nil (t : Token) : termB t [] = t.isTerm := rfl
@[simp] theorem termB_cons (t u : Token) (r : List Token) :
    termB t (u :: r) = (!t.isTerm && termB u r) := rfl

theorem endsOnce_cons (t : Token) (r : List Token) : Lex.endsOnce (t :: r) = termB t r := by
  induction r generalizing t with
  | nil => rfl
  | cons u r ih => rw [termB_cons, ← ih]; rfl

theorem terminated_of_endsOnce {l : List Token} (h : Lex.endsOnce l = true) : Terminated l :=
  Lex.endsOnce_split h

theorem endsOnce_of_terminated {l : List Token} (h : Terminated l) : Lex.endsOnce l = true := by
  obtain ⟨pre, t, rfl, ht, hp⟩ := h
  exact Lex.endsOnce_append (List.all_eq_true.2 fun x hx => by rw [isTerminator_eq_isTerm, hp x hx]; rfl)
    (Lex.endsOnce_single ht)

theorem termB_of_terminated {t : Token} {r : List Token} (h : Terminated (t :: r)) : termB t r = true :=
  endsOnce_cons t r ▸ endsOnce_of_terminated h

theorem terminated_of_termB {t : Token} {r : List Token} (h : termB t r = true) : Terminated (t :: r) :=
  terminated_of_endsOnce (endsOnce_cons t r ▸ h)

theorem terminated_cons_iff {t : Token} {r : List Token} : Terminated (t :: r) ↔ termB t r = true :=
  ⟨termB_of_terminated, terminated_of_termB⟩

theorem Terminated.ne_nil {ts : List Token} (h : Terminated ts) : ts ≠ [] := by
  obtain ⟨pre, t, rfl, _, _⟩ := h
  simp

theorem Terminated.cases {ts : List Token} (h : Terminated ts) :
    ∃ t r, ts = t :: r ∧ termB t r = true := by
  cases ts with
  | nil => exact absurd rfl h.ne_nil
  | cons t r => exact ⟨t, r, rfl, termB_of_terminated h⟩

theorem termB_live {t : Token} {rest : List Token} (h : termB t rest = true) (ht : t.isTerm = false) :
    ∃ u r, rest = u :: r ∧ termB u r = true := by
  cases rest with
  | nil => simp [ht] at h
  | cons u r => exact ⟨u, r, rfl, by simpa [ht] using h⟩

theorem termB_last {t : Token} {rest : List Token} (h : termB t rest = true) (ht : t.isTerm = true) :
    rest = [] := by
  cases rest with
  | nil => rfl
  | cons u r => simp [ht] at h

theorem isTerm_iff (t : Token) : t.isTerm = true ↔ (t.typ = .eof ∨ t.typ = .error) := by
  simp [Token.isTerm]

theorem isTerm_false_iff (t : Token) : t.isTerm = false ↔ (t.typ ≠ .eof ∧ t.typ ≠ .error) := by
  simp [Token.isTerm]

theorem lexTokens_terminated (input : List Char) : Terminated (Lex.tokens input) := by
  rw [Lex.tokens_eq_sends]; exact Lex.sends_shape input

/-- for every byte string (invalid UTF-8, NUL, ^Z, ... included) `LexInput` returns a token list
    that ends with its only tokEOF / tokError token -/
theorem lexBytes_terminated (src : List UInt8) : Terminated (lexBytes src) :=
  lexTokens_terminated (decodeRunes src)

namespace AsmCompose

def TextIn (P : String → Prop) (ts : List Token) : Prop := ∀ t ∈ ts, t.typ = .text → P t.val

theorem TextIn.append {P : String → Prop} {a b : List Token} (ha : TextIn P a) (hb : TextIn P b) :
    TextIn P (a ++ b) := by
  intro t ht
  rcases List.mem_append.mp ht with h | h
  · exact ha t h
  · exact hb t h

theorem TextIn.nil {P : String → Prop} : TextIn P [] := by intro t ht; cases ht

end AsmCompose

end Gmars
